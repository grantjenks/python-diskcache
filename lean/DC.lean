-- model, specifications, driver
import DC.Model.Cache
import DC.Model.Check
import DC.Model.Conc
import DC.Model.DSpec
import DC.Model.Disk
import DC.Model.DjSpec
import DC.Model.Layers
import DC.Model.Memo
import DC.Model.MemoStampede
import DC.Model.OSpec
import DC.Model.QSpec
import DC.Model.Recipes
import DC.Model.RecipesQ
import DC.Model.Run
import DC.Model.Spec
import DC.Model.Value
import DC.Driver
import DC.Proofs.Defs
-- the table and its statements
import DC.Proofs.Paging
import DC.Proofs.Keys
import DC.Proofs.Expiry
import DC.Proofs.Cull
import DC.Proofs.Inv
import DC.Proofs.Queue
import DC.Properties.C02
import DC.Properties.C03_Paging
import DC.Properties.C04
import DC.Properties.C09
import DC.Properties.C10
-- invariants of one cache
import DC.Proofs.Files
import DC.Proofs.Block
import DC.Proofs.BlockInv
import DC.Proofs.BlockOps
import DC.Proofs.CheckObserve
import DC.Proofs.DirLemmas
import DC.Properties.C03_Inv
import DC.Properties.C08_Seq
import DC.Properties.C01
import DC.Properties.C06
import DC.Properties.C08_Check
import DC.Properties.C08_Blocks
import DC.Properties.C18
-- refinement to the dictionary
import DC.Proofs.RefineLemmas
import DC.Proofs.RefineOps
import DC.Proofs.RefineWrite
import DC.Proofs.RefineIncr
import DC.Proofs.RefineDel
import DC.Proofs.RefineBulk
import DC.Proofs.RefineCfg
import DC.Proofs.LossyDefs
import DC.Proofs.LossyCull
import DC.Proofs.LossyLemmas
import DC.Proofs.LossyOps
import DC.Proofs.LossyCullOp
import DC.Properties.C03_Refine
import DC.Properties.C03_Lossy
-- Index
import DC.Proofs.LayerLemmas
import DC.Proofs.IndexLemmas
import DC.Proofs.IRefineLemmas
import DC.Proofs.IRefineOps
import DC.Proofs.IRefineBlock
import DC.Proofs.IRefineSetdefault
import DC.Proofs.IRefineViews
import DC.Properties.C12
import DC.Properties.C12_Map
import DC.Properties.C12_Refine
import DC.Properties.C12_Views
import DC.Properties.C12_Needs
-- Deque
import DC.Proofs.DequeLemmas
import DC.Proofs.SeqLemmas
import DC.Proofs.DRefineBlock
import DC.Proofs.DRefineLemmas
import DC.Proofs.DRefineIndex
import DC.Proofs.DRefineRotate
import DC.Properties.C11
import DC.Properties.C11_Seq
import DC.Properties.C11_RefineBase
import DC.Properties.C11_RefineExtend
import DC.Properties.C11_RefineIndex
import DC.Properties.C11_RefineSearch
import DC.Properties.C11_RefineOrder
import DC.Properties.C11_RefineMaxlen
import DC.Properties.C11_RefineRestore
import DC.Properties.C11_Refine
import DC.Properties.C11_RefineUnbounded
-- FanoutCache and DjangoCache
import DC.Proofs.FRefineLemmas
import DC.Proofs.FLossyDefs
import DC.Proofs.FLossyKeyed
import DC.Proofs.FLossyDjango
import DC.Properties.C13
import DC.Properties.C13_Agg
import DC.Properties.C13_Refine
import DC.Properties.C13_Lossy
import DC.Properties.C19
import DC.Properties.C19_Refine
import DC.Properties.C19_Lossy
-- queues as histories
import DC.Proofs.QRefineDefs
import DC.Proofs.QLooseDefs
import DC.Proofs.QSpecLemmas
import DC.Proofs.QRefineLemmas
import DC.Proofs.QRefinePull
import DC.Proofs.QRefinePush
import DC.Proofs.QRefineFrame
import DC.Proofs.QRefineKeyed
import DC.Properties.C10_Refine
import DC.Properties.C10_History
import DC.Properties.C10_Loose
import DC.Properties.C10_LooseRefine
import DC.Properties.C10_LooseNeeds
-- check
import DC.Proofs.CheckLemmas
import DC.Properties.C17
import DC.Properties.C17_Top
-- concurrency
import DC.Proofs.ConcLemmas
import DC.Properties.C05
-- recipes and memoize
import DC.Proofs.RecipeLemmas
import DC.Proofs.RecipeRational
import DC.Proofs.MemoLemmas
import DC.Proofs.StampedeLemmas
import DC.Properties.C15
import DC.Properties.C20_Rational
import DC.Properties.C20
import DC.Properties.C16
import DC.Properties.C16_Stampede
