/-
C03 (bulk removal and iteration reach every row): the paging loops of
`clear`, `evict`, `__iter__`, `__reversed__` are exact for EVERY table size and
EVERY page size ≥ 1 — not only for the 100-row page the tests cross once.
-/
import DC.Proofs.Paging

namespace DC.Cache

private theorem clear_spec (s : Cache) :
    (s.clear).1 = (pageLoop (fun _ => true) "pageRowid" (s.rows.length + 1) s 0 0).1 ∧
    (s.clear).2 = .int ((pageLoop (fun _ => true) "pageRowid" (s.rows.length + 1) s 0 0).2 : Nat) := by
  unfold clear
  rw [clearLoop_eq]
  exact ⟨rfl, rfl⟩

/-- `clear()` empties the table and returns the number of rows, whatever the
table size and page size. -/
theorem clear_all (s : Cache) (hasc : RowidsAsc s.rows) (hpos : ∀ r ∈ s.rows, 0 < r.rowid)
    (hp : 0 < s.cfg.page) :
    (s.clear).1.rows = [] ∧ (s.clear).2 = .int s.rows.length := by
  obtain ⟨e1, e2⟩ := clear_spec s
  have h := pageLoop_spec (fun _ => true) "pageRowid" (s.rows.length + 1) s 0 0 hasc
    (fun r hr _ => hpos r hr) hp (by rw [filter_true']; omega)
  rw [e1, e2, h.1, h.2.1, filter_true']
  simp

/-- `clear()` keeps the counters exact. -/
theorem clear_counters (s : Cache) (hasc : RowidsAsc s.rows) (hpos : ∀ r ∈ s.rows, 0 < r.rowid)
    (hp : 0 < s.cfg.page) :
    (s.clear).1.count = s.count - s.rows.length ∧ (s.clear).1.size = s.size - sumSizes s.rows := by
  obtain ⟨e1, _⟩ := clear_spec s
  have h := pageLoop_spec (fun _ => true) "pageRowid" (s.rows.length + 1) s 0 0 hasc
    (fun r hr _ => hpos r hr) hp (by rw [filter_true']; omega)
  rw [e1, h.2.2.1, h.2.2.2.1, filter_true']
  exact ⟨rfl, rfl⟩

/-- outside a transaction block `clear()` removes every file a row referred to -/
theorem clear_files (s : Cache) (hasc : RowidsAsc s.rows) (hpos : ∀ r ∈ s.rows, 0 < r.rowid)
    (hp : 0 < s.cfg.page) (hd : s.depth = 0) :
    ∀ r ∈ s.rows, ∀ f, r.file = some f → (s.clear).1.fileGet f = none := by
  intro r hr f hf
  obtain ⟨e1, _⟩ := clear_spec s
  obtain ⟨-, -, -, -, -, h⟩ := pageLoop_spec (fun _ => true) "pageRowid" (s.rows.length + 1) s 0 0 hasc
    (fun r hr _ => hpos r hr) hp (by rw [filter_true']; omega)
  rw [e1]
  exact h hd f (Or.inl ⟨r, hr, rfl, hf⟩)

/-- `evict(tag)` removes exactly the rows carrying the tag and returns their number. -/
theorem evict_exact (s : Cache) (tag : SqlVal) (hasc : RowidsAsc s.rows)
    (hpos : ∀ r ∈ s.rows, 0 < r.rowid) (hp : 0 < s.cfg.page) :
    (s.evict tag).1.rows = s.rows.filter (fun r => !(r.tag.eqv tag)) ∧
    (s.evict tag).2 = .int (s.rows.filter (fun r => r.tag.eqv tag)).length := by
  have hlen : (s.rows.filter (fun r => r.tag.eqv tag)).length ≤ s.rows.length :=
    List.length_filter_le _ _
  have h := pageLoop_spec (fun r => r.tag.eqv tag) "pageTag" (s.rows.length + 1) s 0 0 hasc
    (fun r hr _ => hpos r hr) hp (by omega)
  unfold evict
  rw [evictLoop_eq]
  refine ⟨h.1, ?_⟩
  show Out.int ((pageLoop (fun r => r.tag.eqv tag) "pageTag" (s.rows.length + 1) s 0 0).2 : Nat) = _
  rw [h.2.1]
  simp

/-- `evict(None)` removes nothing: SQL `tag = NULL` is never true. -/
theorem evict_null (s : Cache) (hasc : RowidsAsc s.rows) (hpos : ∀ r ∈ s.rows, 0 < r.rowid)
    (hp : 0 < s.cfg.page) : (s.evict .null).1.rows = s.rows := by
  rw [(evict_exact s .null hasc hpos hp).1, List.filter_eq_self]
  intro r _
  have : r.tag.eqv .null = false := by
    cases r.tag <;> rfl
  simp [this]

theorem iter_list (s : Cache) (E : Externals) (asc : Bool) (hasc : RowidsAsc s.rows)
    (hpos : ∀ r ∈ s.rows, 0 < r.rowid) (hp : 0 < s.cfg.page) :
    (s.iter E asc).2 = .list ((if asc then s.rows else s.rows.reverse).map
      (fun r => keyOut E s.cfg.disk r.key r.raw)) := by
  unfold iter
  by_cases he : s.rows.isEmpty
  · have : s.rows = [] := List.isEmpty_iff.mp he
    simp [this]
  · simp only [logSql_rows, he, Bool.false_eq_true, if_false]
    have hk := iterLoop_keep asc (maxRowid s.rows + 1) (s.rows.length + 1) (s.logSql "maxRowid")
      (if asc then 0 else maxRowid s.rows + 1) []
    have h := iterLoop_all asc (s.logSql "maxRowid") hasc hpos hp
    simp only [logSql_rows] at h
    show Out.list (List.map (fun r => keyOut E
      (iterLoop asc (maxRowid s.rows + 1) (s.rows.length + 1) (s.logSql "maxRowid")
        (if asc then 0 else maxRowid s.rows + 1) []).1.cfg.disk r.key r.raw)
      (iterLoop asc (maxRowid s.rows + 1) (s.rows.length + 1) (s.logSql "maxRowid")
        (if asc then 0 else maxRowid s.rows + 1) []).2) = _
    rw [h, hk.2.2]
    rfl

/-- `__iter__` yields every key exactly once, in insertion (rowid) order. -/
theorem iter_all (s : Cache) (E : Externals) (hasc : RowidsAsc s.rows)
    (hpos : ∀ r ∈ s.rows, 0 < r.rowid) (hp : 0 < s.cfg.page) :
    (s.iter E true).2 = .list (s.rows.map (fun r => keyOut E s.cfg.disk r.key r.raw)) :=
  iter_list s E true hasc hpos hp

/-- `__reversed__` yields every key exactly once, in reverse insertion order. -/
theorem riter_all (s : Cache) (E : Externals) (hasc : RowidsAsc s.rows)
    (hpos : ∀ r ∈ s.rows, 0 < r.rowid) (hp : 0 < s.cfg.page) :
    (s.iter E false).2 = .list (s.rows.reverse.map (fun r => keyOut E s.cfg.disk r.key r.raw)) :=
  iter_list s E false hasc hpos hp

/-- iteration does not change the table -/
theorem iter_pure (s : Cache) (E : Externals) (asc : Bool) :
    (s.iter E asc).1.rows = s.rows ∧ (s.iter E asc).1.files = s.files := by
  unfold iter
  by_cases he : s.rows.isEmpty
  · simp [he]
  · simp only [logSql_rows, he, Bool.false_eq_true, if_false]
    have hk := iterLoop_keep asc (maxRowid s.rows + 1) (s.rows.length + 1) (s.logSql "maxRowid")
      (if asc then 0 else maxRowid s.rows + 1) []
    exact ⟨hk.1, hk.2.1⟩

def exRow (i : Nat) : Row :=
  { rowid := i, key := .int i, raw := true, storeT := 0, expT := none, accT := 0, accN := 0,
    tag := .null, size := 0, mode := 1, file := none, val := .int 0 }

def exTable : Cache := { rows := [exRow 1, exRow 2, exRow 5], count := 3, cfg := { page := 2 } }

/-- non-vacuity: a three-row table with page size 2 satisfies the hypotheses and is
paged in two rounds -/
example : RowidsAsc exTable.rows ∧ (∀ x ∈ exTable.rows, 0 < x.rowid) ∧ 0 < exTable.cfg.page ∧
    (exTable.clear).1.rows = [] := by
  unfold RowidsAsc; decide

end DC.Cache
