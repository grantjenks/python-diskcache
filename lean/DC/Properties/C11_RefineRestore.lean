/-
C11 (refinement, continued) — when the hypothesis `DSpec.restores` of `rotate` / `reverse` holds:
for a codec whose `loads` inverts `dumps` (`Lawful`), every entry `append` stores is stored again
as it was.
-/
import DC.Properties.C11_RefineOrder

namespace DC.Deque
open DC.Cache DC.Spec DC.DSpec

theorem valueOf_eq (e : Spec.Entry) (E : Externals) (cfg : Cfg) :
    valueOf e E cfg =
      match fetch E cfg.disk e.mode e.content e.content.isSome e.val false with
      | .ioerror => .default
      | f => fetchedOut f := by
  unfold valueOf Entry.out
  cases fetch E cfg.disk e.mode e.content e.content.isSome e.val false <;> rfl

theorem Disk_fetch_place (E : Externals) (hE : Lawful E) (mfs : Nat) (v : PyVal) (p : Placement)
    (h : Disk.place E mfs v false = .ok p) :
    Disk.fetch E (entryOf p none .null).mode (entryOf p none .null).content
      (entryOf p none .null).content.isSome (entryOf p none .null).val false = .val v := by
  rcases drf_Disk_place_cases E mfs v p h with ⟨sv, hc, rfl⟩ | ⟨s, rfl, rfl⟩ | ⟨b, rfl, rfl⟩ | rfl | rfl
  · exact congrArg Fetched.val hc
  · rfl
  · rfl
  · exact congrArg Fetched.val (hE.loads_dumpsV v)
  · exact congrArg Fetched.val (hE.loads_dumpsV v)

theorem fetch_place (E : Externals) (hE : Lawful E) (dk : DiskKind) (mfs : Nat) (v : PyVal) (p : Placement)
    (h : place E dk mfs v false = .ok p) :
    fetch E dk (entryOf p none .null).mode (entryOf p none .null).content
      (entryOf p none .null).content.isSome (entryOf p none .null).val false = .val v := by
  cases dk with
  | pickle => exact Disk_fetch_place E hE mfs v p h
  | json =>
    unfold place at h
    simp only [Bool.false_eq_true, if_false] at h
    unfold fetch
    simp only
    rw [Disk_fetch_place E hE mfs _ p h]
    simp [hE.unjsonz_jsonz]

/-- with a lawful codec, what `append` stores for a value is stored again as it was -/
theorem entryFor_restores (E : Externals) (hE : Lawful E) (cfg : Cfg) (v : PyVal) (e : Spec.Entry)
    (h : entryFor E cfg v = some e) : restores E cfg e = true := by
  rcases entryFor_cases E cfg v with ⟨h0, -⟩ | ⟨p, hpl, -, hef⟩
  · rw [h0] at h; cases h
  · rw [hef] at h
    cases h
    unfold restores
    rw [valueOf_eq, fetch_place E hE cfg.disk cfg.minFileSize v p hpl]
    simp only [fetchedOut]
    exact decide_eq_true hef

end DC.Deque

namespace DC.Deque
open DC.Cache DC.Spec DC.DSpec

theorem spec_append_mem (m : DList) (E : Externals) (cfg : Cfg) (v : PyVal) (left : Bool) :
    ∀ x ∈ (DSpec.append m E cfg v left).1.items, x ∈ m.items ∨ entryFor E cfg v = some x := by
  intro x hx
  cases hef : entryFor E cfg v with
  | none => rw [spec_append_none m E cfg v left hef] at hx; exact .inl hx
  | some e =>
    rw [spec_append_some m E cfg v left e hef] at hx
    have := trimTo_mem hx
    cases left with
    | true =>
      simp only [if_true, List.mem_cons] at this
      rcases this with h | h
      · exact .inr (by rw [h])
      · exact .inl h
    | false =>
      simp only [Bool.false_eq_true, if_false, List.mem_append, List.mem_singleton] at this
      rcases this with h | h
      · exact .inl h
      · exact .inr (by rw [h])

theorem spec_extend_mem (E : Externals) (cfg : Cfg) (left : Bool) : ∀ (vs : List PyVal) (m : DList),
    ∀ x ∈ (DSpec.extend m E cfg vs left).1.items, x ∈ m.items ∨ ∃ v, entryFor E cfg v = some x
  | [], m, x, hx => .inl hx
  | v :: vs, m, x, hx => by
    cases hef : entryFor E cfg v with
    | none => rw [spec_extend_cons_none m E cfg v vs left hef] at hx; exact .inl hx
    | some e =>
      rw [spec_extend_cons_some m E cfg v vs left e hef] at hx
      rcases spec_extend_mem E cfg left vs _ x hx with h | h
      · rcases spec_append_mem m E cfg v left x h with h | h
        · exact .inl h
        · exact .inr ⟨v, h⟩
      · exact .inr h

theorem step_restores (E : Externals) (hE : Lawful E) (cfg : Cfg) (m : DList) (op : DOp)
    (hop : ∀ E', op.codec = some E' → E' = E)
    (hm : ∀ e ∈ m.items, restores E cfg e = true) :
    ∀ e ∈ (DSpec.step m cfg op).1.items, restores E cfg e = true := by
  have happ : ∀ (v : PyVal) (left : Bool), ∀ e ∈ (DSpec.append m E cfg v left).1.items,
      restores E cfg e = true := by
    intro v left e he
    rcases spec_append_mem m E cfg v left e he with h | h
    · exact hm e h
    · exact entryFor_restores E hE cfg v e h
  have hext : ∀ (vs : List PyVal) (left : Bool), ∀ e ∈ (DSpec.extend m E cfg vs left).1.items,
      restores E cfg e = true := by
    intro vs left e he
    rcases spec_extend_mem E cfg left vs m e he with h | ⟨v, h⟩
    · exact hm e h
    · exact entryFor_restores E hE cfg v e h
  have hpop : ∀ (E' : Externals) (left : Bool), ∀ e ∈ (DSpec.pop m E' cfg left).1.items, e ∈ m.items := by
    intro E' left e he
    unfold DSpec.pop at he
    split at he
    · exact he
    · cases left with
      | true => exact List.mem_of_mem_tail he
      | false => exact List.dropLast_subset _ he
  cases op with
  | append E' now v => cases hop E' rfl; exact happ v false
  | appendleft E' now v => cases hop E' rfl; exact happ v true
  | pop E' now => exact fun e he => hm e (hpop E' false e he)
  | popleft E' now => exact fun e he => hm e (hpop E' true e he)
  | peek E' now => show ∀ e ∈ (DSpec.peek m E' cfg false).1.items, _; rw [spec_peek_fst]; exact hm
  | peekleft E' now => show ∀ e ∈ (DSpec.peek m E' cfg true).1.items, _; rw [spec_peek_fst]; exact hm
  | len => exact hm
  | clear => intro e he; cases he
  | getitem E' now i =>
    show ∀ e ∈ (DSpec.getitem m E' cfg i).1.items, _
    rw [spec_getitem_fst]; exact hm
  | iter E' now rev => exact hm
  | extend E' now vs => cases hop E' rfl; exact hext vs false
  | extendleft E' now vs => cases hop E' rfl; exact hext vs true
  | setitem E' now i v =>
    cases hop E' rfl
    show ∀ e ∈ (DSpec.setitem m E cfg i v).1.items, _
    unfold DSpec.setitem
    split
    · exact hm
    · split
      · exact hm
      · rename_i p _ e0 he0
        intro e he
        rcases List.mem_or_eq_of_mem_set he with h | h
        · exact hm e h
        · rw [h]; exact entryFor_restores E hE cfg v e0 he0
  | delitem E' now i =>
    show ∀ e ∈ (DSpec.delitem m i).1.items, _
    unfold DSpec.delitem
    split
    · exact hm
    · exact fun e he => hm e (List.mem_of_mem_eraseIdx he)
  | count E' now v => exact hm
  | remove E' now v =>
    show ∀ e ∈ (DSpec.remove m E' cfg v).1.items, _
    unfold DSpec.remove
    split
    · exact hm
    · exact fun e he => hm e (List.mem_of_mem_eraseIdx he)
  | compare E' now op that =>
    show ∀ e ∈ (DSpec.compare m E' cfg op that).1.items, _
    rw [spec_compare_fst]; exact hm
  | rotate E' now steps =>
    show ∀ e ∈ (DSpec.rotate m steps).1.items, _
    unfold DSpec.rotate
    split
    · exact hm
    · split
      · exact fun e he => hm e (iter_mem rotr rotr_mem _ _ e he)
      · exact fun e he => hm e (iter_mem rotl rotl_mem _ _ e he)
  | reverse E' now => exact fun e he => hm e (List.mem_reverse.1 he)
  | setMaxlen E' now k => exact fun e he => hm e (List.mem_of_mem_drop he)

/-- **one lawful codec**: when every call of the history observes the same codec `E`, and `loads`
inverts `dumps` for it, the hypothesis `DSpec.restorable` of the history theorems holds -/
theorem restorable_lawful (E : Externals) (hE : Lawful E) (cfg : Cfg) : ∀ (ops : List DOp) (m : DList),
    (∀ op ∈ ops, ∀ E', op.codec = some E' → E' = E) → (∀ e ∈ m.items, restores E cfg e = true) →
    DSpec.restorable m cfg ops = true
  | [], _, _, _ => rfl
  | op :: ops, m, hops, hm => by
    show (op.restoreOk m cfg && DSpec.restorable (DSpec.step m cfg op).1 cfg ops) = true
    rw [Bool.and_eq_true]
    refine ⟨?_, restorable_lawful E hE cfg ops _ (fun o ho => hops o (List.mem_cons_of_mem _ ho))
      (step_restores E hE cfg m op (hops op List.mem_cons_self) hm)⟩
    cases op with
    | rotate E' now steps =>
      cases hops _ List.mem_cons_self E' rfl
      exact List.all_eq_true.2 hm
    | reverse E' now =>
      cases hops _ List.mem_cons_self E' rfl
      exact List.all_eq_true.2 hm
    | _ => rfl

end DC.Deque
