/-
C03 / C09 (refinement under an eviction policy) — for EVERY eviction policy the
Cache model refines the *lossy* reference dictionary: the dictionary of
DC/Model/Spec.lean in which, after each call, the environment may drop some
keys (`Spec.dropKeys`).  What the environment may drop is delimited:

 * only the writing calls that run `_cull` (`set`, `add`, the (re)creating branch
   of `incr`) and the explicit `cull()` ever drop anything (`Evicted`);
 * nothing is dropped under policy `none`, with `cull_limit = 0`, or when the volume
   observed after the write is below the size limit (`Loss.polNone`, `Loss.limZero`,
   `Loss.vol`; `evicted_below_limit_simple`: in particular when pages + old size counter +
   size of the new value file are below the limit, via `WriteLoss.size`);
 * at most `cull_limit` keys minus the expired rows the same call removed (`Loss.count`);
 * every dropped key held an *unexpired* entry of the dictionary (`Lossy.was`) and
   precedes every surviving row in the policy's order (`Loss.order`);
 * the item just written CAN be among the dropped keys (`set_evicts_itself_lfu`,
   `set_evicts_itself_lrs_tie`).

The hit/miss statistics and the access-time / access-count columns that `get`
updates under `lru` / `lfu` are not part of the relation `Refines` (it compares
mode, value cell, file content, expiry time and tag only): `get_refines_any`.

Everything is stated for quiescent states (`Good c`), `0 < c.cfg.page` (as in
C03_Refine, for the bulk removals) and non-decreasing clocks.

The theorems for one call (`step_refines_lossy`, `cull_refines_lossy`) and the history
theorem with what its induction carries (`run_refines_lossy_strong`) stand in C03_Refine, in
front of their policy-`none` cases; here: what `Evicted` allows, the history theorem, what
a user sees, examples.
-/
import DC.Properties.C03_Refine

namespace DC.Cache
open DC.Spec

/-! ### what may be dropped, spelled out (C09) -/

def evicts : Op → Bool
  | .set .. | .add .. | .incr .. | .cull .. => true
  | _ => false

theorem evicted_other {c : Cache} {op : Op} {L : List Row} (h : Evicted c op L)
    (hop : evicts op = false) : L = [] := by
  cases op <;> simp only [evicts, Bool.true_eq_false] at hop <;> exact h

/-- with `cull_limit = 0` no write evicts (the explicit `cull()` does not look at `cull_limit`) -/
theorem evicted_cull_zero {c : Cache} {op : Op} {L : List Row} (h : Evicted c op L)
    (h0 : c.cfg.cullLimit = 0) (hop : ∀ now, op ≠ .cull now) : L = [] := by
  rcases evicted_cases h with ⟨_, _, _, hW⟩ | ⟨now, hc, _⟩ | h
  · exact hW.loss.limZero h0
  · exact absurd hc (hop now)
  · exact h

def writeKey (cfg : Cfg) : Op → Option Spec.Key
  | .set E _ k .. | .add E _ k .. | .incr E _ k .. => some (keyOf E cfg k)
  | _ => none

def opWriteSize (cfg : Cfg) : Op → Int
  | .set E _ _ v _ read _ | .add E _ _ v _ read _ => placedSize (place E cfg.disk cfg.minFileSize v read)
  | .incr E _ _ delta dflt => incrWriteSize E cfg delta dflt
  | _ => 0

theorem evicted_write {c : Cache} {op : Op} {L : List Row} (h : Evicted c op L) {K : Spec.Key}
    (hK : writeKey c.cfg op = some K) :
    ∃ now, opClock op = some now ∧ WriteLoss c (c.step op).1 K now (opWriteSize c.cfg op) L := by
  cases op <;> simp only [writeKey, Option.some.injEq] at hK <;> try cases hK
  all_goals exact ⟨_, rfl, h⟩

/-- a write evicts nothing when the volume observed after the write — database pages `pb`
plus the size counter after the write and the removal of expired rows, which is the final size
counter plus the sizes of whatever was evicted — is below the size limit -/
theorem evicted_below_limit {c : Cache} {op : Op} {L : List Row} (h : Evicted c op L) {K : Spec.Key}
    (hK : writeKey c.cfg op = some K) (pb : Nat) (rest : List Nat) (henv : c.env = pb :: rest)
    (hb : belowLimit c.cfg ((pb : Int) + (c.step op).1.size + sumSizes L) = true) : L = [] := by
  obtain ⟨now, -, hl⟩ := evicted_write h hK
  apply Classical.byContradiction
  intro hne
  rw [hl.loss.vol hne pb rest henv] at hb
  cases hb

theorem belowLimit_mono {cfg : Cfg} {a b : Int} (h : belowLimit cfg a = true) (hle : b ≤ a) :
    belowLimit cfg b = true := by
  unfold belowLimit at h ⊢
  simp only [decide_eq_true_eq] at h ⊢
  exact Int.lt_of_le_of_lt (Int.mul_le_mul_of_nonneg_right hle (Int.natCast_nonneg _)) h

/-- in terms of the state before the call only: a write evicts nothing when the observed
database pages plus the size counter before the call plus the size of the value file it writes
are below the size limit -/
theorem evicted_below_limit_simple {c : Cache} {op : Op} {L : List Row} (h : Evicted c op L)
    {K : Spec.Key} (hK : writeKey c.cfg op = some K) (pb : Nat) (rest : List Nat)
    (henv : c.env = pb :: rest)
    (hb : belowLimit c.cfg ((pb : Int) + c.size + opWriteSize c.cfg op) = true) : L = [] := by
  apply Classical.byContradiction
  intro hne
  obtain ⟨now, -, hl⟩ := evicted_write h hK
  have h2 := hl.size hne
  exact hne (evicted_below_limit h hK pb rest henv (belowLimit_mono hb (by omega)))

/-- one write evicts at most `cull_limit` rows — minus the expired rows the same write
removed (`expiredGone`: expired rows of other keys that are gone afterwards) -/
theorem evicted_bound {c : Cache} {op : Op} {L : List Row} (h : Evicted c op L) {K : Spec.Key}
    (hK : writeKey c.cfg op = some K) :
    L.length ≤ c.cfg.cullLimit ∧
    ∃ now, opClock op = some now ∧
      (L ≠ [] → L.length + expiredGone c (c.step op).1 K now ≤ c.cfg.cullLimit) := by
  obtain ⟨now, hnow, hl⟩ := evicted_write h hK
  refine ⟨?_, now, hnow, hl.loss.count⟩
  by_cases hne : L = []
  · rw [hne]; exact Nat.zero_le _
  · have := hl.loss.count hne; omega

/-- eviction follows the policy order: an evicted row never has a larger policy key
(store time / access time / access count) than a surviving row -/
theorem evicted_order {c : Cache} {op : Op} {L : List Row} (h : Evicted c op L) :
    ∀ r ∈ L, ∀ w ∈ (c.step op).1.rows, policyKey c.cfg.policy r ≤ policyKey c.cfg.policy w := by
  rcases evicted_cases h with ⟨_, _, _, hW⟩ | ⟨_, _, hC⟩ | rfl
  · exact hW.loss.order
  · exact hC.order
  · exact fun r hr => absurd hr List.not_mem_nil

theorem runLossy_nil (m : Spec.Dict) (cfg : Cfg) (ops : List Op) :
    Spec.runLossy m cfg ops [] = Spec.run m cfg ops :=
  (runLossy_nils m cfg ops [] (fun _ h => absurd h List.not_mem_nil)).1

theorem outsLossy_nil (m : Spec.Dict) (cfg : Cfg) (ops : List Op) :
    Spec.outsLossy m cfg ops [] = Spec.outs m cfg ops :=
  (runLossy_nils m cfg ops [] (fun _ h => absurd h List.not_mem_nil)).2

/-- **the history theorem for every eviction policy**: for every history of key-addressed calls
with a non-decreasing clock there is a list of evicted rows per call (`EvictedRun`: only where
and what C09 allows) such that every call returns what the reference dictionary returns when
the keys of those rows are dropped after each call, and the final states correspond -/
theorem run_refines_lossy (c : Cache) (m : Spec.Dict) (clock : Int) (ops : List Op)
    (hg : Good c) (hpg : 0 < c.cfg.page)
    (hr : Refines c m clock) (hk : ∀ op ∈ ops, Keyed op = true) (hm : Monotone clock ops) :
    ∃ Ls : List (List Row), EvictedRun c ops Ls ∧
      outs c ops = Spec.outsLossy m c.cfg ops (Ls.map (·.map rowKey)) ∧
      ∃ clock', Refines (c.run ops) (Spec.runLossy m c.cfg ops (Ls.map (·.map rowKey))) clock' := by
  obtain ⟨Ls, h0, h1, h2, -⟩ := run_refines_lossy_strong c m clock ops hg hpg hr hk hm
  exact ⟨Ls, h0, h1, _, h2⟩

/-- **what a user sees, every policy**: after any history of key-addressed calls with a
non-decreasing clock on a fresh cache, `get` returns exactly what `get` on the lossy dictionary
built by that history returns: the value *last stored* under the key (with its expiry time /
tag) if the key was stored and since then neither removed, nor expired at `now`, nor evicted —
never a stale or foreign value —, the default otherwise. -/
theorem get_after_history_lossy (cf : Cfg) (st : Bool) (ops : List Op) (E : Externals) (now : Int)
    (k : PyVal) (read et tg : Bool)
    (hpg : 0 < cf.page)
    (hk : ∀ op ∈ ops, Keyed op = true)
    (hm : Monotone 0 (ops ++ [.get E now k read et tg])) :
    ∃ Ls : List (List Row), EvictedRun ({ cfg := cf, statistics := st } : Cache) ops Ls ∧
      ((({ cfg := cf, statistics := st } : Cache).run ops).get E now k read et tg).2 =
        (Spec.get (Spec.runLossy [] cf ops (Ls.map (·.map rowKey))) E cf now k read et tg).2 := by
  obtain ⟨hm1, hm2⟩ := monotone_append 0 ops _ hm
  obtain ⟨Ls, h0, -, h2, h3, h4⟩ := run_refines_lossy_strong ({ cfg := cf, statistics := st } : Cache)
    [] 0 ops (good_init cf st) hpg (refines_init' cf st 0) hk hm1
  refine ⟨Ls, h0, ?_⟩
  have := (get_refines_any _ _ _ now E k read et tg h3 h2 (hm2 now rfl)).1
  rw [h4] at this
  exact this

theorem get_default_of_absent (m : Spec.Dict) (E : Externals) (cfg : Cfg) (now : Int) (k : PyVal)
    (read et tg : Bool) (h : m.has (keyOf E cfg k) now = false) :
    (Spec.get m E cfg now k read et tg).2 = defaultFlags et tg := by
  unfold Spec.get
  unfold Dict.has at h
  cases hd : m.get (keyOf E cfg k) with
  | none => rfl
  | some e => rw [hd] at h; simp only at h ⊢; rw [h]; rfl

/-- the lossless history theorem `run_refines` is the policy-`none` case of the lossy one
(`run_refines_strong` in C03_Refine): without an eviction policy every drop list is empty
(`evictedRun_policy_none`) and the lossy dictionary is the dictionary (`runLossy_nils`) -/
theorem run_refines_from_lossy (c : Cache) (m : Spec.Dict) (clock : Int) (ops : List Op)
    (hg : Good c) (hp : c.cfg.policy = .none) (hpg : 0 < c.cfg.page)
    (hr : Refines c m clock) (hk : ∀ op ∈ ops, Keyed op = true) (hm : Monotone clock ops) :
    outs c ops = Spec.outs m c.cfg ops ∧
    ∃ clock', Refines (c.run ops) (Spec.run m c.cfg ops) clock' :=
  run_refines c m clock ops hg hp hpg hr hk hm

theorem good_init_env (cf : Cfg) (st : Bool) (env : List Nat) :
    Good ({ cfg := cf, statistics := st, env := env } : Cache) := by
  have g := good_init cf st
  exact ⟨⟨g.tinv.tbl, g.tinv.snap⟩, ⟨g.finv.ref, g.finv.inj, g.finv.fresh, g.finv.nodup⟩,
    g.noOrphan, g.depth, g.snap, g.pending, g.created⟩

theorem refines_init_env (cf : Cfg) (st : Bool) (env : List Nat) (clock : Int) :
    Refines ({ cfg := cf, statistics := st, env := env } : Cache) [] clock :=
  ⟨rf_wf_nil, fun _ => rfl⟩

/-- non-vacuity: a least-frequently-used cache with `cull_limit = 1` and a size limit of 10 bytes;
the database file is observed at 0 bytes by the first write and at 100 bytes by the second.
`a` is stored and read once; then `b` is stored: the cache is over its limit, one row is evicted —
the row with the smallest access count, which is `b` itself. -/
def exEv : Cache := { cfg := { policy := .lfu, cullLimit := 1, limN := 10 }, env := [0, 100] }

def exEvOps : List Op :=
  [ .set toyV 1 (.str [97]) (.int 1) none false .null,
    .get toyV 2 (.str [97]) false false false,
    .set toyV 3 (.str [98]) (.int 2) none false .null,
    .get toyV 4 (.str [98]) false false false,
    .get toyV 4 (.str [97]) false false false ]

example : ∃ Ls : List (List Row), EvictedRun exEv exEvOps Ls ∧
    outs exEv exEvOps = Spec.outsLossy [] exEv.cfg exEvOps (Ls.map (·.map rowKey)) ∧
    ∃ clock', Refines (exEv.run exEvOps) (Spec.runLossy [] exEv.cfg exEvOps (Ls.map (·.map rowKey))) clock' :=
  run_refines_lossy exEv [] 0 exEvOps (good_init_env _ _ _) (by decide) (refines_init_env _ _ _ 0)
    (by decide) (by decide +kernel)

/-- what the cache returns along that history: the second `set` reports success, and the item it
stored is gone at once -/
theorem exEv_outs : outs exEv exEvOps =
    [.bool true, .val (.int 1), .bool true, .default, .val (.int 1)] := by rfl

/-- … which is what the lossy dictionary returns when `b` is dropped after the third call (and
not what the plain dictionary returns: it still holds `b`) -/
example : Spec.outsLossy [] exEv.cfg exEvOps [[], [], [(.text [98], true)], [], []] =
    [.bool true, .val (.int 1), .bool true, .default, .val (.int 1)] := by rfl

example : Spec.outs [] exEv.cfg exEvOps =
    [.bool true, .val (.int 1), .bool true, .val (.int 2), .val (.int 1)] := by rfl

/-- **the just-written item can be the one evicted** — least-frequently-used: a new row
starts with access count 0 (core.py `_row_insert` / `_row_update`), so when the cache is at its
size limit and every other item has been read at least once, `set` evicts the very item it
has just stored (core.py `_cull`: `SELECT … ORDER BY access_count LIMIT ?`) and still returns
`True`. -/
theorem set_evicts_itself_lfu :
    ((exEv.run (exEvOps.take 2)).set toyV 3 (.str [98]) (.int 2) none false .null).2 = .bool true ∧
    ((exEv.run (exEvOps.take 2)).set toyV 3 (.str [98]) (.int 2) none false .null).1.selKey
      (.text [98]) true = none ∧
    (((exEv.run (exEvOps.take 2)).set toyV 3 (.str [98]) (.int 2) none false .null).1.selKey
      (.text [97]) true).isSome = true := ⟨by rfl, by decide +kernel, by decide +kernel⟩

/-- … and least-recently-stored with a tie: `a` and `b` were stored at the same clock value, `a`
is stored again at that clock value while the cache is at its limit: all store times are equal,
the index order (rowid) decides, and `a` — the item just re-written — is evicted -/
def exTie : Cache := { cfg := { policy := .lrs, cullLimit := 1, limN := 10 }, env := [0, 0, 100] }

def exTieOps : List Op :=
  [ .set toyV 5 (.str [97]) (.int 1) none false .null,
    .set toyV 5 (.str [98]) (.int 2) none false .null,
    .set toyV 5 (.str [97]) (.int 3) none false .null,
    .get toyV 6 (.str [97]) false false false,
    .get toyV 6 (.str [98]) false false false ]

theorem set_evicts_itself_lrs_tie : outs exTie exTieOps =
    [.bool true, .bool true, .bool true, .default, .val (.int 2)] := by rfl

end DC.Cache
