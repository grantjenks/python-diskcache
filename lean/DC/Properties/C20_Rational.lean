/-
C20 (second half) for a count that is any positive rational p/q — `DC.Recipes.QBucket`
(DC/Model/RecipesQ.lean: time in ticks of 1/p of the time unit, tally scaled by q·seconds, so
that cap = p·seconds, one token = q·seconds and the delay is a whole number of ticks).

The whole-number model `Bucket` is the special case q = 1 (`qbucket_of_nat`).  For EVERY p, q:
liveness (`qsingle_sleep_suffices`, `qfirst_after_deadline_passes`; n calls under any schedule are all
let through, once each: `qall_calls_pass_once`) and safety (`qwindow_bound_any`:
passes·q·seconds ≤ max(p,q)·seconds + window in ticks).  The cap-before-spend variant (the seeded
defect) agrees with the real attempt for count ≥ 1 and lets nothing through for count < 1
(`capped_eq_of_ge`, `capped_never_passes`); the answers do not depend on the clock resolution
(`qattempt_scale`: den of the driver's `tq`); and what count < 1 really does (`qspacing_of_lt`,
`qsleeper_period_of_lt`, `qwindow_bound_any_lt`).
-/
import DC.Proofs.RecipeRational

namespace DC.Recipes

/-! ### the whole-number model is the case q = 1 -/

theorem qbucket_of_nat_init (count seconds : Nat) (now : Int) :
    QBucket.init count 1 seconds now = QBucket.ofBucket (Bucket.init count seconds now) := rfl

/-- `qbucket_of_nat`: an attempt on the embedded whole-number bucket is the embedding of the
attempt of `Bucket`, with the same answer (pass, or the same delay in the same ticks of
1/count) — no hypothesis at all -/
theorem qbucket_of_nat (b : Bucket) (now : Int) :
    (QBucket.ofBucket b).attempt now = (QBucket.ofBucket (b.attempt now).1, (b.attempt now).2) := by
  simp only [QBucket.attempt, Bucket.attempt, QBucket.ofBucket, QBucket.cap, QBucket.token,
    Int.natCast_one, Int.one_mul, Int.sub_mul]
  split
  · rfl
  · split <;> rfl

theorem qbucket_of_nat_passes (times : List Int) : ∀ (b : Bucket),
    (QBucket.ofBucket b).passes times = b.passes times := by
  induction times with
  | nil => intro b; rfl
  | cons now rest ih =>
    intro b
    rw [QBucket.passes_cons, Bucket.passes_cons, qbucket_of_nat, ih]

theorem qbucket_of_nat_run (times : List Int) : ∀ (b : Bucket),
    (QBucket.ofBucket b).run times = QBucket.ofBucket (times.foldl (fun b t => (b.attempt t).1) b) := by
  induction times with
  | nil => intro b; rfl
  | cons now rest ih =>
    intro b
    rw [QBucket.run_cons, qbucket_of_nat, ih]; rfl

/-- bucket invariant: the stored tally never exceeds count and is never below min(0, count - 1)
tokens (`cap - burst` = min(0, p - q)·seconds: after a pass with count < 1 the real code stores
the NEGATIVE tally count - 1, recipes.py:300) -/
def QBucket.Ok (b : QBucket) : Prop := b.cap - b.burst ≤ b.tally ∧ b.tally ≤ b.cap

instance (b : QBucket) : Decidable b.Ok := by unfold QBucket.Ok; infer_instance

theorem qinit_ok (p q seconds : Nat) (now : Int) : (QBucket.init p q seconds now).Ok := by
  have h0 := Int.le_trans (QBucket.init p q seconds now).cap_nonneg (QBucket.init p q seconds now).cap_le_burst
  exact ⟨Int.sub_le_self _ h0, Int.le_refl _⟩

/-- the invariant is kept by every attempt (at any instant whatever) -/
theorem qattempt_ok (b : QBucket) (now : Int) (h : b.Ok) : (b.attempt now).1.Ok := by
  obtain ⟨h0, h1⟩ := h
  have hcb := b.cap_le_burst
  have htb := b.token_le_burst
  have ht0 := b.token_nonneg
  unfold QBucket.Ok
  rw [b.attempt_burst now, b.attempt_cap now]
  rcases b.attempt_cases now with ⟨ht, he⟩ | ⟨_, _, he⟩ <;> rw [he]
  · dsimp only
    omega
  · exact ⟨h0, h1⟩

/-- time does not run backwards in the stored instant, and the parameters stay -/
theorem qattempt_last (b : QBucket) (now : Int) (hn : b.last ≤ now) :
    b.last ≤ (b.attempt now).1.last ∧ (b.attempt now).1.p = b.p ∧ (b.attempt now).1.q = b.q ∧
    (b.attempt now).1.seconds = b.seconds := by
  refine ⟨?_, b.attempt_params now⟩
  rcases b.attempt_cases now with ⟨_, he⟩ | ⟨_, _, he⟩ <;> rw [he]
  · exact hn
  · exact Int.le_refl _

theorem qrun_ok (times : List Int) : ∀ (b : QBucket), b.Ok → (b.run times).Ok :=
  foldl_inv _ _ (fun b now => qattempt_ok b now) times

/-- a refused attempt leaves the stored state alone (no `cache.set` on that branch) -/
theorem qattempt_refused (b : QBucket) (now d : Int) (hd : (b.attempt now).2 = some d) :
    (b.attempt now).1 = b ∧ d = b.token - (b.tally + (now - b.last)) ∧ 0 < d := by
  rcases b.attempt_cases now with ⟨_, he⟩ | ⟨_, ht2, he⟩ <;> rw [he] at hd ⊢
  · cases hd
  · cases hd
    exact ⟨rfl, rfl, Int.sub_pos.mpr ht2⟩

/-- `qfirst_after_deadline_passes`: whoever attempts FIRST at or after the deadline `now + d` is
let through, however late — so among any number of waiting callers at least one gets through per
delay.  Together with `qattempt_refused` (a refused attempt leaves the state unchanged) this is the
progress argument for "every call is eventually let through": as long as callers are waiting, one
of them passes no later than its first attempt after the earliest deadline. -/
theorem qfirst_after_deadline_passes (b : QBucket) (now d later : Int)
    (hd : (b.attempt now).2 = some d) (hl : now + d ≤ later) :
    ((b.attempt now).1.attempt later).2 = none := by
  obtain ⟨hb, hd', _⟩ := qattempt_refused b now d hd
  rw [hb, QBucket.attempt_none_iff]
  omega

/-- `qsingle_sleep_suffices`: for EVERY p, q, seconds and every state (no invariant needed, count
< 1 included): after sleeping the delay it was told, a caller that nobody overtook is let
through.  (After the sleep the tally is exactly one token; 1 > count passes on the first branch
when count < 1, 1 ≥ 1 on the second when count ≥ 1.) -/
theorem qsingle_sleep_suffices (b : QBucket) (now d : Int) (hd : (b.attempt now).2 = some d) :
    0 < d ∧ ((b.attempt now).1.attempt (now + d)).2 = none :=
  ⟨(qattempt_refused b now d hd).2.2, qfirst_after_deadline_passes b now d (now + d) hd (Int.le_refl _)⟩

/-- `qprogress_by_deadline`: system-wide progress with any number of callers.  If an attempt at
`now` was refused with delay d, then among ANY further attempts `others` (by anybody, at any
instants) followed by an attempt at some `later ≥ now + d` (the refused caller waking up), at
least one passes: either somebody got through in the meantime, or the sleeper does.  So while
calls are waiting, passes keep happening — no later than the earliest deadline handed out; with
finitely many calls outstanding every one of them is eventually let through. -/
theorem qprogress_by_deadline (b : QBucket) (now d later : Int) (others : List Int)
    (hd : (b.attempt now).2 = some d) (hl : now + d ≤ later) :
    b.passes (others ++ [later]) ≠ [] := by
  rw [QBucket.passes_append]
  by_cases hno : b.passes others = []
  · rw [hno, QBucket.run_of_no_pass others b hno, List.nil_append, QBucket.passes_cons]
    have := qfirst_after_deadline_passes b now d later hd hl
    rw [(qattempt_refused b now d hd).1] at this
    rw [if_pos this]
    simp
  · intro h
    exact hno (List.append_eq_nil_iff.mp h).1

/-- and an attempt before the deadline is refused again, with the deadline unchanged: the delay
is exact, not merely sufficient (needs count ≥ 1: see `qearly_passes_of_lt`) -/
theorem qbefore_deadline_refused (b : QBucket) (now d earlier : Int) (hq : b.q ≤ b.p)
    (hd : (b.attempt now).2 = some d) (he : earlier < now + d) :
    (b.attempt earlier).2 = some (now + d - earlier) := by
  obtain ⟨_, hd', _⟩ := qattempt_refused b now d hd
  have := b.token_le_cap hq
  rcases b.attempt_cases earlier with ⟨ht, _⟩ | ⟨_, _, he'⟩
  · omega
  · rw [he']
    exact congrArg some (by omega)

/-- `capped_eq_of_ge`: for count ≥ 1 capping the tally at count BEFORE the spend test changes
nothing, in any state and at any instant — which is why the defect cannot be seen with
whole-number counts -/
theorem capped_eq_of_ge (b : QBucket) (now : Int) (hq : b.q ≤ b.p) :
    b.attemptCapped now = b.attempt now := by
  have hle := b.token_le_cap hq
  rcases b.attempt_cases now with ⟨ht, he⟩ | ⟨ht1, ht2, he⟩ <;> rw [he]
  · have hge : min (b.tally + (now - b.last)) b.cap ≥ b.token :=
      Int.le_min.mpr ⟨ht.elim (fun h => Int.le_trans hle (Int.le_of_lt h)) id, hle⟩
    simp only [QBucket.attemptCapped, hge, if_true]
  · have hlt : ¬ (b.tally + (now - b.last) ≥ b.token) := Int.not_le.mpr ht2
    simp only [QBucket.attemptCapped, Int.min_eq_left ht1, hlt, if_false]

theorem capped_passes_eq_of_ge (times : List Int) : ∀ (b : QBucket), b.q ≤ b.p →
    b.passesCapped times = b.passes times := by
  induction times with
  | nil => intro b _; rfl
  | cons now rest ih =>
    intro b hq
    rw [QBucket.passesCapped_cons, QBucket.passes_cons, capped_eq_of_ge b now hq]
    obtain ⟨h1, h2, _⟩ := b.attempt_params now
    rw [ih _ (by rw [h1, h2]; exact hq)]

/-- one attempt of the capped variant with count < 1: refused, state unchanged, and the delay it
is told is at least the (1 - count)/rate that can never be made up -/
theorem capped_attempt_of_lt (b : QBucket) (now : Int) (hpq : b.p < b.q) (hs : 0 < b.seconds) :
    ∃ d, b.attemptCapped now = (b, some d) ∧ b.token - b.cap ≤ d := by
  have hm := Int.min_le_right (b.tally + (now - b.last)) b.cap
  have hn : ¬ (min (b.tally + (now - b.last)) b.cap ≥ b.token) :=
    Int.not_le.mpr (Int.lt_of_le_of_lt hm (b.cap_lt_token hpq hs))
  refine ⟨b.token - min (b.tally + (now - b.last)) b.cap, ?_, Int.sub_le_sub_left hm _⟩
  simp only [QBucket.attemptCapped, hn, if_false]

/-- `capped_never_passes`: with count < 1 the capped variant lets NO call through, whatever the
state, however long and however often the callers wait -/
theorem capped_never_passes (times : List Int) : ∀ (b : QBucket), b.p < b.q → 0 < b.seconds →
    b.passesCapped times = [] := by
  induction times with
  | nil => intro b _ _; rfl
  | cons now rest ih =>
    intro b hpq hs
    obtain ⟨d, he, _⟩ := capped_attempt_of_lt b now hpq hs
    rw [QBucket.passesCapped_cons, he]
    simpa using ih b hpq hs

/-- in particular sleeping the delay does not help: the variant of `qsingle_sleep_suffices` is
false for the capped attempt -/
theorem capped_sleep_does_not_suffice (b : QBucket) (now d : Int) (hpq : b.p < b.q) (hs : 0 < b.seconds)
    (_hd : (b.attemptCapped now).2 = some d) : ((b.attemptCapped now).1.attemptCapped (now + d)).2 ≠ none := by
  obtain ⟨d1, he1, _⟩ := capped_attempt_of_lt b now hpq hs
  rw [he1]
  obtain ⟨d2, he2, _⟩ := capped_attempt_of_lt b (now + d) hpq hs
  rw [he2]; simp

/-- whereas the real attempt does let calls through with count = 1/2: refused at 0 with delay 1,
passes at 1, refused with delay 3, passes at 4 … -/
example : (QBucket.init 1 2 1 0).passes [0, 1, 1, 4, 4, 7] = [1, 4, 7] := by decide +kernel
example : (QBucket.init 1 2 1 0).passesCapped [0, 1, 1, 4, 4, 7, 100, 1000] = [] := by decide +kernel

/-- `hs` is needed: with seconds = 0 every quantity is 0 and the capped variant passes -/
theorem capped_never_passes_needs_seconds :
    (QBucket.init 1 2 0 0).passesCapped [0] = [0] := by decide +kernel

/-- `hpq` is needed (count = 1) -/
theorem capped_never_passes_needs_lt :
    (QBucket.init 1 1 1 0).passesCapped [0] = [0] := by decide +kernel

/-! ### safety: the window bound

In scaled integers (window in ticks of 1/p of the time unit, i.e. window·p):

    passes · q·seconds  ≤  max(p, q)·seconds + (last - first)

i.e. passes ≤ max(count, 1) + rate·window.  For count ≥ 1 this is "count in a burst plus rate per
elapsed time"; for count < 1 the burst is ONE call (a single call is always possible: the first
attempt at any instant after the decoration passes, since tally = count + ε > count), not
"count" calls.  With q = 1 and count > 0, max(p,q)·seconds = count·seconds and the statement is
literally `window_bound` (`window_bound_from_q` below derives it). -/

/-- the induction behind both window bounds, over the passes (`QBucket.first_pass` finds the
attempt behind each): `times` is ANY list of instants and `b` ANY state (neither sortedness nor
the invariant is needed: the window starts at a pass, and the state right after a pass always has
min(0, count-1) ≤ tally ≤ count - 1), `p :: ps` the first passes, `post` whatever passes follow.
With count < 1 every pass goes through `tally > count`, which in whole ticks asks for one tick
more than count: that tick is `ε = 1`; `ε = 0` is allowed for every count.
First claim: n passes need n tokens (and n·ε) out of what is there plus what accrues (plus the
free allowance `burst - cap` = max(0, 1-count) that count < 1 gets from the `tally > count` test) -/
theorem qwindow_bound_ticks (ε : Int) (times : List Int) : ∀ (b : QBucket),
    ε = 0 ∨ ε = 1 ∧ b.cap < b.token →
    ∀ (p : Int) (ps post : List Int) (l : Int),
    b.passes times = (p :: ps) ++ post → (p :: ps).getLast? = some l →
    ((ps.length : Int) + 1) * (b.token + ε) ≤ b.tally + (b.burst - b.cap) + (l - b.last) ∧
    ((ps.length : Int) + 1) * (b.token + ε) ≤ b.burst + ε + (l - p) := by
  intro b hε p ps
  induction ps generalizing times b p with
  | nil =>
    intro post l hp hl
    have ht := (b.attempt_none_iff p).1 (QBucket.first_pass times b p post hp).1
    have hcb := b.cap_le_burst
    have htb := b.token_le_burst
    obtain rfl : p = l := Option.some.inj hl
    simp only [List.length_nil, Int.natCast_zero, Int.zero_add, Int.one_mul]
    omega
  | cons p2 ps2 ih =>
    intro post l hp hl
    rw [List.cons_append] at hp
    obtain ⟨hn, times', hp'⟩ := QBucket.first_pass times b p _ hp
    have ht := (b.attempt_none_iff p).1 hn
    rw [b.attempt_none p hn] at hp'
    rw [List.getLast?_cons_cons] at hl
    -- the next passes draw on what this one left: min(t, cap) less one token
    have ih1 : ((ps2.length : Int) + 1) * (b.token + ε) ≤
        min (b.tally + (p - b.last)) b.cap - b.token + (b.burst - b.cap) + (l - p) :=
      (ih times' { b with last := p, tally := min (b.tally + (p - b.last)) b.cap - b.token }
        hε p2 post l hp' hl).1
    have h1 := Int.min_le_left (b.tally + (p - b.last)) b.cap
    have h2 := Int.min_le_right (b.tally + (p - b.last)) b.cap
    generalize min (b.tally + (p - b.last)) b.cap = m at ih1 h1 h2
    rw [List.length_cons, Int.natCast_succ, Int.add_mul _ 1, Int.one_mul]
    omega

theorem qwindow_bound_aux (times : List Int) : ∀ (b : QBucket),
    ∀ (p : Int) (ps post : List Int) (l : Int),
    b.passes times = (p :: ps) ++ post → (p :: ps).getLast? = some l →
    ((ps.length : Int) + 1) * b.token ≤ b.tally + (b.burst - b.cap) + (l - b.last) ∧
    ((ps.length : Int) + 1) * b.token ≤ b.burst + (l - p) := by
  intro b p ps post l hp hl
  simpa only [Int.add_zero] using qwindow_bound_ticks 0 times b (.inl rfl) p ps post l hp hl

/-- `qwindow_bound_any`: for every p, q, seconds and every arrival pattern (attempt instants in
any order, by any number of callers sharing the cache), the calls let through in ANY window, i.e.
any run `mid` of consecutive passes (whatever passes came before and come after), number at most
max(count,1) + rate·window:
passes·q·seconds ≤ max(p,q)·seconds + (last - first) with the instants in ticks of 1/p unit. -/
theorem qwindow_bound_any (times : List Int) : ∀ (b : QBucket),
    ∀ (pre mid post : List Int) (first last : Int),
    b.passes times = pre ++ mid ++ post → mid.head? = some first → mid.getLast? = some last →
    (mid.length : Int) * ((b.q : Int) * b.seconds) ≤
      ((max b.p b.q : Nat) : Int) * b.seconds + (last - first) := by
  intro b pre mid post first last hp hf hl
  cases mid with
  | nil => cases hf
  | cons m ms =>
    cases hf
    rw [List.append_assoc] at hp
    obtain ⟨_, _, t', hp'⟩ := QBucket.passes_suffix pre b times _ hp
    rw [List.length_cons, Int.natCast_succ]
    exact (qwindow_bound_aux t' _ _ ms post last hp' hl).2

/-- `qwindow_bound`: in particular between the first pass and the last of the whole run -/
theorem qwindow_bound (b : QBucket) (times : List Int) (first last : Int)
    (hf : (b.passes times).head? = some first) (hl : (b.passes times).getLast? = some last) :
    ((b.passes times).length : Int) * ((b.q : Int) * b.seconds) ≤
      ((max b.p b.q : Nat) : Int) * b.seconds + (last - first) :=
  qwindow_bound_any times b [] (b.passes times) [] first last
    (by rw [List.nil_append, List.append_nil]) hf hl

/-- the bound in the units of the statement: if the instants are given in a unit of which a tick
is 1/p (so `first = p·f`, `last = p·l`), then passes·q·seconds ≤ max(p,q)·seconds + p·(l - f) -/
theorem qwindow_bound_units (b : QBucket) (times : List Int) (f l : Int)
    (hf : (b.passes times).head? = some ((b.p : Int) * f))
    (hl : (b.passes times).getLast? = some ((b.p : Int) * l)) :
    ((b.passes times).length : Int) * ((b.q : Int) * b.seconds) ≤
      ((max b.p b.q : Nat) : Int) * b.seconds + (b.p : Int) * (l - f) := by
  have := qwindow_bound b times _ _ hf hl
  rw [Int.mul_sub]
  exact this

/-- `window_bound` (C20.lean) is the case q = 1, by `qbucket_of_nat_passes`; neither the order of
the instants nor the invariant is needed, only count > 0 -/
theorem window_bound_from_q (b : Bucket) (times : List Int) (h : b.Ok) (hsorted : times.Pairwise (· ≤ ·))
    (hfirst : ∀ t ∈ times, b.last ≤ t) (first last : Int)
    (hf : (b.passes times).head? = some first) (hl : (b.passes times).getLast? = some last) :
    ((b.passes times).length : Int) * b.seconds ≤ (b.count : Int) * b.seconds + (last - first) := by
  have _ := hsorted
  have _ := hfirst
  obtain ⟨_, _, hc, _⟩ := h
  have := qwindow_bound (QBucket.ofBucket b) times first last
    (by rw [qbucket_of_nat_passes]; exact hf) (by rw [qbucket_of_nat_passes]; exact hl)
  rw [qbucket_of_nat_passes] at this
  have hm : max b.count 1 = b.count := Nat.max_eq_left hc
  simpa [QBucket.ofBucket, hm] using this

/-- non-vacuity and tightness.  count = 5/2 per second (ticks of 1/5 s, token 2, cap 5): a burst of
two at once, the third is told to wait 1 tick = 0.2 s … -/
example : (QBucket.init 5 2 1 0).passes [0, 0, 0, 1, 2, 3, 3, 5, 20, 20, 20, 21, 22] = [0, 0, 1, 3, 5, 20, 20, 21] := by decide +kernel
/-- … and the bound is attained: 3 passes in [0,1]: 3·2 ≤ 5 + 1 -/
example : (QBucket.init 5 2 1 0).passes [0, 0, 1] = [0, 0, 1] ∧ ((3 : Int) * (2 * 1) = ((max 5 2 : Nat) : Int) * 1 + (1 - 0)) := by decide +kernel
/-- count = 1/2: the "count in a burst" reading (passes·q·seconds ≤ p·seconds + window) is FALSE —
one call passes in a window of width 0 — which is why the burst must be max(count, 1) -/
theorem qwindow_count_burst_false_of_lt :
    let b := QBucket.init 1 2 1 0
    b.passes [1] = [1] ∧ ¬ (((b.passes [1]).length : Int) * ((b.q : Int) * b.seconds) ≤ (b.p : Int) * b.seconds + (1 - 1)) := by
  decide +kernel

/-! ### the answers do not depend on the resolution of the clock

`answerTq` runs the model with the period `seconds·den` and instants `t·p` for instants given as
multiples of 1/den s.  Refining the resolution by any factor k (den ↦ den·k, every instant ↦
instant·k) scales the state and the delays by k and changes nothing else, so the answer in
seconds (delay / (p·den)) is independent of den. -/

/-- the same state at a k times finer resolution -/
def QBucket.scale (k : Nat) (b : QBucket) : QBucket :=
  { b with seconds := b.seconds * k, last := b.last * k, tally := b.tally * k }

theorem qinit_scale (p q seconds k : Nat) (now : Int) :
    (QBucket.init p q seconds now).scale k = QBucket.init p q (seconds * k) (now * k) := by
  simp [QBucket.scale, QBucket.init, Int.mul_assoc]

theorem qattempt_scale (b : QBucket) (k : Nat) (hk : 0 < k) (now : Int) :
    (b.scale k).attempt (now * k) = ((b.attempt now).1.scale k, (b.attempt now).2.map (· * (k : Int))) := by
  have hk' : (0 : Int) < (k : Int) := Int.ofNat_lt.mpr hk
  have hcap : (b.scale k).cap = b.cap * k := by
    simp only [QBucket.scale, QBucket.cap, Int.natCast_mul, Int.mul_assoc]
  have htok : (b.scale k).token = b.token * k := by
    simp only [QBucket.scale, QBucket.token, Int.natCast_mul, Int.mul_assoc]
  have ht : (b.scale k).tally + (now * k - (b.scale k).last) = (b.tally + (now - b.last)) * k := by
    rw [Int.add_mul, Int.sub_mul]; rfl
  -- the scaled attempt compares the same quantities times k
  rcases b.attempt_cases now with ⟨h, he⟩ | ⟨h1, h2, he⟩ <;> rw [he]
  · rw [(b.scale k).attempt_of_pass (now * k)
        (by rw [ht, hcap, htok, Int.mul_lt_mul_right hk', Int.mul_le_mul_right hk']; exact h),
      ht, hcap, htok, min_mul_of_nonneg _ _ _ (Int.le_of_lt hk'), ← Int.sub_mul]
    rfl
  · rw [(b.scale k).attempt_of_refuse (now * k)
        (by rw [ht, hcap, Int.mul_le_mul_right hk']; exact h1)
        (by rw [ht, htok, Int.mul_lt_mul_right hk']; exact h2),
      ht, htok, ← Int.sub_mul]
    rfl

theorem qpasses_scale (times : List Int) : ∀ (b : QBucket) (k : Nat), 0 < k →
    (b.scale k).passes (times.map (· * (k : Int))) = (b.passes times).map (· * (k : Int)) := by
  induction times with
  | nil => intro b k _; rfl
  | cons now rest ih =>
    intro b k hk
    rw [List.map_cons, QBucket.passes_cons, QBucket.passes_cons, qattempt_scale b k hk now]
    simp only [ih _ k hk, List.map_append]
    cases h : (b.attempt now).2 <;> simp

/-- `hk` is needed: at "resolution 0" everything collapses (an empty bucket refuses, its
0-scaled image passes) -/
theorem qattempt_scale_needs_pos :
    let b : QBucket := { p := 1, q := 1, seconds := 1, last := 0, tally := 0 }
    (b.scale 0).attempt (0 * ((0 : Nat) : Int)) ≠
      ((b.attempt 0).1.scale 0, (b.attempt 0).2.map (· * ((0 : Nat) : Int))) := by
  decide +kernel

/-! ### count < 1: what the real code does (and where it is odd)

With count < 1 the branch `elif tally >= 1` can never be taken after a pass (tally ≤ count < 1), so
every pass goes through `if tally > count` and stores count - 1 < 0.  Consequences, all proved
below: a call passes iff MORE than 1/rate has elapsed since the last pass (strictly: `>` not
`>=`), so passes are spaced by more than seconds/count; but a refused caller is told to sleep
until (2 - count)/rate after the last pass — strictly longer than necessary.  A lone caller that
obeys `sleep_func(delay)` is therefore let through once per (2 - count)·seconds/count, e.g. once
every 3 s for `throttle(cache, 0.5, 1)`, not once every 2 s.  Safety and liveness both hold; the
throttle is merely slower than its nominal rate. -/

/-- with count < 1 an attempt passes exactly when the tally exceeds count, and then stores
count - 1 -/
theorem qattempt_of_lt (b : QBucket) (now : Int) (hpq : b.p < b.q) (hs : 0 < b.seconds) :
    ((b.attempt now).2 = none ↔ b.tally + (now - b.last) > b.cap) ∧
    ((b.attempt now).2 = none → (b.attempt now).1 = { b with last := now, tally := b.cap - b.token }) := by
  have hlt := b.cap_lt_token hpq hs
  have hiff : (b.attempt now).2 = none ↔ b.tally + (now - b.last) > b.cap := by
    rw [QBucket.attempt_none_iff]
    exact ⟨fun h => h.elim id (Int.lt_of_lt_of_le hlt), Or.inl⟩
  refine ⟨hiff, fun h => ?_⟩
  rw [b.attempt_none now h, Int.min_eq_right (Int.le_of_lt (hiff.1 h))]

/-- a bucket with count < 1 whose tally is count - 1 at `a`, as a pass leaves it -/
theorem after_pass_of_lt (b : QBucket) (a : Int) (hlt : b.cap < b.token) (hl : b.last = a)
    (hy : b.tally = b.cap - b.token) :
    (b.attempt a).2 = some (2 * b.token - b.cap) ∧
    ∀ c, ((b.attempt c).2 = none ↔ c - a > b.token) := by
  have ht0 := b.token_nonneg
  have ha : b.tally + (a - b.last) ≤ b.cap ∧ b.tally + (a - b.last) < b.token ∧
      b.token - (b.tally + (a - b.last)) = 2 * b.token - b.cap := by omega
  refine ⟨?_, fun c => ?_⟩
  · rw [b.attempt_of_refuse a ha.1 ha.2.1, ha.2.2]
  · rw [b.attempt_none_iff]
    omega

/-- after a pass with count < 1: an immediate further attempt is told to wait (2 - count)/rate
(`2·token - cap` ticks), yet every attempt more than 1/rate (`token` ticks) after the pass is let
through, and none at or before that -/
theorem qsleeper_period_of_lt (b : QBucket) (a : Int) (hpq : b.p < b.q) (hs : 0 < b.seconds)
    (ha : (b.attempt a).2 = none) :
    ((b.attempt a).1.attempt a).2 = some (2 * b.token - b.cap) ∧ b.token < 2 * b.token - b.cap ∧
    ∀ c, (((b.attempt a).1.attempt c).2 = none ↔ c - a > b.token) := by
  have hlt := b.cap_lt_token hpq hs
  rw [(qattempt_of_lt b a hpq hs).2 ha]
  have := after_pass_of_lt { b with last := a, tally := b.cap - b.token } a hlt rfl rfl
  exact ⟨this.1, by omega, this.2⟩

/-- so with count < 1 an attempt BEFORE the deadline it was given can pass: the delay is
sufficient (`qsingle_sleep_suffices`) but not exact, unlike count ≥ 1 (`qbefore_deadline_refused`).
count = 1/2: pass at 1, refused at 1 with delay 3 (deadline 4), an attempt at 3.5 passes (ticks of
1 s with den = 1; here den = 2 to have the half second) -/
theorem qearly_passes_of_lt :
    let b := ((QBucket.init 1 2 2 0).attempt 2).1   -- count 1/2, half-second ticks, passed at 1 s
    (b.attempt 2).2 = some 6 ∧ (b.attempt 7).2 = none := by decide +kernel

/-- the sharp window bound for count < 1: n passes span MORE than (n-1)/rate, in whole ticks
(n-1)·(q·seconds + 1) ≤ last - first -/
theorem qwindow_bound_aux_lt (times : List Int) : ∀ (b : QBucket), b.p < b.q → 0 < b.seconds →
    ∀ (p : Int) (ps post : List Int) (l : Int),
    b.passes times = (p :: ps) ++ post → (p :: ps).getLast? = some l →
    ((ps.length : Int) + 1) * (b.token + 1) ≤ b.tally - (b.cap - b.token) + (l - b.last) ∧
    (ps.length : Int) * (b.token + 1) ≤ l - p := by
  intro b hpq hs p ps post l hp hl
  have hlt := b.cap_lt_token hpq hs
  have := qwindow_bound_ticks 1 times b (.inr ⟨rfl, hlt⟩) p ps post l hp hl
  -- burst = token; `(n+1)·x` is written `n·x + x` on both sides for `omega`
  rw [b.burst_eq_max, Int.max_eq_right (Int.le_of_lt hlt), Int.add_mul _ 1, Int.one_mul] at this
  rw [Int.add_mul _ 1, Int.one_mul]
  omega

theorem qwindow_bound_any_lt (b : QBucket) (times pre mid post : List Int) (first last : Int)
    (hpq : b.p < b.q) (hs : 0 < b.seconds)
    (hp : b.passes times = pre ++ mid ++ post) (hf : mid.head? = some first) (hl : mid.getLast? = some last) :
    ((mid.length : Int) - 1) * ((b.q : Int) * b.seconds + 1) ≤ last - first := by
  cases mid with
  | nil => cases hf
  | cons m ms =>
    cases hf
    rw [List.append_assoc] at hp
    obtain ⟨l', y', t', hp'⟩ := QBucket.passes_suffix pre b times _ hp
    have := (qwindow_bound_aux_lt t' { b with last := l', tally := y' } hpq hs _ ms post last hp' hl).2
    simpa [QBucket.token] using this

/-- `qspacing_of_lt`: with count < 1 two consecutive passes (of any callers) are MORE than
1/rate = q·seconds ticks apart: the window of two passes -/
theorem qspacing_of_lt (b : QBucket) (times pre post : List Int) (a c : Int)
    (hpq : b.p < b.q) (hs : 0 < b.seconds) (hp : b.passes times = pre ++ a :: c :: post) :
    c - a > (b.q : Int) * b.seconds := by
  have := qwindow_bound_any_lt b times pre [a, c] post a c hpq hs
    (by rw [hp, List.append_assoc]; rfl) rfl rfl
  simp only [List.length_cons, List.length_nil] at this
  omega

/-- tightness for count < 1: one pass in a window of width 0 attains `qwindow_bound`
(1·q·seconds = max(p,q)·seconds + 0), and passes q·seconds + 1 ticks apart attain the sharp bound -/
example : (QBucket.init 1 2 1 0).passes [1, 3, 4, 6, 7] = [1, 4, 7] := by decide +kernel

/-! ### every call is eventually let through (any number of callers, any schedule)

`QSys` (DC/Model/RecipesQ.lean): the calls not yet let through, each with the earliest instant of
its next attempt; a schedule picks who attempts next and how late.  NO fairness assumption and
no assumption on the instants is needed: a refused call sleeps exactly until the deadline of the
present state and is let through at its next attempt unless somebody else got through in the
meantime — which also is progress. -/

theorem qsys_terminates (sched : List (Nat × Nat)) : ∀ (s : QSys), s.measure ≤ sched.length →
    (s.run sched).waiting = [] := by
  induction sched with
  | nil =>
    intro s h
    have h1 := tri_ge s.waiting.length
    have h0 : s.waiting.length = 0 := by
      simp only [List.length_nil, QSys.measure] at h; omega
    exact List.eq_nil_of_length_eq_zero h0
  | cons pick rest ih =>
    intro s h
    rw [QSys.run_cons]
    by_cases hne : s.waiting = []
    · rw [QSys.step_of_nil s pick hne, QSys.run_of_nil rest s hne]; exact hne
    · have := QSys.step_measure s pick hne
      simp only [List.length_cons] at h
      exact ih _ (by omega)

/-- `qall_calls_pass`: n calls sharing one throttle (any p, q, seconds, count < 1 included; any
state of the bucket; any arrival instants; any schedule, however unfair, with any lateness of the
wake-ups) are ALL let through within n(n+1)/2 + n attempts in total. -/
theorem qall_calls_pass (s : QSys) (sched : List (Nat × Nat))
    (h : tri s.waiting.length + s.waiting.length ≤ sched.length) : (s.run sched).waiting = [] := by
  apply qsys_terminates
  have := List.countP_le_length (p := fun w => decide (w < s.b.deadline)) (l := s.waiting)
  unfold QSys.measure QSys.stale
  omega

/-- the bookkeeping: the state of the bucket is the run of the model over the logged attempt
instants, and the calls let through so far are exactly the calls no longer waiting — each call
is started once, and the starts are `passes` of the logged attempts, to which `qwindow_bound_any`
applies -/
theorem qsys_log (b0 : QBucket) (n : Nat) (sched : List (Nat × Nat)) : ∀ (s : QSys),
    s.b = b0.run s.log.reverse → (b0.passes s.log.reverse).length + s.waiting.length = n →
    (s.run sched).b = b0.run (s.run sched).log.reverse ∧
    (b0.passes (s.run sched).log.reverse).length + (s.run sched).waiting.length = n := by
  induction sched with
  | nil => intro s h1 h2; exact ⟨h1, h2⟩
  | cons pick rest ih =>
    intro s h1 h2
    rw [QSys.run_cons]
    by_cases hne : s.waiting = []
    · rw [QSys.step_of_nil s pick hne]; exact ih s h1 h2
    · obtain ⟨i, hi, now, _, hcases⟩ := s.step_cases pick hne
      have hrun : b0.run (now :: s.log).reverse = (s.b.attempt now).1 := by
        rw [List.reverse_cons, h1, QBucket.run, List.foldl_append]; rfl
      have hpass : b0.passes (now :: s.log).reverse =
          b0.passes s.log.reverse ++ (if (s.b.attempt now).2 = none then [now] else []) := by
        rw [List.reverse_cons, QBucket.passes_append, ← h1, QBucket.passes_cons, QBucket.passes,
          List.append_nil]
      rcases hcases with ⟨hn, he⟩ | ⟨d, hd, he⟩ <;> rw [he] <;> apply ih <;> dsimp only
      · exact hrun.symm
      · rw [hpass, if_pos hn, List.length_append, List.length_eraseIdx_of_lt hi, List.length_singleton]
        omega
      · rw [hrun, QBucket.attempt_some_state s.b _ (by rw [hd]; exact Option.some_ne_none d)]
      · rw [hpass, hd, if_neg (Option.some_ne_none d), List.append_nil, List.length_set]
        exact h2

/-- together: from a fresh system of n calls, any long enough schedule ends with every call let
through exactly once, the starts being the model's passes over the attempts that were made -/
theorem qall_calls_pass_once (b : QBucket) (arrivals : List Int) (sched : List (Nat × Nat))
    (h : tri arrivals.length + arrivals.length ≤ sched.length) :
    let fin := ({ b := b, waiting := arrivals } : QSys).run sched
    fin.waiting = [] ∧ (b.passes fin.log.reverse).length = arrivals.length ∧ fin.b = b.run fin.log.reverse := by
  have h1 := qall_calls_pass { b := b, waiting := arrivals } sched h
  have h2 := qsys_log b arrivals.length sched { b := b, waiting := arrivals } rfl (by simp [QBucket.passes])
  refine ⟨h1, ?_, h2.1⟩
  have := h2.2
  rw [h1] at this
  simpa using this

/-- the schedule must be long enough (here: no attempt at all) -/
theorem qall_calls_pass_needs_length :
    (({ b := QBucket.init 1 2 1 0, waiting := [0] } : QSys).run []).waiting ≠ [] := by decide +kernel

/-- two calls against count = 1/2, both arriving at 0, the second one always picked first:
refused (delay 1), refused, pass at 1, refused (delay 3), pass at 4 -/
example : (({ b := QBucket.init 1 2 1 0, waiting := [0, 0] } : QSys).run [(1, 0), (0, 0), (1, 0), (0, 0), (0, 0)]).waiting = []
    ∧ (({ b := QBucket.init 1 2 1 0, waiting := [0, 0] } : QSys).run [(1, 0), (0, 0), (1, 0), (0, 0), (0, 0)]).log.reverse = [0, 0, 1, 1, 4] := by
  decide +kernel

/-! ### the hypotheses above are needed -/

/-- `capped_eq_of_ge` needs count ≥ 1 -/
theorem capped_eq_of_ge_needs_ge :
    (QBucket.init 1 2 1 0).attemptCapped 1 ≠ (QBucket.init 1 2 1 0).attempt 1 := by decide +kernel

/-- `qattempt_of_lt` needs count < 1 (count = 1 passes with tally = count on the second branch)
and seconds > 0 -/
theorem qattempt_of_lt_needs_lt :
    ((QBucket.init 1 1 1 0).attempt 0).2 = none ∧
    ¬ ((QBucket.init 1 1 1 0).tally + (0 - (QBucket.init 1 1 1 0).last) > (QBucket.init 1 1 1 0).cap) := by decide +kernel

theorem qattempt_of_lt_needs_seconds :
    ((QBucket.init 1 2 0 0).attempt 0).2 = none ∧
    ¬ ((QBucket.init 1 2 0 0).tally + (0 - (QBucket.init 1 2 0 0).last) > (QBucket.init 1 2 0 0).cap) := by decide +kernel

/-- `qspacing_of_lt`, `qwindow_bound_any_lt` need count < 1 (a burst of two at the same instant
with count = 5/2) and seconds > 0 -/
theorem qspacing_of_lt_needs_lt :
    (QBucket.init 5 2 1 0).passes [0, 0] = [] ++ 0 :: 0 :: [] ∧ ¬ ((0 : Int) - 0 > ((2 : Nat) : Int) * (1 : Nat)) := by decide +kernel

theorem qspacing_of_lt_needs_seconds :
    (QBucket.init 1 2 0 0).passes [0, 0] = [] ++ 0 :: 0 :: [] ∧ ¬ ((0 : Int) - 0 > ((2 : Nat) : Int) * (0 : Nat)) := by decide +kernel

/-- `qsleeper_period_of_lt` needs count < 1: with count = 1 the delay after a pass is exactly
1/rate -/
theorem qsleeper_period_of_lt_needs_lt :
    let b := QBucket.init 1 1 1 0
    (b.attempt 0).2 = none ∧ ¬ (b.token < 2 * b.token - b.cap) := by decide +kernel

/-- `qattempt_last` needs `b.last ≤ now` -/
theorem qattempt_last_needs_le :
    let b : QBucket := { p := 1, q := 1, seconds := 1, last := 5, tally := 10 }
    ¬ (b.last ≤ (b.attempt 0).1.last) := by decide +kernel

end DC.Recipes
