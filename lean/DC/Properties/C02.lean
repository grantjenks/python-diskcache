/-
C02 — keys address entries by documented equality and never alias.

`docEq` is written from the documentation: text, bytes and native numbers
compare by value (1 and 1.0 are one key; 0.0 and -0.0 too), everything else
(None, bool, tuples, ints outside int64, ...) by type and structure.
`dbKeyEq` is what SQLite's `key = ? AND raw = ?` decides.
-/
import DC.Proofs.Keys

namespace DC

/-- keys stored natively (not pickled) -/
def nativeKey : PyVal → Bool
  | .int i => inI64 i
  | .float _ => true
  | .str _ => true
  | .bytes _ => true
  | _ => false

def keyNum : PyVal → Option Num
  | .int i => some (intNum i)
  | .float f => some (floatNum f)
  | _ => none

/-- NaN is outside the key domain; float bit patterns are 64-bit -/
def ValidKey : PyVal → Prop
  | .float f => floatIsNaN f = false ∧ f < 2^64
  | _ => True

def docEq (a b : PyVal) : Prop :=
  match a, b with
  | .str x, .str y => x = y
  | .bytes x, .bytes y => x = y
  | .str _, _ => False
  | _, .str _ => False
  | .bytes _, _ => False
  | _, .bytes _ => False
  | a, b =>
    if nativeKey a && nativeKey b then keyNum a = keyNum b
    else if !nativeKey a && !nativeKey b then a = b
    else False

def dbKeyEq (x y : SqlVal × Bool) : Prop := x.1.eqv y.1 = true ∧ x.2 = y.2

instance (x y : SqlVal × Bool) : Decidable (dbKeyEq x y) := by unfold dbKeyEq; infer_instance

/-- case analysis on a key, with the ints divided at the int64 bounds as `Disk.put` divides them -/
theorem PyVal.keyCases {motive : PyVal → Prop} (none : motive .none)
    (int64 : ∀ i, inI64 i = true → motive (.int i)) (bigint : ∀ i, inI64 i = false → motive (.int i))
    (float : ∀ f, motive (.float f)) (str : ∀ s, motive (.str s)) (bytes : ∀ b, motive (.bytes b))
    (obj : ∀ o, motive (.obj o)) : ∀ a, motive a
  | .none => none
  | .int i => by cases h : inI64 i; exact bigint i h; exact int64 i h
  | .float f => float f
  | .str s => str s
  | .bytes b => bytes b
  | .obj o => obj o

/-- Two keys address the same row exactly when they are equal under the documented
rule (pickle disk, any protocol: `dumpsK` only has to be injective). -/
theorem put_eq_iff (E : Externals) (hinj : ∀ a b, E.dumpsK a = E.dumpsK b → a = b)
    (a b : PyVal) (ha : ValidKey a) (hb : ValidKey b) :
    dbKeyEq (Disk.put E a) (Disk.put E b) ↔ docEq a b := by
  have dumps : ∀ x y : PyVal, E.dumpsK x = E.dumpsK y ↔ x = y := fun x y => ⟨hinj x y, congrArg _⟩
  cases a using PyVal.keyCases <;> cases b using PyVal.keyCases <;>
    simp [Disk.put, dbKeyEq, docEq, nativeKey, keyNum, SqlVal.eqv, SqlVal.num, *]

/-- the numeric comparison is exact on integers -/
theorem intNum_inj (i j : Int) : intNum i = intNum j ↔ i = j :=
  intNum_inj' i j

/-- an int64 and a double are one key only if the double is finite, and the scaled
integer values coincide exactly (no rounding at 2^53 or 2^63) -/
theorem intNum_eq_floatNum (i : Int) (f : Nat) :
    intNum i = floatNum f ↔
      (floatExp f ≠ 2047 ∧ i * 2^1074 = (if floatSign f then -(floatMag f : Int) else floatMag f)) := by
  unfold intNum
  generalize (2 : Int) ^ 1074 = K
  by_cases he : floatExp f = 2047
  · rw [floatNum_inf he]
    cases floatSign f <;> simp [he]
  · rw [floatNum_fin he, Num.fin.injEq]
    exact (and_iff_right he).symm

/-- two doubles are one key only when they are the same number: identical bit patterns,
or the two zeros -/
theorem floatNum_eq_iff (f g : Nat) (hf : f < 2^64) (hg : g < 2^64)
    (hnf : floatIsNaN f = false) (hng : floatIsNaN g = false) :
    floatNum f = floatNum g ↔ (f = g ∨ (floatMag f = 0 ∧ floatMag g = 0 ∧ floatExp f ≠ 2047 ∧ floatExp g ≠ 2047)) := by
  rw [bits_eq_iff f g hf hg]
  simp only [floatIsNaN, Bool.and_eq_false_imp, beq_iff_eq, bne_eq_false_iff_eq] at hnf hng
  by_cases ef : floatExp f = 2047 <;> by_cases eg : floatExp g = 2047
  · -- two infinities: not NaN, so both fractions are 0 and only the signs matter
    rw [floatNum_inf ef, floatNum_inf eg]
    cases floatSign f <;> cases floatSign g <;> simp [ef, eg, hnf ef, hng eg]
  · rw [floatNum_inf ef, floatNum_fin eg]
    cases floatSign f <;> simp [ef, Ne.symm eg]
  · rw [floatNum_fin ef, floatNum_inf eg]
    cases floatSign g <;> simp [ef, eg]
  · rw [floatNum_fin ef, floatNum_fin eg, Num.fin.injEq, signed_eq_iff]
    constructor
    · rintro (⟨hs, hm⟩ | h0)
      · rw [floatMag_eq, floatMag_eq] at hm
        exact .inl ⟨hs, magOf_inj _ _ _ _ (floatFrac_lt f) (floatFrac_lt g) hm⟩
      · exact .inr ⟨h0.1, h0.2, ef, eg⟩
    · rintro (⟨hs, he, hfr⟩ | ⟨h0, h0', _⟩)
      · exact .inl ⟨hs, by rw [floatMag_eq, floatMag_eq, he, hfr]⟩
      · exact .inr ⟨h0, h0'⟩

/-- `Disk.get` inverts `Disk.put`: iteration returns the stored key, with its type -/
theorem get_put (E : Externals) (hE : Lawful E) (k : PyVal) :
    Disk.get E (Disk.put E k).1 (Disk.put E k).2 = k := by
  cases k <;> simp [Disk.put, Disk.get, column, hE.loads_dumpsK]
  split <;> simp [hE.loads_dumpsK]

/-- `put` never produces NULL -/
theorem put_ne_null (E : Externals) (d : DiskKind) (k : PyVal) : (put E d k).1 ≠ .null :=
  Cache.put_ne_null' E d k

/-- JSONDisk: keys are identified by their JSON text -/
theorem json_put_eq_iff (E : Externals) (hinj : ∀ a b, E.jsonz a = E.jsonz b → a = b) (a b : PyVal) :
    dbKeyEq (JSONDisk.put E a) (JSONDisk.put E b) ↔ a = b := by
  simp only [JSONDisk.put, Disk.put, dbKeyEq, SqlVal.eqv]
  constructor
  · intro h
    exact hinj _ _ (by simpa using h.1)
  · intro h
    simp [h]

/-- ... so under JSONDisk the documented equality of 1 and 1.0 does NOT hold (known
finding D13): the full-strength statement fails, with this witness -/
theorem json_docEq_fails (E : Externals) (hinj : ∀ a b, E.jsonz a = E.jsonz b → a = b) :
    ¬ (∀ a b, ValidKey a → ValidKey b → (dbKeyEq (JSONDisk.put E a) (JSONDisk.put E b) ↔ docEq a b)) := by
  intro h
  have hv : ValidKey (.float 0x3ff0000000000000) := by unfold ValidKey; decide
  have hd : docEq (.int 1) (.float 0x3ff0000000000000) := by
    have : intNum 1 = floatNum 0x3ff0000000000000 := by decide +kernel
    simp [docEq, nativeKey, keyNum, inI64, this]
  have h1 := (h (.int 1) (.float 0x3ff0000000000000) trivial hv).2 hd
  have h2 := (json_put_eq_iff E hinj _ _).1 h1
  exact absurd h2 (by decide)

/-! ### the key order used by `iterkeys` and by the queues -/

theorem keyRawLt_irrefl (a : SqlVal × Bool) : keyRawLt a a = false :=
  keyRawLt_irrefl' a

theorem keyRawLt_trans (a b c : SqlVal × Bool) (hab : keyRawLt a b = true) (hbc : keyRawLt b c = true) :
    keyRawLt a c = true :=
  keyRawLt_trans' a b c hab hbc

theorem keyRawLt_total (a b : SqlVal × Bool) (ha : a.1 ≠ .null) (hb : b.1 ≠ .null) :
    keyRawLt a b = true ∨ keyRawLt b a = true ∨ dbKeyEq a b :=
  keyRawLt_total' a b ha hb

namespace Cache

/-- `isort` is a sorting function: a permutation of its input, ordered -/
theorem isort_perm {α} (lt : α → α → Bool) (l : List α) : (isort lt l).Perm l :=
  DC.isort_perm lt l

theorem isort_sorted_keys (rows : List Row) (hn : ∀ r ∈ rows, r.key ≠ .null) :
    (isort keyRawLtRow rows).Pairwise (fun a b => keyRawLtRow b a = false) :=
  isort_sorted_weak keyRawLtRow (fun r => r.key ≠ .null)
    (fun _ _ h => keyRawLt_asymm _ _ h)
    (fun _ _ _ ha hb hc h1 h2 => keyRawLt_negtrans _ _ _ ha hb hc h1 h2) rows hn

/-- `iterkeys()` yields every key exactly once in database sort order, for every table size
and page size ≥ 1 -/
theorem iterkeys_all (s : Cache) (E : Externals) (hu : KeysUnique s.rows)
    (hn : ∀ r ∈ s.rows, r.key ≠ .null) (hp : 0 < s.cfg.page) :
    (s.iterkeys E false).2 =
      .list ((isort keyRawLtRow s.rows).map (fun r => keyOut E s.cfg.disk r.key r.raw)) :=
  iterkeys_all' s E false hu hn hp

/-- `iterkeys(reverse=True)` yields every key exactly once in reverse sort order -/
theorem riterkeys_all (s : Cache) (E : Externals) (hu : KeysUnique s.rows)
    (hn : ∀ r ∈ s.rows, r.key ≠ .null) (hp : 0 < s.cfg.page) :
    (s.iterkeys E true).2 =
      .list ((isort (fun a b => keyRawLtRow b a) s.rows).map (fun r => keyOut E s.cfg.disk r.key r.raw)) :=
  iterkeys_all' s E true hu hn hp

end Cache

/-- non-vacuity and the boundary cases the statement names: 1 / 1.0 one key, 2^53+1 vs
2.0^53 distinct, text vs bytes distinct, a bytes key equal to another key's pickle distinct -/
def toyE : Externals :=
  { dumpsK := fun k => match k with
      | .none => [0] | .int i => 1 :: i.toNat :: (-i).toNat :: [] | .float f => [2, f]
      | .str s => 3 :: s | .bytes b => 4 :: b | .obj o => 5 :: o,
    dumpsV := fun _ => [], loads := fun _ => .none, jsonz := fun _ => [], unjsonz := fun _ => .none }

example : dbKeyEq (Disk.put toyE (.int 1)) (Disk.put toyE (.float 0x3ff0000000000000)) := by decide +kernel
example : ¬ dbKeyEq (Disk.put toyE (.int 9007199254740993)) (Disk.put toyE (.float 0x4340000000000000)) := by decide +kernel
example : dbKeyEq (Disk.put toyE (.int 9007199254740992)) (Disk.put toyE (.float 0x4340000000000000)) := by decide +kernel
example : ¬ dbKeyEq (Disk.put toyE (.str [97])) (Disk.put toyE (.bytes [97])) := by decide +kernel
example : ¬ dbKeyEq (Disk.put toyE (.bytes (toyE.dumpsK .none))) (Disk.put toyE .none) := by decide +kernel
example : dbKeyEq (Disk.put toyE (.float 0)) (Disk.put toyE (.float 0x8000000000000000)) := by decide +kernel

end DC
