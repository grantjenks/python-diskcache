/-
C11 (refinement) — the Deque model refines the reference bounded list of
DC/Model/DSpec.lean: for every history of append / appendleft / extend / extendleft /
pop / popleft / peek / peekleft / len / clear / deque[i] / deque[i] = v / del deque[i] /
iteration / count / remove / comparison with a list / rotate / reverse / maxlen = k
that fits the key budget, every call returns what `collections.deque(maxlen)` over the stored
values returns, and the final states correspond (`drun_refines`).

The single-step theorems of DC/Properties/C11.lean assume the invariant `Ok`; the refinement
adds its preservation.  `Ok` cannot hold forever — every push moves one
step away from the origin and the queue keys have 15 digits — so the invariant
is budgeted: `OkN d n` = "`Ok d`, the file invariants (`Cache.Good`), at most
`maxlen` items, every item readable, and room for `n` more pushes at either end".
`step_okN : OkN d (n + cost) → OkN (d.step op).1 n`; the empty Deque satisfies
`OkN _ 499999999999999` and not `OkN _ 500000000000000` (`okN_empty`,
`okN_empty_max`); `budget_needed` shows what happens beyond the budget.

Files.
  C11_RefineBase.lean     `DRefines`, `OkN`, and the basic calls (`DOp.basic`: append, appendleft, pop,
                          popleft, peek, peekleft, len, clear, deque[i], iteration)
  C11_RefineExtend.lean   extend / `+=` / extendleft
  C11_RefineIndex.lean    deque[i] = v, del deque[i]
  C11_RefineSearch.lean   count, remove, comparisons
  C11_RefineOrder.lean    rotate, reverse
  C11_RefineMaxlen.lean   the maxlen setter
  C11_RefineRestore.lean  when the hypothesis of rotate / reverse holds (`restorable_lawful`)
  C11_RefineUnbounded.lean (imports this file) deques longer than their bound (`OkU`): what `append`
                          does there, `setMaxlen_bounds`, histories after one `maxlen` assignment
  this file               one call (`step_*`), histories (`drun_*`), the user-level corollaries,
                          non-vacuity, the counterexamples for the hypotheses

The key budget.  A call that performs several `append` steps uses several units of the budget:
`DOp.cost len op` (DC/Model/DSpec.lean) is the number of units call `op` may use on a deque of `len`
items — the number of values for `extend`, `steps mod len` for `rotate`, `len` for `reverse`, 1 for
every other call (although only `append` needs it) —, and
`DSpec.costs m cfg ops` the total along a history from the bounded list `m` on.  The history
theorems ask `DSpec.costs m cfg ops ≤ n`; for histories of basic calls (`DOp.basic`) that is
`ops.length ≤ n` (`costs_basic`), and the `…_basic` theorems state each result for such histories,
without the side conditions that only the other calls need.

Statement notes.
 * `DRefines d m` is `(items d).map (entryOfRow d.cache) = m.items ∧ d.maxlen = m.maxlen`.
 * The hard part is `append` on the model side: `tbegin; push; [pull]; tend` runs inside a
   transaction block, where `Cache.Good` does not hold (depth 1, removals deferred).
   DC/Proofs/DRefineBlock.lean carries the file invariant through the block (`drf_BI`); the
   `maxlen` setter runs its trimming loop in the same way (`trimLoop_all`).
 * Hypotheses beyond `OkN`:
     - `0 < d.cache.cfg.page` for `clear` and `reverse` (as in C03_Refine: with page size 0 the
       removal loop removes nothing; never false for a real cache);
     - `d.cache.cfg.disk = .pickle` for the calls that look an item up again by the key read back
       from its row (`DOp.byKey`: `deque[i]`, iteration, `deque[i] = v`, `del deque[i]`, `count`,
       `remove`, comparisons, `reverse`): `exDqJson_getitem` in C11.lean, `setitem_needs_pickle`
       below;
     - `DSpec.restorable m cfg ops` for `rotate` / `reverse`: these move an item by reading its
       value and storing it again, so the bounded list is rotated / reversed only if storing the
       value again gives the same stored representation (`DSpec.restores`, with the codec
       observations of that call); `rotate_needs_restores` is the counterexample,
       `restorable_lawful` shows that it holds whenever the calls of the history observe one codec
       whose `loads` inverts `dumps` (`list_after_history_lawful`).
 * A value that cannot be stored (`DSpec.entryFor … = none`: `Disk.store` fails, or the database
   cell cannot be bound) makes `append` / `appendleft` / `deque[i] = v` raise UnicodeEncodeError on
   both sides and changes nothing (the model leaves the block through `traise`, which rolls it
   back: `append_propagates_error`); `extend` / `extendleft` stop at the first such value.
-/
import DC.Properties.C11_RefineBase
import DC.Properties.C11_RefineExtend
import DC.Properties.C11_RefineIndex
import DC.Properties.C11_RefineSearch
import DC.Properties.C11_RefineOrder
import DC.Properties.C11_RefineMaxlen
import DC.Properties.C11_RefineRestore

namespace DC.Deque
open DC.Cache DC.Spec DC.DSpec

/-- the bounded list a state represents -/
def absList (d : Deque) : DList := { items := (items d).map (entryOfRow d.cache), maxlen := d.maxlen }

theorem DRefines.eq {d : Deque} {m : DList} (h : DRefines d m) : m = absList d := by
  cases m with
  | mk it ml =>
    have h1 : _ = it := h.1
    have h2 : _ = ml := h.2
    rw [← h1, ← h2]
    rfl

theorem restoreOk_rotate {m : DList} {cfg : Cfg} {E : Externals} {now : Int} {steps : Int}
    (h : (DOp.rotate E now steps).restoreOk m cfg = true) : ∀ e ∈ m.items, restores E cfg e = true :=
  List.all_eq_true.1 h

theorem restoreOk_reverse {m : DList} {cfg : Cfg} {E : Externals} {now : Int}
    (h : (DOp.reverse E now).restoreOk m cfg = true) : ∀ e ∈ m.items, restores E cfg e = true :=
  List.all_eq_true.1 h

theorem restoreOk_basic (m : DList) (cfg : Cfg) (op : DOp) (hb : op.basic = true) : op.restoreOk m cfg = true := by
  cases op <;> first | rfl | cases hb

theorem cost_basic (len : Nat) (op : DOp) (hb : op.basic = true) : op.cost len = 1 := by
  cases op <;> first | rfl | cases hb

/-- one call keeps the invariant, using up at most `DOp.cost` units of the budget (only the
`append` / `appendleft` steps need them), and keeps the configuration.  The side conditions are
asked of the calls outside `DOp.basic` only: that is what lets the `…_basic` statements follow. -/
theorem step_inv (d : Deque) (n : Nat) (op : DOp) (hok : OkN d (n + op.cost (items d).length))
    (hside : op.basic = false → (op.byKey = true → d.cache.cfg.disk = .pickle) ∧ 0 < d.cache.cfg.page ∧
      op.restoreOk (absList d) d.cache.cfg = true) :
    OkN (d.step op).1 n ∧ (d.step op).1.cache.cfg = d.cache.cfg := by
  cases op with
  | append E now v => exact ⟨append_okN d n E now v false hok, append_cfg d n E now v false hok⟩
  | appendleft E now v => exact ⟨append_okN d n E now v true hok, append_cfg d n E now v true hok⟩
  | pop E now => exact ⟨pop_okN d n E now false hok.mono, pull_cfg d n E now false hok.mono⟩
  | popleft E now => exact ⟨pop_okN d n E now true hok.mono, pull_cfg d n E now true hok.mono⟩
  | peek E now =>
    exact ⟨peek_okN d n E now false hok.mono, congrArg Core.cfg (peek_core d n E now false hok.mono)⟩
  | peekleft E now =>
    exact ⟨peek_okN d n E now true hok.mono, congrArg Core.cfg (peek_core d n E now true hok.mono)⟩
  | len =>
    exact ⟨hok.mono.of_core (c' := (d.cache.len).1) (good_of_pi (len_inv d.cache hok.good.tinv) hok.good.pi) rfl,
      rfl⟩
  | clear => exact ⟨clear_okN d n hok.mono, rf_clear_cfg d.cache⟩
  | getitem E now i =>
    exact ⟨getitem_okN d n E now i hok.mono, congrArg Core.cfg (getitem_core d n E now i hok.mono).1⟩
  | iter E now rev =>
    exact ⟨iter_okN d n E now rev hok.mono, iter_cfg d n E now rev hok.mono⟩
  | extend E now vs => exact ⟨extend_okN d n E now vs false hok, extend_cfg d n E now vs false hok⟩
  | extendleft E now vs => exact ⟨extend_okN d n E now vs true hok, extend_cfg d n E now vs true hok⟩
  | setitem E now i v =>
    exact ⟨setitem_okN d n E now i v hok.mono ((hside rfl).1 rfl), setitem_cfg d n E now i v hok.mono⟩
  | delitem E now i =>
    exact ⟨delitem_okN d n E now i hok.mono ((hside rfl).1 rfl), delitem_cfg d n E now i hok.mono⟩
  | count E now v => exact ⟨count_okN d n E now v hok.mono, count_cfg d n E now v hok.mono⟩
  | remove E now v =>
    exact ⟨remove_okN d n E now v hok.mono ((hside rfl).1 rfl), remove_cfg d n E now v hok.mono⟩
  | compare E now op that =>
    exact ⟨compare_okN d n E now op that hok.mono ((hside rfl).1 rfl),
      compare_cfg d n E now op that hok.mono ((hside rfl).1 rfl)⟩
  | rotate E now steps =>
    exact (rotate_all d _ n E now steps hok (drefines_self d) (restoreOk_rotate (hside rfl).2.2)).2.2
  | reverse E now =>
    exact (reverse_all d _ n E now hok (drefines_self d) (hside rfl).2.1 ((hside rfl).1 rfl)
      (restoreOk_reverse (hside rfl).2.2)).2.2
  | setMaxlen E now k => exact ⟨setMaxlen_okN d n E now k hok.mono, setMaxlen_cfg d n E now k hok.mono⟩

theorem step_inv_basic (d : Deque) (n : Nat) (op : DOp) (hb : op.basic = true) (hok : OkN d (n + 1)) :
    OkN (d.step op).1 n ∧ (d.step op).1.cache.cfg = d.cache.cfg :=
  step_inv d n op (by rw [cost_basic _ op hb]; exact hok) (fun h => by rw [hb] at h; cases h)

/-- one call keeps the invariant and uses up at most `DOp.cost` units of the budget (only the
`append` / `appendleft` steps need them).  `hdisk` is for the calls that write through a key read
back from a row, as in `step_drefines`: with `JSONDisk` the key read back is not the key of the
row, and `deque[i] = v` would add a row under a foreign key; `hpg`, `hrt` are for `rotate` /
`reverse`. -/
theorem step_okN (d : Deque) (n : Nat) (op : DOp) (hok : OkN d (n + op.cost (items d).length))
    (hdisk : op.byKey = true → d.cache.cfg.disk = .pickle)
    (hpg : 0 < d.cache.cfg.page) -- `reverse` clears the deque
    (hrt : op.restoreOk (absList d) d.cache.cfg = true) -- `rotate` / `reverse` store the values again
    : OkN (d.step op).1 n :=
  (step_inv d n op hok (fun _ => ⟨hdisk, hpg, hrt⟩)).1

theorem step_okN_basic (d : Deque) (n : Nat) (op : DOp) (hb : op.basic = true) (hok : OkN d (n + 1)) :
    OkN (d.step op).1 n :=
  (step_inv_basic d n op hb hok).1

theorem step_cfg (d : Deque) (n : Nat) (op : DOp) (hok : OkN d (n + op.cost (items d).length))
    (hdisk : op.byKey = true → d.cache.cfg.disk = .pickle) (hpg : 0 < d.cache.cfg.page)
    (hrt : op.restoreOk (absList d) d.cache.cfg = true) :
    (d.step op).1.cache.cfg = d.cache.cfg :=
  (step_inv d n op hok (fun _ => ⟨hdisk, hpg, hrt⟩)).2

theorem step_cfg_basic (d : Deque) (n : Nat) (op : DOp) (hb : op.basic = true) (hok : OkN d (n + 1)) :
    (d.step op).1.cache.cfg = d.cache.cfg :=
  (step_inv_basic d n op hb hok).2

/-- one call: its result is the bounded list's result, and the states correspond afterwards -/
theorem step_drefines (d : Deque) (m : DList) (n : Nat) (op : DOp)
    (hok : OkN d (n + op.cost (items d).length))
    (hr : DRefines d m)
    (hpg : 0 < d.cache.cfg.page) -- page size of the removal loop of `clear`
    (hdisk : op.byKey = true → d.cache.cfg.disk = .pickle) -- `deque[i]` and iteration read the keys back
    (hrt : op.restoreOk m d.cache.cfg = true) -- `rotate` / `reverse` store the values again (`DSpec.restores`)
    : (d.step op).2 = (DSpec.step m d.cache.cfg op).2 ∧
    DRefines (d.step op).1 (DSpec.step m d.cache.cfg op).1 := by
  cases op with
  | append E now v => exact append_drefines d m n E now v false hok hr
  | appendleft E now v => exact append_drefines d m n E now v true hok hr
  | pop E now => exact pop_drefines d m _ E now false hok hr
  | popleft E now => exact pop_drefines d m _ E now true hok hr
  | peek E now => exact peek_drefines d m _ E now false hok hr
  | peekleft E now => exact peek_drefines d m _ E now true hok hr
  | len => exact len_drefines d m _ hok hr
  | clear => exact clear_drefines d m _ hok hr hpg
  | getitem E now i => exact getitem_drefines d m _ E now i hok hr (hdisk rfl)
  | iter E now rev => exact iter_drefines d m _ E now rev hok hr (hdisk rfl)
  | extend E now vs => exact extend_drefines d m n E now vs false hok hr
  | extendleft E now vs => exact extend_drefines d m n E now vs true hok hr
  | setitem E now i v => exact setitem_drefines d m _ E now i v hok hr (hdisk rfl)
  | delitem E now i => exact delitem_drefines d m _ E now i hok hr (hdisk rfl)
  | count E now v => exact count_drefines d m _ E now v hok hr (hdisk rfl)
  | remove E now v => exact remove_drefines d m _ E now v hok hr (hdisk rfl)
  | compare E now op that => exact compare_drefines d m _ E now op that hok hr (hdisk rfl)
  | rotate E now steps => exact rotate_drefines d m n E now steps hok hr (restoreOk_rotate hrt)
  | reverse E now => exact reverse_drefines d m n E now hok hr hpg (hdisk rfl) (restoreOk_reverse hrt)
  | setMaxlen E now k => exact setMaxlen_drefines d m _ E now k hok hr

theorem step_drefines_basic (d : Deque) (m : DList) (n : Nat) (op : DOp) (hb : op.basic = true)
    (hok : OkN d (n + 1)) (hr : DRefines d m) (hpg : 0 < d.cache.cfg.page)
    (hdisk : op.byKey = true → d.cache.cfg.disk = .pickle) :
    (d.step op).2 = (DSpec.step m d.cache.cfg op).2 ∧
    DRefines (d.step op).1 (DSpec.step m d.cache.cfg op).1 :=
  step_drefines d m n op (by rw [cost_basic _ op hb]; exact hok) hr hpg hdisk (restoreOk_basic m _ op hb)

theorem run_cons (d : Deque) (op : DOp) (ops : List DOp) : d.run (op :: ops) = (d.step op).1.run ops := rfl

theorem spec_run_cons (m : DList) (cfg : Cfg) (op : DOp) (ops : List DOp) :
    DSpec.run m cfg (op :: ops) = DSpec.run (DSpec.step m cfg op).1 cfg ops := rfl

theorem costs_cons (m : DList) (cfg : Cfg) (op : DOp) (ops : List DOp) :
    DSpec.costs m cfg (op :: ops) = op.cost m.items.length + DSpec.costs (DSpec.step m cfg op).1 cfg ops := rfl

theorem costs_basic (m : DList) (cfg : Cfg) (ops : List DOp) (hb : ∀ op ∈ ops, op.basic = true) :
    DSpec.costs m cfg ops = ops.length := by
  induction ops generalizing m with
  | nil => rfl
  | cons op ops ih =>
    rw [costs_cons, cost_basic _ op (hb op List.mem_cons_self),
      ih _ (fun o ho => hb o (List.mem_cons_of_mem _ ho)), List.length_cons]
    omega

theorem restorable_cons (m : DList) (cfg : Cfg) (op : DOp) (ops : List DOp) :
    DSpec.restorable m cfg (op :: ops) =
      (op.restoreOk m cfg && DSpec.restorable (DSpec.step m cfg op).1 cfg ops) := rfl

theorem restorable_basic (m : DList) (cfg : Cfg) (ops : List DOp) (hb : ∀ op ∈ ops, op.basic = true) :
    DSpec.restorable m cfg ops = true := by
  induction ops generalizing m with
  | nil => rfl
  | cons op ops ih =>
    rw [restorable_cons, restoreOk_basic m cfg op (hb op List.mem_cons_self),
      ih _ (fun o ho => hb o (List.mem_cons_of_mem _ ho))]
    rfl

/-- the history theorem with everything the induction carries: results, final states, the
invariant with the remaining budget, the configuration -/
theorem drun_refines_strong (d : Deque) (m : DList) (ops : List DOp) (n : Nat) (hok : OkN d n)
    (hcost : DSpec.costs m d.cache.cfg ops ≤ n) (hr : DRefines d m) (hpg : 0 < d.cache.cfg.page)
    (hdisk : ∀ op ∈ ops, op.byKey = true → d.cache.cfg.disk = .pickle)
    (hrt : DSpec.restorable m d.cache.cfg ops = true) :
    Deque.outs d ops = DSpec.outs m d.cache.cfg ops ∧
    DRefines (Deque.run d ops) (DSpec.run m d.cache.cfg ops) ∧
    OkN (Deque.run d ops) (n - DSpec.costs m d.cache.cfg ops) ∧ (Deque.run d ops).cache.cfg = d.cache.cfg := by
  induction ops generalizing d m n with
  | nil => exact ⟨rfl, hr, hok, rfl⟩
  | cons op ops ih =>
    rw [costs_cons] at hcost
    rw [restorable_cons, Bool.and_eq_true] at hrt
    obtain ⟨hrt1, hrt2⟩ := hrt
    have hrt1' : op.restoreOk (absList d) d.cache.cfg = true := hr.eq ▸ hrt1
    have hlen := hr.length
    obtain ⟨k, rfl⟩ : ∃ k, n = k + op.cost (items d).length :=
      ⟨n - op.cost (items d).length, by rw [← hlen]; omega⟩
    have hd1 := hdisk op List.mem_cons_self
    have hcfg := step_cfg d k op hok hd1 hpg hrt1'
    obtain ⟨hs2, hs1⟩ := step_drefines d m k op hok hr hpg hd1 hrt1
    obtain ⟨h1, h2, h3, h4⟩ := ih (d.step op).1 (DSpec.step m d.cache.cfg op).1 k
      (step_okN d k op hok hd1 hpg hrt1')
      (by rw [hcfg]; rw [← hlen] at hcost; omega) hs1 (by rw [hcfg]; exact hpg)
      (fun o ho hb => by rw [hcfg]; exact hdisk o (List.mem_cons_of_mem _ ho) hb)
      (by rw [hcfg]; exact hrt2)
    rw [hcfg] at h1 h2 h3 h4
    refine ⟨?_, ?_, ?_, ?_⟩
    · show _ :: _ = _ :: _
      rw [hs2, h1]
    · rw [run_cons, spec_run_cons]; exact h2
    · rw [run_cons, costs_cons, hlen]
      have : k + op.cost (items d).length -
          (op.cost (items d).length + DSpec.costs (DSpec.step m d.cache.cfg op).1 d.cache.cfg ops) =
          k - DSpec.costs (DSpec.step m d.cache.cfg op).1 d.cache.cfg ops := by omega
      rw [this]; exact h3
    · rw [run_cons]; exact h4

/-- **the history theorem**: every call of a history returns what the bounded list returns, and
the final states correspond — for every history that fits the budget of the invariant. -/
theorem drun_refines (d : Deque) (m : DList) (ops : List DOp) (n : Nat) (hok : OkN d n)
    (hcost : DSpec.costs m d.cache.cfg ops ≤ n) (hr : DRefines d m)
    (hpg : 0 < d.cache.cfg.page) -- page size of the removal loop of `clear`
    (hdisk : ∀ op ∈ ops, op.byKey = true → d.cache.cfg.disk = .pickle) -- `deque[i]` / iteration need the pickle `Disk`
    (hrt : DSpec.restorable m d.cache.cfg ops = true) -- `rotate` / `reverse` store every value again as it was
    : Deque.outs d ops = DSpec.outs m d.cache.cfg ops ∧
    DRefines (Deque.run d ops) (DSpec.run m d.cache.cfg ops) := by
  obtain ⟨h1, h2, -⟩ := drun_refines_strong d m ops n hok hcost hr hpg hdisk hrt
  exact ⟨h1, h2⟩

theorem drun_refines_state (d : Deque) (m : DList) (ops : List DOp) (n : Nat) (hok : OkN d n)
    (hcost : DSpec.costs m d.cache.cfg ops ≤ n) (hr : DRefines d m) (hpg : 0 < d.cache.cfg.page)
    (hdisk : ∀ op ∈ ops, op.byKey = true → d.cache.cfg.disk = .pickle)
    (hrt : DSpec.restorable m d.cache.cfg ops = true) :
    DRefines (Deque.run d ops) (DSpec.run m d.cache.cfg ops) :=
  (drun_refines_strong d m ops n hok hcost hr hpg hdisk hrt).2.1

/-! #### histories of `DOp.basic` calls: one unit per call, no hypothesis on `rotate` / `reverse` -/

theorem drun_refines_strong_basic (d : Deque) (m : DList) (ops : List DOp) (n : Nat) (hok : OkN d n)
    (hb : ∀ op ∈ ops, op.basic = true)
    (hlen : ops.length ≤ n) (hr : DRefines d m) (hpg : 0 < d.cache.cfg.page)
    (hdisk : ∀ op ∈ ops, op.byKey = true → d.cache.cfg.disk = .pickle) :
    Deque.outs d ops = DSpec.outs m d.cache.cfg ops ∧
    DRefines (Deque.run d ops) (DSpec.run m d.cache.cfg ops) ∧
    OkN (Deque.run d ops) (n - ops.length) ∧ (Deque.run d ops).cache.cfg = d.cache.cfg := by
  have hc := costs_basic m d.cache.cfg ops hb
  have := drun_refines_strong d m ops n hok (by rw [hc]; exact hlen) hr hpg hdisk
    (restorable_basic m _ ops hb)
  rw [hc] at this
  exact this

theorem drun_refines_basic (d : Deque) (m : DList) (ops : List DOp) (n : Nat) (hok : OkN d n)
    (hb : ∀ op ∈ ops, op.basic = true)
    (hlen : ops.length ≤ n) (hr : DRefines d m)
    (hpg : 0 < d.cache.cfg.page)
    (hdisk : ∀ op ∈ ops, op.byKey = true → d.cache.cfg.disk = .pickle)
    : Deque.outs d ops = DSpec.outs m d.cache.cfg ops ∧
    DRefines (Deque.run d ops) (DSpec.run m d.cache.cfg ops) :=
  drun_refines d m ops n hok (by rw [costs_basic m d.cache.cfg ops hb]; exact hlen) hr hpg hdisk
    (restorable_basic m _ ops hb)

theorem drun_refines_state_basic (d : Deque) (m : DList) (ops : List DOp) (n : Nat) (hok : OkN d n)
    (hb : ∀ op ∈ ops, op.basic = true)
    (hlen : ops.length ≤ n) (hr : DRefines d m) (hpg : 0 < d.cache.cfg.page)
    (hdisk : ∀ op ∈ ops, op.byKey = true → d.cache.cfg.disk = .pickle) :
    DRefines (Deque.run d ops) (DSpec.run m d.cache.cfg ops) :=
  (drun_refines_basic d m ops n hok hb hlen hr hpg hdisk).2

/-- the empty Deque (any `maxlen`) satisfies the invariant with every budget `N` that fits between
the origin and both ends of the key range: `N ≤ qorigin` and `qorigin + N ≤ 999999999999999` -/
theorem okN_init (cf : Cfg) (ml : Option Nat) (N : Nat) (hp : cf.policy = .none)
    (hq : 1 ≤ cf.qorigin ∧ cf.qorigin ≤ 999999999999998)
    (hN : N ≤ cf.qorigin ∧ cf.qorigin + N ≤ 999999999999999) :
    OkN { cache := { cfg := cf }, maxlen := ml } N where
  good := good_init cf false
  pol := hp
  noexp := fun r hr => by cases hr
  allq := fun r hr => by cases hr
  qok := fun r hr => by cases hr
  room := fun r hr => by cases hr
  origin := hq
  originN := hN
  stats := rfl
  bounded := fun m _ => Nat.zero_le _
  readable := fun r hr => by cases hr

/-- `Deque(maxlen=ml)` on a fresh directory: policy 'none', everything else as in core.py -/
def fresh (ml : Option Nat) : Deque := { cache := { cfg := { policy := .none } }, maxlen := ml }

/-- with the origin of core.py (500000000000000) the budget of the empty Deque is exactly
499999999999999 calls: that many `append`s reach the last usable key 999999999999998 -/
theorem okN_empty (ml : Option Nat) : OkN (fresh ml) 499999999999999 :=
  okN_init _ ml _ rfl (by decide) (by decide)

theorem okN_empty_max (ml : Option Nat) : ¬ OkN (fresh ml) (499999999999999 + 1) := by
  intro h
  have : (500000000000000 : Nat) + (499999999999999 + 1) ≤ 999999999999999 := h.originN.2
  omega

theorem drefines_init (cf : Cfg) (ml : Option Nat) :
    DRefines { cache := { cfg := cf }, maxlen := ml } { items := [], maxlen := ml } := ⟨rfl, rfl⟩

/-- **what a user sees**: after any history that uses at most 499999999999999 units of the key budget on a fresh Deque
(pickle `Disk`, any `maxlen`), `list(deque)` is exactly the list `collections.deque(maxlen)` holds
after the same calls. -/
theorem list_after_history (ml : Option Nat) (ops : List DOp) (E : Externals) (now : Int)
    (hcost : DSpec.costs { items := [], maxlen := ml } (fresh ml).cache.cfg ops ≤ 499999999999999)
    (hrt : DSpec.restorable { items := [], maxlen := ml } (fresh ml).cache.cfg ops = true) -- `rotate` / `reverse` store every value again as it was
    :
    (((fresh ml).run ops).iterVals E now false).2 =
      .list ((DSpec.run { items := [], maxlen := ml } (fresh ml).cache.cfg ops).items.map
        (fun e => valueOf e E (fresh ml).cache.cfg)) := by
  obtain ⟨-, h2, h3, h4⟩ := drun_refines_strong (fresh ml) { items := [], maxlen := ml } ops
    499999999999999 (okN_empty ml) hcost (drefines_init _ ml)
    (show 0 < (100 : Nat) by decide) (fun _ _ _ => rfl) hrt
  have := (iter_drefines _ _ _ E now false h3 h2 (by rw [h4]; rfl)).1
  rw [h4] at this
  exact this

theorem list_after_history_basic (ml : Option Nat) (ops : List DOp) (E : Externals) (now : Int)
    (hb : ∀ op ∈ ops, op.basic = true)
    (hlen : ops.length + 1 ≤ 499999999999999) :
    (((fresh ml).run ops).iterVals E now false).2 =
      .list ((DSpec.run { items := [], maxlen := ml } (fresh ml).cache.cfg ops).items.map
        (fun e => valueOf e E (fresh ml).cache.cfg)) :=
  list_after_history ml ops E now (by rw [costs_basic _ _ ops hb]; omega) (restorable_basic _ _ ops hb)

/-- **what a user sees, one codec**: when every call observes the same codec `E` and `loads`
inverts `dumps` for it (`Lawful E`), the hypothesis about `rotate` / `reverse` holds by itself:
after any history that fits the key budget, `list(deque)` is the list `collections.deque(maxlen)`
holds after the same calls. -/
theorem list_after_history_lawful (ml : Option Nat) (ops : List DOp) (E : Externals) (hE : Lawful E) (now : Int)
    (hcost : DSpec.costs { items := [], maxlen := ml } (fresh ml).cache.cfg ops ≤ 499999999999999)
    (hops : ∀ op ∈ ops, ∀ E', op.codec = some E' → E' = E) :
    (((fresh ml).run ops).iterVals E now false).2 =
      .list ((DSpec.run { items := [], maxlen := ml } (fresh ml).cache.cfg ops).items.map
        (fun e => valueOf e E (fresh ml).cache.cfg)) :=
  list_after_history ml ops E now hcost
    (restorable_lawful E hE _ ops _ hops (fun e he => by cases he))

/-- a codec satisfying `Lawful` (the injective toy pickle of DC/Properties/C11.lean for keys, values
and JSON alike) -/
def exLawE : Externals :=
  { dumpsK := exL.dumpsK, dumpsV := exL.dumpsK, loads := exL.loads, jsonz := exL.dumpsK, unjsonz := exL.loads }

theorem exLawE_lawful : Lawful exLawE := ⟨exL_lawful, exL_lawful, exL_lawful⟩

example (now : Int) :
    let ops : List DOp := [.extend exLawE 0 [.none, .int 2, .obj [7]], .rotate exLawE 1 1, .reverse exLawE 2]
    (((fresh (some 2)).run ops).iterVals exLawE now false).2 =
      .list ((DSpec.run { items := [], maxlen := some 2 } (fresh (some 2)).cache.cfg ops).items.map
        (fun e => valueOf e exLawE (fresh (some 2)).cache.cfg)) :=
  list_after_history_lawful (some 2) _ exLawE exLawE_lawful now (by decide +kernel)
    (fun op hop E' hE' => by
      simp only [List.mem_cons, List.not_mem_nil, or_false] at hop
      rcases hop with rfl | rfl | rfl <;> cases hE' <;> rfl)

/-- an `append` that cannot store its value raises and changes nothing: a text value with a lone
surrogate — `deque.append('\\ud800')` — makes `Cache.push` fail with UnicodeEncodeError inside the
block; the exception propagates, the block is rolled back (table and files as before, no
transaction left open), exactly as the specification says.  (A concrete instance of the failure
branch of `append_drefines`; the deque holds one item before the call.) -/
theorem append_propagates_error :
    let d := ((fresh none).append toyV 0 (.int 7) false).1
    let d' := (d.append toyV 1 (.str [0xD800]) false).1
    (match (d.append toyV 1 (.str [0xD800]) false).2 with
      | .exc "UnicodeEncodeError" => true | _ => false) = true ∧
    (match (DSpec.append { items := (items d).map (entryOfRow d.cache) } toyV d.cache.cfg (.str [0xD800]) false).2 with
      | .exc "UnicodeEncodeError" => true | _ => false) = true ∧
    d'.cache.rows = d.cache.rows ∧ d'.cache.files = d.cache.files ∧ d'.cache.depth = 0 ∧
    d'.cache.snap.isNone = true ∧ storable toyV d.cache.cfg (.str [0xD800]) = false := by
  decide +kernel

/-- non-vacuity: a concrete history on a fresh Deque with `maxlen = 2`: three appends (the third on
the full deque drops the front item), an `appendleft` on the full deque (drops the back item),
`len`, `peek`, `deque[-1]`, `list(reversed(deque))`, `popleft`, `pop`, `pop` on the empty deque,
`clear`. -/
def exD : Deque := { cache := { cfg := { policy := .none } }, maxlen := some 2 }

def exDOps : List DOp :=
  [ .append toyV 0 (.int 1), .append toyV 1 (.int 2), .append toyV 2 (.int 3),
    .appendleft toyV 3 (.str [97]), .len, .peek toyV 4, .getitem toyV 5 (-1), .iter toyV 6 true,
    .popleft toyV 7, .pop toyV 8, .pop toyV 9, .clear ]

example : Deque.outs exD exDOps = DSpec.outs { maxlen := some 2 } exD.cache.cfg exDOps ∧
    DRefines (Deque.run exD exDOps) (DSpec.run { maxlen := some 2 } exD.cache.cfg exDOps) :=
  drun_refines exD { maxlen := some 2 } exDOps 499999999999999 (okN_empty _) (by decide)
    (drefines_init _ _) (by decide) (fun _ _ _ => rfl) (by decide)

/-- what the bounded list (and therefore the Deque) returns along that history -/
example : DSpec.outs { maxlen := some 2 } exD.cache.cfg exDOps =
    [.none, .none, .none, .none, .int 2, .val (.int 2), .val (.int 2),
     .list [.val (.int 2), .val (.str [97])], .val (.str [97]), .val (.int 2), .exc "IndexError", .none] := by
  rfl

example : Deque.outs exD exDOps =
    [.none, .none, .none, .none, .int 2, .val (.int 2), .val (.int 2),
     .list [.val (.int 2), .val (.str [97])], .val (.str [97]), .val (.int 2), .exc "IndexError", .none] :=
  (drun_refines exD { maxlen := some 2 } exDOps 499999999999999 (okN_empty _) (by decide)
    (drefines_init _ _) (by decide) (fun _ _ _ => rfl) (by decide)).1.trans (by rfl)

/-- the items after the first four calls: `['a', 2]` -/
example : ((DSpec.run { maxlen := some 2 } exD.cache.cfg (exDOps.take 4)).items.map
    (fun e => valueOf e toyV exD.cache.cfg)) = [.val (.str [97]), .val (.int 2)] := by
  rfl

/-! ### non-vacuity for the calls outside `DOp.basic`

A history on a fresh Deque with `maxlen = 3` that uses every call outside `DOp.basic`: `extend` beyond the bound,
`extendleft` on the full deque, assignment by negative index, `rotate` in both directions (more
steps than items), `count` with `9 == 9.0`, an ordering that is decided by the second pair and one
that raises TypeError, `reverse`, deletion by index, `remove` (present, then absent: ValueError),
shrinking `maxlen` to 0, assignment out of range (IndexError), iteration. -/

def exD3 : Deque := { cache := { cfg := { policy := .none } }, maxlen := some 3 }

def exD3Ops : List DOp :=
  [ .extend toyV 0 [.int 1, .int 2, .int 3, .int 4], .extendleft toyV 1 [.str [97], .str [98]],
    .setitem toyV 2 (-1) (.int 9), .iter toyV 2 false, .rotate toyV 3 1, .rotate toyV 4 (-5), .iter toyV 4 false,
    .count toyV 5 (.float 0x4022000000000000), .compare toyV 6 .lt [.str [97], .int 10],
    .compare toyV 7 .lt [.int 1], .compare toyV 7 .eq [.str [97], .float 0x4022000000000000, .str [98]], .reverse toyV 8, .iter toyV 8 false,
    .delitem toyV 9 1, .remove toyV 10 (.str [97]), .remove toyV 11 (.str [122]), .len,
    .setMaxlen toyV 12 0, .setitem toyV 13 0 (.int 1), .delitem toyV 13 0, .iter toyV 14 false,
    .extend toyV 15 [.int 1, .str [0xD800], .int 3] ]

/-- the hypotheses of the history theorem hold for it: 4 + 2 + 1 + 1 + 2 + 3 + … units of the
budget, every rotated / reversed item is stored again as it was -/
example : DSpec.costs { maxlen := some 3 } exD3.cache.cfg exD3Ops = 31 ∧
    DSpec.restorable { maxlen := some 3 } exD3.cache.cfg exD3Ops = true := by decide +kernel

example : Deque.outs exD3 exD3Ops = DSpec.outs { maxlen := some 3 } exD3.cache.cfg exD3Ops ∧
    DRefines (Deque.run exD3 exD3Ops) (DSpec.run { maxlen := some 3 } exD3.cache.cfg exD3Ops) :=
  drun_refines exD3 { maxlen := some 3 } exD3Ops 499999999999999 (okN_empty _) (by decide +kernel)
    (drefines_init _ _) (by decide) (fun _ _ _ => rfl) (by decide +kernel)

/-- what the bounded list (and therefore the Deque) returns along that history -/
example : (match DSpec.outs { maxlen := some 3 } exD3.cache.cfg exD3Ops with
    | [.none, .none, .none, .list [.val (.str [98]), .val (.str [97]), .val (.int 9)], .none, .none,
       .list [.val (.str [97]), .val (.int 9), .val (.str [98])],
       .int 1, .bool true, .exc "TypeError", .bool true, .none,
       .list [.val (.str [98]), .val (.int 9), .val (.str [97])],
       .none, .none, .exc "ValueError", .int 1, .none, .exc "IndexError", .exc "IndexError", .list [],
       .exc "UnicodeEncodeError"] => true
    | _ => false) = true := by
  decide +kernel

/-! ### why `rotate` / `reverse` need `DSpec.restores`

A codec whose `loads` does not invert `dumpsV`: the object `o` is stored as the pickle `[7]`, read
back as `None`, and `None` is stored as the pickle `[9]`.  `rotate(1)` pops `o` at the back and
appends what it read at the front: the deque now holds the stored form of `None`, the rotated list
still holds the stored form of `o`. -/

def exBadE : Externals :=
  { toyV with dumpsV := fun v => match v with | .none => [9] | _ => [7], loads := fun _ => .none }

def exBadD : Deque := ((fresh none).extend exBadE 0 [.int 5, .obj [1]] false).1

theorem rotate_needs_restores :
    OkN exBadD 1 ∧ DRefines exBadD (absList exBadD) ∧
    (DOp.rotate exBadE 1 1).cost (items exBadD).length = 1 ∧
    (DOp.rotate exBadE 1 1).restoreOk (absList exBadD) exBadD.cache.cfg = false ∧
    (items (exBadD.rotate exBadE 1 1).1).map (entryOfRow (exBadD.rotate exBadE 1 1).1.cache) ≠
      (DSpec.rotate (absList exBadD) 1).1.items := by
  refine ⟨?_, drefines_self _, by decide +kernel, by decide +kernel, by decide +kernel⟩
  have h := extend_okN (fresh none) 1 exBadE 0 [.int 5, .obj [1]] false
    (OkN.weaken (k := 499999999999996) (okN_empty none))
  exact h

/-- with a codec that inverts itself (`toyV`) the same two calls agree -/
example :
    let d := ((fresh none).extend toyV 0 [.int 5, .obj [1]] false).1
    (DOp.rotate toyV 1 1).restoreOk (absList d) d.cache.cfg = true ∧
    (items (d.rotate toyV 1 1).1).map (entryOfRow (d.rotate toyV 1 1).1.cache) =
      (DSpec.rotate (absList d) 1).1.items := by
  decide +kernel

/-! ### `rotate` / `reverse` when a value that was read back cannot be stored again

A codec whose `loads` gives a text with a lone surrogate: the object `o` is stored as a pickle, read
back as `'\ud800'`, and that text cannot be stored.  `rotate(1)` pops `o` and the re-append raises:
UnicodeEncodeError propagates out of `rotate`, the popped item is lost (persistent.py:629-633), no
transaction is left open.  `reverse()` raises while filling its temporary Deque, before the
`clear`: the deque is untouched (persistent.py:590).  (Outside `DSpec.restores`, so outside the
refinement theorems — these two tie the model to the Python code there.) -/

def exBadE2 : Externals := { toyV with loads := fun _ => .str [0xD800] }

def exBadD2 : Deque := ((fresh none).extend exBadE2 0 [.int 5, .obj [1]] false).1

theorem rotate_propagates_error :
    exBadD2.cache.rows.length = 2 ∧
    (match (exBadD2.rotate exBadE2 1 1).2 with | .exc "UnicodeEncodeError" => true | _ => false) = true ∧
    (exBadD2.rotate exBadE2 1 1).1.cache.rows = exBadD2.cache.rows.take 1 ∧
    (exBadD2.rotate exBadE2 1 1).1.cache.depth = 0 ∧
    (DOp.rotate exBadE2 1 1).restoreOk (absList exBadD2) exBadD2.cache.cfg = false := by
  decide +kernel

theorem reverse_error_leaves_unchanged :
    (match (exBadD2.reverse exBadE2 1).2 with | .exc "UnicodeEncodeError" => true | _ => false) = true ∧
    (exBadD2.reverse exBadE2 1).1.cache.rows = exBadD2.cache.rows ∧
    (exBadD2.reverse exBadE2 1).1.cache.files = exBadD2.cache.files ∧
    (exBadD2.reverse exBadE2 1).1.cache.depth = 0 ∧
    (match (exBadD2.iterVals exBadE2 2 false).2 with
      | .list [.val (.int 5), .val (.str [0xD800])] => true | _ => false) = true := by
  decide +kernel

/-! ### why `deque[i] = v` needs the pickle `Disk`

On the JSONDisk deque of `exDqJson_getitem` (DC/Properties/C11.lean: `Ok`, one item) the key read
back from the row is not the key of the row: the assignment ADDS a row instead of replacing the
item, the deletion raises IndexError; the bounded list replaces / removes the item. -/
theorem setitem_needs_pickle :
    Ok exDqJson ∧ exDqJson.cache.rows.length = 1 ∧
    (exDqJson.setitem exL 0 0 (.int 7)).1.cache.rows.length = 2 ∧
    (match (exDqJson.delitem exL 0 0).2 with | .exc "IndexError" => true | _ => false) = true ∧
    (DSpec.setitem (absList exDqJson) exL exDqJson.cache.cfg 0 (.int 7)).1.items.length = 1 ∧
    (match (DSpec.delitem (absList exDqJson) 0).2 with | .none => true | _ => false) = true :=
  ⟨exDqJson_ok, rfl, by decide +kernel, by decide +kernel, by decide +kernel, by decide +kernel⟩

/-! ### why the invariant is budgeted

Beyond the budget the next queue number is 999999999999999 — the upper bound of the queue key
range, which is exclusive: the pushed row is not a member of the queue, `len` counts it but no
`pop` ever returns it.  From the default origin this takes 500000000000000 `append`s, so it is
shown here on a Deque whose origin is the last usable number. -/

def exEdge : Deque := { cache := { cfg := { policy := .none, qorigin := 999999999999998 } } }

def exEdgeOps : List DOp := [.append toyV 0 (.int 1), .append toyV 1 (.int 2), .len, .pop toyV 2, .pop toyV 3]

theorem budget_needed :
    OkN exEdge 1 ∧ ¬ OkN exEdge 2 ∧
    (match Deque.outs exEdge exEdgeOps with
      | [.none, .none, .int 2, .val (.int 1), .exc "IndexError"] => true | _ => false) = true ∧
    (match DSpec.outs {} exEdge.cache.cfg exEdgeOps with
      | [.none, .none, .int 2, .val (.int 2), .val (.int 1)] => true | _ => false) = true := by
  refine ⟨okN_init _ none 1 rfl (by decide) (by decide), ?_, by decide +kernel, by decide +kernel⟩
  intro h
  have : (999999999999998 : Nat) + 2 ≤ 999999999999999 := h.originN.2
  omega

end DC.Deque
