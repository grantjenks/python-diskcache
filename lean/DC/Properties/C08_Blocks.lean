/-
C08 for histories WITH transaction blocks.

The full statement ("after ANY history that ends outside every block the check is quiet") is
FALSE in the model, and in the real code (witness below, replayed on /repo):
* D9b: a call that fails inside a block after writing its value file (caught by the caller),
  block then COMMITS: the file stays, no row refers to it (`block_commit_leaks`).
Positive theorems: a flat block of calls, committed or aborted, maps `Good` to `Good` provided the
state at the end of the block satisfies the corresponding side condition (`NoLeak` / `Registered`,
both decidable on concrete states).  `NoLeak` is necessary by the witness.  `Registered` holds for
every block of covered calls (`block_registered`), so aborted blocks need no side condition
(`block_abort_clean`).  `incr` is the call that writes its value file INSIDE its transaction body;
it registers the file through `Cache.regCreated` (finding D24, fixed in /repo bbcbe5d; instance:
`block_abort_incr_clean`).
-/
import DC.Properties.C08_Check
import DC.Proofs.BlockOps

namespace DC.Cache

open DC.Check (St)

/-- the calls covered inside a block -/
def Op.inBlock : Op → Bool
  | .set .. | .add .. | .touch .. | .incr .. | .get .. | .contains .. | .pop .. | .delitem .. | .delete ..
  | .push .. | .pull .. | .peek .. | .peekitem .. | .clear | .evict .. | .expire .. | .cull ..
  | .iter .. | .iterkeys .. | .len | .stats .. | .observe .. => true
  | _ => false

theorem Op.inBlock_flat {op : Op} (h : op.inBlock = true) : op.flat = true := by
  cases op <;> simp_all [Op.inBlock, Op.flat]

/-- every file created in the block that is still unreferenced at its end is scheduled for
removal (fails exactly in the situation of D9b) -/
def NoLeak (x : Cache) : Prop :=
  ∀ f ∈ x.created, some f ∈ x.pending ∨ ∃ r ∈ x.rows, r.file = some f

/-- no row refers to a file scheduled for removal.  It follows from the block invariant
(`block_pendRef`: file numbers pending removal are below the allocation counter, so the next file
written is never one of them). -/
def PendRef (x : Cache) : Prop :=
  ∀ r ∈ x.rows, ∀ f, r.file = some f → some f ∉ x.pending

/-- every file written since the block began is registered for removal on rollback (a theorem for
the covered calls: `block_registered`) -/
def Registered (s x : Cache) : Prop :=
  ∀ p ∈ x.files, p ∈ s.files ∨ p.1 ∈ x.created

/-- a covered call inside a block keeps the invariant and registers every file it writes -/
theorem step_BG {x : Cache} (hd : 0 < x.depth) (op : Op) (hin : op.inBlock = true) (h : BI x) :
    BG x (x.step op).1 := by
  have h0 := BG.start hd h
  cases op <;> simp only [Op.inBlock, Bool.false_eq_true] at hin <;> simp only [step]
  · exact set_BG hd h _ _ _ _ _ _ _
  · exact add_BG hd h _ _ _ _ _ _ _
  · exact touch_BG hd h _ _ _ _
  · exact incr_BG hd h _ _ _ _ _
  · exact get_BG hd h _ _ _ _ _ _
  · exact h0.of_core rfl
  · exact pop_BG hd h _ _ _ _ _
  · exact delitem_BG hd h _ _ _
  · exact delete_BG hd h _ _ _
  · exact push_BG hd h _ _ _ _ _ _ _ _
  · exact pull_BG hd h _ _ _ _ _ _
  · exact peek_BG hd h _ _ _ _ _ _
  · exact peekitem_BG hd h _ _ _ _ _
  · exact clear_BG hd h
  · exact evict_BG hd h _
  · exact expire_BG hd h _
  · exact cull_BG hd h _
  · exact h0.of_core (iter_core x _ _)
  · exact h0.of_core (iterkeys_core x _ _)
  · exact h0.of_core rfl
  · rw [stats_fst]; exact ⟨hd, h.same rfl rfl rfl rfl rfl, Grow.of_eq rfl rfl⟩
  · exact ⟨hd, h.same rfl rfl rfl rfl rfl, Grow.of_eq rfl rfl⟩

theorem step_BI {x : Cache} (hd : 0 < x.depth) (op : Op) (hin : op.inBlock = true) (h : BI x) :
    BI (x.step op).1 := (step_BG hd op hin h).bi

theorem run_BG {x : Cache} (hd : 0 < x.depth) (ops : List Op) (hin : ∀ op ∈ ops, op.inBlock = true)
    (h : BI x) : BI (x.run ops) ∧ Grow x (x.run ops) := by
  induction ops generalizing x with
  | nil => exact ⟨h, Grow.refl x⟩
  | cons op ops ih =>
    have h1 := step_BG hd op (hin op List.mem_cons_self) h
    have h2 := ih h1.pos (fun o ho => hin o (List.mem_cons_of_mem _ ho)) h1.bi
    exact ⟨h2.1, h1.grow.trans h2.2⟩

theorem run_BI {x : Cache} (hd : 0 < x.depth) (ops : List Op) (hin : ∀ op ∈ ops, op.inBlock = true)
    (h : BI x) : BI (x.run ops) := (run_BG hd ops hin h).1

theorem tbegin_eq {s : Cache} (hd : s.depth = 0) :
    s.tbegin = { (s.log .begin) with depth := 1, snap := some s.takeSnap, pending := [], created := [] } := by
  unfold tbegin; rw [if_pos (by simp [hd])]

theorem tbegin_BI {s : Cache} (hg : Good s) : BI s.tbegin := by
  refine ⟨[], ?_, ⟨(fun f hf => by cases hf), ?_⟩⟩
  · have : fcore s.tbegin = core s := by
      rw [tbegin_eq hg.depth]
      simp only [fcore, qz, core, log, hg.depth, hg.snap, hg.pending, hg.created]
    rw [this]; exact hg.pi
  · intro f hf
    rw [tbegin_eq hg.depth] at hf
    cases hf

theorem block_end {s : Cache} (hg : Good s) (ops : List Op) (hin : ∀ op ∈ ops, op.inBlock = true) :
    BI (s.tbegin.run ops) ∧ Blk s.tbegin (s.tbegin.run ops) ∧ (s.tbegin.run ops).depth = 1 ∧
    (s.tbegin.run ops).snap = some s.takeSnap := by
  have hb := tbegin_eq hg.depth
  have hd : 0 < s.tbegin.depth := by rw [hb]; exact Nat.one_pos
  have h := run_blk (Blk.refl hd) ops (fun op ho => Op.inBlock_flat (hin op ho))
  exact ⟨run_BI hd ops hin (tbegin_BI hg), h, by rw [h.depth, hb], by rw [h.snap, hb]⟩

theorem block_pendRef (s : Cache) (hg : Good s) (ops : List Op) (hin : ∀ op ∈ ops, op.inBlock = true) :
    PendRef (s.tbegin.run ops) := by
  obtain ⟨⟨cl, hP, hS⟩, -, -, -⟩ := block_end hg ops hin
  intro r hr f hf hp
  exact (hP.ref r hr f hf).1 (hS.pend f hp).1

/-- a flat block that COMMITS keeps `Good`, if nothing leaked (`NoLeak`, necessary: D9b) -/
theorem block_commit_good (s : Cache) (hg : Good s) (ops : List Op)
    (hin : ∀ op ∈ ops, op.inBlock = true)
    (hnl : NoLeak (s.tbegin.run ops)) :
    Good (s.tbegin.run ops).tend := by
  obtain ⟨⟨cl, hP, hS⟩, -, hd1, -⟩ := block_end hg ops hin
  have hti : TableInv (s.tbegin.run ops).tend := tend_inv _ (run_inv _ ops (tbegin_inv _ hg.tinv))
  generalize s.tbegin.run ops = x at *
  apply good_of_pi hti
  have hc : core x.tend = { fcore x with files := x.files.filter (fun p => !x.pending.contains (some p.1)) } := by
    rw [tend_one x hd1]
    show ({ core (Cache.fremoveAll _ _) with pending := [], created := [] } : Core) = _
    rw [core_fremoveAll]
    rfl
  rw [hc]
  -- the files still awaiting removal are exactly the pending ones: one that was created and is
  -- not pending is referenced by a row (`NoLeak`), and no row refers to a file of the list
  refine PI.finish (cl := x.pending) (hP.cl_congr fun f => ?_)
  rw [List.append_nil]
  refine ⟨fun h => (hS.pend f h).1, fun h => ?_⟩
  rcases hS.inn f h with h2 | h2
  · exact h2
  · rcases hnl f h2 with h3 | ⟨r, hr, hf⟩
    · exact h3
    · exact absurd h (hP.ref r hr f hf).1

/-- a flat block that ABORTS (an exception leaves it: `traise n`, `n ≥ 1`) keeps `Good`, if every
file written in the block was registered (`Registered`) -/
theorem block_abort_good (s : Cache) (hg : Good s) (ops : List Op)
    (hin : ∀ op ∈ ops, op.inBlock = true) (n : Nat) (hn : 1 ≤ n)
    (hreg : Registered s (s.tbegin.run ops)) :
    Good ((s.tbegin.run ops).traise n) := by
  obtain ⟨⟨cl, hP, hS⟩, hblk, hd1, hsnap⟩ := block_end hg ops hin
  have hti : TableInv ((s.tbegin.run ops).traise n) :=
    traise_inv _ n (run_inv _ ops (tbegin_inv _ hg.tinv))
  have hb := tbegin_eq hg.depth
  have hold : ∀ p ∈ s.files, p ∈ (s.tbegin.run ops).files := by
    intro p hp; apply hblk.files; rw [hb]; exact hp
  have hcr : ∀ f ∈ (s.tbegin.run ops).created, s.nfile ≤ f := by
    intro f hf
    rcases hblk.created f hf with h1 | h1
    · rw [hb] at h1; cases h1
    · rw [hb] at h1; exact h1
  generalize s.tbegin.run ops = x at *
  apply good_of_pi hti
  have hc : core (x.traise n) = { ({ fcore x with rows := s.rows } : Core) with
      files := x.files.filter (fun p => !((x.created.map Option.some).contains (Option.some p.1))) } := by
    rw [traise_outer x n s.takeSnap (by omega) (by omega) hsnap]
    show ({ core (Cache.fremoveAll _ _) with pending := [], created := [] } : Core) = _
    rw [core_fremoveAll]
    rfl
  rw [hc]
  have hgp := hg.pi
  constructor
  · exact hgp.uid
  · intro r hr f hf
    obtain ⟨-, ct, h1, h2⟩ := hgp.ref r hr f hf
    refine ⟨by simp, ct, List.mem_filter.2 ⟨hold _ h1, ?_⟩, h2⟩
    have hlt := hgp.fresh _ h1
    have hnm : f ∉ x.created := by
      intro hm
      have := hcr f hm
      simp only [core_nfile] at hlt
      omega
    simpa [List.mem_map] using hnm
  · exact hgp.inj
  · intro p hp; exact hP.fresh p (List.mem_filter.1 hp).1
  · exact hP.nodup.sublist (List.filter_sublist.map _)
  · intro p hp
    obtain ⟨hp1, hp2⟩ := List.mem_filter.1 hp
    have hnc : p.1 ∉ x.created := by
      simpa [List.mem_map] using hp2
    rcases hreg p hp1 with h1 | h1
    · exact .inl (hg.noOrphan p h1)
    · exact absurd h1 hnc
  · rfl
  · rfl
  · rfl
  · rfl

/-- `Registered` holds at the end of every flat block of covered calls: every file written in the
block is registered for removal on rollback -/
theorem block_registered (s : Cache) (hg : Good s) (ops : List Op) (hin : ∀ op ∈ ops, op.inBlock = true) :
    Registered s (s.tbegin.run ops) := by
  have hb := tbegin_eq hg.depth
  have hd : 0 < s.tbegin.depth := by rw [hb]; exact Nat.one_pos
  have h := (run_BG hd ops hin (tbegin_BI hg)).2
  intro p hp
  rcases h.files p hp with h1 | h1
  · left; rw [hb] at h1; exact h1
  · exact .inr h1

/-- a flat block of covered calls that ABORTS keeps `Good`: no side condition -/
theorem block_abort_clean (s : Cache) (hg : Good s) (ops : List Op)
    (hin : ∀ op ∈ ops, op.inBlock = true) (n : Nat) (hn : 1 ≤ n) :
    Good ((s.tbegin.run ops).traise n) :=
  block_abort_good s hg ops hin n hn (block_registered s hg ops hin)

/-- C08 after a committed flat block: the only side condition is `NoLeak` -/
theorem block_commit_check_quiet (s : Cache) (hg : Good s) (ops : List Op)
    (hin : ∀ op ∈ ops, op.inBlock = true)
    (hnl : NoLeak (s.tbegin.run ops))
    (st : St) (ho : Observes (s.tbegin.run ops).tend st) : CheckQuiet st :=
  good_check_quiet _ st (block_commit_good s hg ops hin hnl) ho

/-- the same with `PendRef` as a hypothesis, which `block_pendRef` makes redundant -/
theorem block_commit_good_partial (s : Cache) (hg : Good s) (ops : List Op)
    (hin : ∀ op ∈ ops, op.inBlock = true)
    (hnl : NoLeak (s.tbegin.run ops)) (_hpr : PendRef (s.tbegin.run ops)) :
    Good (s.tbegin.run ops).tend := block_commit_good s hg ops hin hnl

theorem block_commit_check_quiet_partial (s : Cache) (hg : Good s) (ops : List Op)
    (hin : ∀ op ∈ ops, op.inBlock = true)
    (hnl : NoLeak (s.tbegin.run ops)) (_hpr : PendRef (s.tbegin.run ops))
    (st : St) (ho : Observes (s.tbegin.run ops).tend st) : CheckQuiet st :=
  block_commit_check_quiet s hg ops hin hnl st ho

theorem block_abort_check_quiet (s : Cache) (hg : Good s) (ops : List Op)
    (hin : ∀ op ∈ ops, op.inBlock = true) (n : Nat) (hn : 1 ≤ n)
    (hreg : Registered s (s.tbegin.run ops))
    (st : St) (ho : Observes ((s.tbegin.run ops).traise n) st) : CheckQuiet st :=
  good_check_quiet _ st (block_abort_good s hg ops hin n hn hreg) ho

/-- C08 after an aborted flat block of covered calls: no side condition -/
theorem block_abort_check_quiet_clean (s : Cache) (hg : Good s) (ops : List Op)
    (hin : ∀ op ∈ ops, op.inBlock = true) (n : Nat) (hn : 1 ≤ n)
    (st : St) (ho : Observes ((s.tbegin.run ops).traise n) st) : CheckQuiet st :=
  good_check_quiet _ st (block_abort_clean s hg ops hin n hn) ho

/-- one segment of a history: a call outside any block, or a whole flat block that commits, or
one that aborts -/
inductive Seg where
  | call (op : Op)
  | commit (ops : List Op)
  | abort (ops : List Op) (n : Nat)

def Seg.ops : Seg → List Op
  | .call op => [op]
  | .commit ops => Op.tbegin :: ops ++ [Op.tend]
  | .abort ops n => Op.tbegin :: ops ++ [Op.traise n]

def Seg.ok (c : Cache) : Seg → Prop
  | .call op => op.opens = false
  | .commit ops => (∀ op ∈ ops, op.inBlock = true) ∧ NoLeak (c.tbegin.run ops)
  | .abort ops n => (∀ op ∈ ops, op.inBlock = true) ∧ 1 ≤ n ∧ Registered c (c.tbegin.run ops)

/-- all segments are fine, each judged in the state it starts in -/
def QuietHist : Cache → List Seg → Prop
  | _, [] => True
  | c, g :: gs => g.ok c ∧ QuietHist (c.run g.ops) gs

def histOps (gs : List Seg) : List Op := gs.flatMap Seg.ops

theorem run_append (c : Cache) (a b : List Op) : c.run (a ++ b) = (c.run a).run b := by
  simp [run, List.foldl_append]

theorem seg_good (c : Cache) (hg : Good c) (g : Seg) (hok : g.ok c) : Good (c.run g.ops) := by
  cases g with
  | call op => exact step_good_unopened c op hok hg
  | commit ops =>
    obtain ⟨h1, h2⟩ := hok
    show Good (c.run (Op.tbegin :: ops ++ [Op.tend]))
    have : c.run (Op.tbegin :: ops ++ [Op.tend]) = (c.tbegin.run ops).tend := by
      show (c.tbegin).run (ops ++ [Op.tend]) = _
      rw [run_append]; rfl
    rw [this]
    exact block_commit_good c hg ops h1 h2
  | abort ops n =>
    obtain ⟨h1, h2, h3⟩ := hok
    have : c.run (Op.tbegin :: ops ++ [Op.traise n]) = (c.tbegin.run ops).traise n := by
      show (c.tbegin).run (ops ++ [Op.traise n]) = _
      rw [run_append]; rfl
    show Good (c.run (Op.tbegin :: ops ++ [Op.traise n]))
    rw [this]
    exact block_abort_good c hg ops h1 n h2 h3

theorem hist_good (c : Cache) (hg : Good c) (gs : List Seg) (hq : QuietHist c gs) :
    Good (c.run (histOps gs)) := by
  induction gs generalizing c with
  | nil => exact hg
  | cons g gs ih =>
    obtain ⟨h1, h2⟩ := hq
    have : c.run (histOps (g :: gs)) = (c.run g.ops).run (histOps gs) := by
      simp [histOps, run_append]
    rw [this]
    exact ih _ (seg_good c hg g h1) h2

/-- C08 for histories made of calls outside blocks and whole flat blocks (committed or aborted):
from the empty cache, for every configuration, every directory observing the final state is
`CheckQuiet` -/
theorem run_check_quiet_blocks (cfg : Cfg) (stat : Bool) (gs : List Seg)
    (hq : QuietHist ({ cfg := cfg, statistics := stat } : Cache) gs)
    (st : St) (ho : Observes (({ cfg := cfg, statistics := stat } : Cache).run (histOps gs)) st) :
    CheckQuiet st :=
  good_check_quiet _ st (hist_good _ (good_init cfg stat) gs hq) ho

/-! ### non-vacuity -/

/-- two items stored; then a block that replaces one value, pops the other and stores a new one,
committed; then a block that replaces and deletes, aborted; then a call outside -/
def exSegs : List Seg :=
  [.call (.set exE6 0 (.str [97]) (.bytes [1, 2, 3]) none false .null),
   .call (.set exE6 0 (.str [98]) (.bytes [4, 5, 6, 7]) none false .null),
   .commit [.set exE6 1 (.str [97]) (.bytes [9, 9, 9, 9, 9]) none false .null,
            .pop exE6 1 (.str [98]) false false,
            .set exE6 1 (.str [99]) (.bytes [7, 7]) none false .null,
            .get exE6 1 (.str [97]) false false false],
   .abort [.set exE6 2 (.str [97]) (.bytes [5, 5, 5]) none false .null,
           .delete exE6 2 (.str [99])] 1,
   .call (.touch exE6 3 (.str [97]) (some 10))]

theorem exSegs_quiet : QuietHist ({ cfg := exCfg } : Cache) exSegs := by
  refine ⟨rfl, rfl, ⟨by decide, ?_⟩, ⟨by decide, by decide, ?_⟩, rfl, trivial⟩
  · unfold NoLeak; decide +kernel
  · unfold Registered; decide +kernel


/-- the final state: `a` -> file 2 (5 bytes), `c` -> file 3 (2 bytes); files 0, 1 (replaced, popped)
removed at the commit, file 4 (written in the aborted block) removed at the rollback -/
def exStBlocks : St :=
  { rows := [⟨1, 5, some 2⟩, ⟨2, 2, some 3⟩], count := 2, size := 7,
    files := [⟨2, 1, 1, 5, .leaf, false⟩, ⟨3, 2, 1, 2, .leaf, false⟩],
    dirs1 := [1, 2], dirs2 := [(1, 1), (2, 1)] }

theorem exStBlocks_quiet :
    Observes (({ cfg := exCfg } : Cache).run (histOps exSegs)) exStBlocks ∧ CheckQuiet exStBlocks ∧
    (Check.check false exStBlocks).2 = [] := by
  have ho : Observes (({ cfg := exCfg } : Cache).run (histOps exSegs)) exStBlocks :=
    ⟨by decide +kernel, by decide +kernel, by decide +kernel, by decide +kernel, by decide +kernel,
     by decide +kernel, by decide +kernel, by decide +kernel, by decide +kernel, by decide +kernel⟩
  exact ⟨ho, run_check_quiet_blocks exCfg false exSegs exSegs_quiet _ ho, by decide +kernel⟩

/-- `add` and `push` inside blocks: a committed block adds a new key (file), tries to add a key that
is already there (the file written for it goes straight to cleanup and is removed at the commit)
and pushes a file-sized value; an aborted block does the same again (everything rolled back) -/
def exSegsAddPush : List Seg :=
  [.call (.set exE6 0 (.str [97]) (.bytes [1, 2, 3]) none false .null),
   .commit [.add exE6 1 (.str [98]) (.bytes [4, 5, 6]) none false .null,
            .add exE6 1 (.str [97]) (.bytes [7, 7, 7, 7]) none false .null,
            .push exE6 1 (.bytes [8, 8, 8]) none true none false .null],
   .abort [.add exE6 2 (.str [99]) (.bytes [4, 5, 6]) none false .null,
           .push exE6 2 (.bytes [9, 9]) none true none false .null] 1]

theorem exSegsAddPush_quiet : QuietHist ({ cfg := exCfg } : Cache) exSegsAddPush := by
  refine ⟨rfl, ⟨by decide, ?_⟩, ⟨by decide, by decide, ?_⟩, trivial⟩
  · unfold NoLeak; decide +kernel
  · unfold Registered; decide +kernel

theorem exSegsAddPush_final :
    (({ cfg := exCfg } : Cache).run (histOps exSegsAddPush)).rows.map crow =
      [⟨1, 3, some 0⟩, ⟨2, 3, some 1⟩, ⟨3, 3, some 3⟩] ∧
    (({ cfg := exCfg } : Cache).run (histOps exSegsAddPush)).files.map (·.1) = [0, 1, 3] ∧
    Good (({ cfg := exCfg } : Cache).run (histOps exSegsAddPush)) :=
  ⟨by decide +kernel, by decide +kernel, hist_good _ (good_init _ _) _ exSegsAddPush_quiet⟩

/-- the bulk removals inside blocks: a committed block clears the cache (both value files go at
the commit); an aborted block evicts, expires and culls (everything rolled back) -/
def exSegsBulk : List Seg :=
  [.call (.set exE6 0 (.str [97]) (.bytes [1, 2, 3]) none false .null),
   .call (.set exE6 0 (.str [98]) (.bytes [4, 5, 6, 7]) (some 1) false .null),
   .commit [.clear],
   .call (.set exE6 5 (.str [99]) (.bytes [7, 7]) (some 1) false .null),
   .abort [.evict .null, .expire 10, .cull 10] 1]

theorem exSegsBulk_quiet : QuietHist ({ cfg := exCfg } : Cache) exSegsBulk := by
  refine ⟨rfl, rfl, ⟨by decide, ?_⟩, rfl, ⟨by decide, by decide, ?_⟩, trivial⟩
  · unfold NoLeak; decide +kernel
  · unfold Registered; decide +kernel

theorem exSegsBulk_final :
    (({ cfg := exCfg } : Cache).run (histOps exSegsBulk)).rows.map crow = [⟨1, 2, some 2⟩] ∧
    (({ cfg := exCfg } : Cache).run (histOps exSegsBulk)).files.map (·.1) = [2] ∧
    Good (({ cfg := exCfg } : Cache).run (histOps exSegsBulk)) :=
  ⟨by decide +kernel, by decide +kernel, hist_good _ (good_init _ _) _ exSegsBulk_quiet⟩

/-! ### the full statement is false: a leak (D9b); the `incr` case (D24) -/

/-- D9b: inside a block a `set` whose key cannot be bound (a lone surrogate) fails AFTER its value
file was written; the caller catches the error and the block commits: the file stays and no row
refers to it.  `NoLeak` fails at the end of the block, the state after the commit is not `Good`,
and the check model reports an unknown file.  (Same on /repo: `fault_case` of /verif/harness/props/c08.py.) -/
def exLeakCommit : Cache :=
  (({ cfg := exCfg } : Cache).tbegin.run [.set exE6 0 (.str [0xD800]) (.bytes [1, 2, 3]) none false .null]).tend

def exStLeak3 : St :=
  { rows := [], count := 0, size := 0, files := [⟨0, 1, 1, 3, .leaf, false⟩], dirs1 := [1], dirs2 := [(1, 1)] }

def exStLeak4 : St :=
  { rows := [], count := 0, size := 0, files := [⟨0, 1, 1, 4, .leaf, false⟩], dirs1 := [1], dirs2 := [(1, 1)] }

theorem block_commit_leaks :
    exLeakCommit.depth = 0 ∧
    ¬ NoLeak (({ cfg := exCfg } : Cache).tbegin.run [.set exE6 0 (.str [0xD800]) (.bytes [1, 2, 3]) none false .null]) ∧
    ¬ Good exLeakCommit ∧
    Observes exLeakCommit exStLeak3 ∧
    (Check.check false exStLeak3).2 = [.unknown 0] := by
  refine ⟨by decide +kernel, ?_, ?_, ?_, by decide +kernel⟩
  · unfold NoLeak; decide +kernel
  · intro hg
    have := hg.noOrphan
    revert this
    unfold NoOrphan
    decide +kernel
  · exact ⟨by decide +kernel, by decide +kernel, by decide +kernel, by decide +kernel, by decide +kernel,
     by decide +kernel, by decide +kernel, by decide +kernel, by decide +kernel, by decide +kernel⟩

/-- a codec whose JSON text of any value is four bytes long -/
def exEJ : Externals :=
  { dumpsK := fun _ => [], dumpsV := fun _ => [], loads := fun _ => .none,
    jsonz := fun _ => [1, 2, 3, 4], unjsonz := fun _ => .none }

/-- D24 (fixed in /repo bbcbe5d; in the model `incr` records the file it stores as created by the
enclosing block, `Cache.regCreated`): `incr` on a JSONDisk with `disk_min_file_size = 0` writes a
value file inside its transaction body; the block aborts; the rollback removes the file with the
row. -/
def exIncrBlock : Cache :=
  ({ cfg := { minFileSize := 0, cullLimit := 0, disk := .json } } : Cache).tbegin.run
    [.incr exEJ 0 (.str [97]) 1 (some 0)]

def exIncrAbort : Cache := exIncrBlock.traise 1

def exStEmpty : St := { rows := [], count := 0, size := 0, files := [], dirs1 := [1], dirs2 := [(1, 1)] }

/-- the aborted block ends `Good`, and every
directory observing the state after the rollback (here: the empty one, with the directory the
removed file has left behind) is `CheckQuiet` -/
theorem block_abort_incr_clean :
    Good exIncrAbort ∧ exIncrAbort.files = [] ∧ exIncrAbort.rows = [] ∧
    Observes exIncrAbort exStEmpty ∧ CheckQuiet exStEmpty ∧
    (Check.check false exStEmpty).2 = [.emptyDir2 1 1] := by
  have hg : Good exIncrAbort :=
    block_abort_clean _ (good_init _ false) [.incr exEJ 0 (.str [97]) 1 (some 0)] (by decide) 1 (Nat.le_refl 1)
  have ho : Observes exIncrAbort exStEmpty :=
    ⟨by decide +kernel, by decide +kernel, by decide +kernel, by decide +kernel, by decide +kernel,
     by decide +kernel, by decide +kernel, by decide +kernel, by decide +kernel, by decide +kernel⟩
  exact ⟨hg, by decide +kernel, by decide +kernel, ho, good_check_quiet _ _ hg ho, by decide +kernel⟩

/-- inside the block the file exists, is referenced by the new row and is registered -/
theorem exIncrBlock_registered :
    exIncrBlock.files.map (·.1) = [0] ∧ exIncrBlock.created = [0] ∧ exIncrBlock.rows.map crow = [⟨1, 4, some 0⟩] ∧
    Registered ({ cfg := { minFileSize := 0, cullLimit := 0, disk := .json } } : Cache) exIncrBlock := by
  refine ⟨by decide +kernel, by decide +kernel, by decide +kernel, ?_⟩
  unfold Registered; decide +kernel

end DC.Cache
