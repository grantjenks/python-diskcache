/-
C19 (refinement) — DjangoCache refines the Django-level specification `DC/Model/DjSpec.lean`
(the cache-backend contract written over the ONE reference dictionary) for every history of
set / add / get / touch / delete / pop / has_key / incr / decr / clear with a clock that never
goes backwards.

Built from C13_Refine: every Django call is one call of the sharded cache under the namespaced
key (`djrf_step_eq`), the Django-level specification is the dictionary's call under the same key
(`djrf_spec_step`), and the namespaced keys are text, so the routing hypothesis of C13_Refine
holds for every history (`djrf_routeOK`).

Statement notes.
 * `DRefines d m clock` is `FRefines d.fan m clock` (all keys); `DGood d` is `FGood d.fan`.
 * `outs` masks the result of `clear` (a row count) by `.none`, as `Cache.outs` does.
 * The contract clauses for histories (`get_unaffected`, `versions_isolated`, `forever_returned`,
   `forever_returns_value`, `nonpositive_never_returned`) carry the hypothesis
   `(dcfg d).disk = .pickle` (the default `Disk`): two namespaced keys are then one dictionary
   key exactly when they are the same text.  With `JSONDisk` key identity rests on the json+zlib
   codec being injective, an `Externals` law these statements do not assume;
   `get_unaffected_needs_disk` is the counterexample with the (non-injective) toy codec.
 * "until deleted" is rendered as: the calls in between do not *write to* `(key, version)`
   (`writesTo`: anything but `get` / `has_key` addressed to that key under that version, or
   `clear`).  `forever_returned` / `nonpositive_never_returned` assume the `set` returned True
   (a value or key that cannot be stored raises and stores nothing).
-/
import DC.Model.DjSpec
import DC.Properties.C13_Refine
import DC.Properties.C19

namespace DC.Django
open DC.Cache DC.Spec DC.Fanout DC.DjSpec

/-! ### histories on a DjangoCache -/

def step (d : Django) : DOp → Django × Out
  | .set E now k v t ver tag => d.set E now k v t ver tag
  | .add E now k v t ver tag => d.add E now k v t ver tag
  | .get E now k ver => d.get E now k ver
  | .touch E now k t ver => d.touch E now k t ver
  | .delete E now k ver => d.delete E now k ver
  | .pop E now k ver => d.pop E now k ver
  | .hasKey E now k ver => d.hasKey E now k ver
  | .incr E now k delta ver => d.incr E now k delta ver
  | .decr E now k delta ver => d.decr E now k delta ver
  | .clear => d.clear

def run (d : Django) (ops : List DOp) : Django := ops.foldl (fun d op => (d.step op).1) d

/-- the calls whose result the dictionary determines (all but `clear`, which counts rows) -/
def determined : DOp → Bool
  | .clear => false
  | _ => true

def outs (d : Django) : List DOp → List Out
  | [] => []
  | op :: ops => (if determined op then (d.step op).2 else .none) :: outs (d.step op).1 ops

def conf (d : Django) : Conf :=
  { keyPrefix := d.keyPrefix, version := d.version, defaultTimeout := d.defaultTimeout }

def dclock : DOp → Option Int
  | .set _ now .. | .add _ now .. | .get _ now .. | .touch _ now .. | .delete _ now ..
  | .pop _ now .. | .hasKey _ now .. | .incr _ now .. | .decr _ now .. => some now
  | .clear => none

def dmonotoneB : Int → List DOp → Bool
  | _, [] => true
  | t, op :: ops =>
    match dclock op with
    | some n => decide (t ≤ n) && dmonotoneB n ops
    | none => dmonotoneB t ops

def DMonotone (t : Int) (ops : List DOp) : Prop := dmonotoneB t ops = true

instance (t : Int) (ops : List DOp) : Decidable (DMonotone t ops) :=
  inferInstanceAs (Decidable (dmonotoneB t ops = true))

/-! ### a Django call is a call of the sharded cache under the namespaced key -/

/-- the FanoutCache call a Django call makes -/
def toOp (C : Conf) : DOp → Cache.Op
  | .set E now k v t ver tag => .set E now (key C k ver) v (ttl C t) false tag
  | .add E now k v t ver tag => .add E now (key C k ver) v (ttl C t) false tag
  | .get E now k ver => .get E now (key C k ver) false false false
  | .touch E now k t ver => .touch E now (key C k ver) (ttl C t)
  | .delete E now k ver => .delete E now (key C k ver)
  | .pop E now k ver => .pop E now (key C k ver) false false
  | .hasKey E now k ver => .contains E now (key C k ver)
  | .incr E now k delta ver => .incr E now (key C k ver) delta none
  | .decr E now k delta ver => .incr E now (key C k ver) (-delta) none
  | .clear => .clear

def valueErr (o : Out) : Out :=
  match o with
  | .exc "KeyError" => .exc "ValueError"
  | o => o

/-- `incr` / `decr` of djangocache.py turn the KeyError of the cache into ValueError -/
def post : DOp → Out → Out
  | .incr .., o => valueErr o
  | .decr .., o => valueErr o
  | _, o => o

theorem djrf_makeKey (d : Django) (k : Str) (ver : Option Int) :
    d.makeKey k ver = key (conf d) k ver := by
  simp [makeKey, key, verText, digits, intDigits_eq, conf]
  rfl

theorem djrf_ttl (d : Django) (t : Timeout) : d.backendTimeout t = ttl (conf d) t := by
  cases t with
  | dflt => rfl
  | forever => rfl
  | secs t =>
    unfold backendTimeout ttl
    by_cases h : t = 0 <;> simp [h]

theorem djrf_step_eq (d : Django) (op : DOp) :
    d.step op = ({ d with fan := (d.fan.step (toOp (conf d) op)).1 },
      post op (d.fan.step (toOp (conf d) op)).2) := by
  cases op <;>
    simp only [step, Django.set, Django.add, Django.get, Django.touch, Django.delete, Django.pop,
      Django.hasKey, Django.incr, Django.decr, Django.clear, djrf_makeKey, djrf_ttl, toOp,
      Fanout.step, post, valueErr] <;> rfl

theorem djrf_step_conf (d : Django) (op : DOp) : conf (d.step op).1 = conf d := by
  rw [djrf_step_eq]; rfl

theorem djrf_step_fan (d : Django) (op : DOp) :
    (d.step op).1.fan = (d.fan.step (toOp (conf d) op)).1 := by
  rw [djrf_step_eq]

/-! ### the Django-level specification is the dictionary's call under the namespaced key -/

theorem djrf_incr_spec (m : Spec.Dict) (C : Conf) (cfg : Cfg) (E : Externals) (now : Int) (k : Str)
    (delta : Int) (ver : Option Int) :
    DjSpec.incr m C cfg E now k delta ver =
      ((Spec.incr m E cfg now (key C k ver) delta none).1,
        valueErr (Spec.incr m E cfg now (key C k ver) delta none).2) := by
  unfold DjSpec.incr
  rw [specIncr_eq]
  cases m.get (keyOf E cfg (key C k ver)) with
  | none => rfl
  | some e =>
    dsimp only
    split
    · rfl
    · cases e.val with
      | int i => dsimp only; split <;> rfl
      | _ => rfl

theorem djrf_spec_step (m : Spec.Dict) (C : Conf) (cfg : Cfg) (op : DOp) :
    DjSpec.step m C cfg op =
      ((Spec.step m cfg (toOp C op)).1, post op (Spec.step m cfg (toOp C op)).2) := by
  cases op <;> first
    | rfl
    | exact djrf_incr_spec ..

/-! ### the translation preserves what the history theorem of C13_Refine asks for -/

theorem djrf_keyed (C : Conf) (op : DOp) : Keyed (toOp C op) = true := by
  cases op <;> rfl

theorem djrf_keyed_all (d : Django) (ops : List DOp) :
    ∀ op ∈ ops.map (toOp (conf d)), Keyed op = true := by
  intro op hop
  obtain ⟨o, -, rfl⟩ := List.mem_map.1 hop
  exact djrf_keyed _ o

theorem djrf_determined (C : Conf) (op : DOp) : Determined (toOp C op) = determined op := by
  cases op <;> rfl

theorem djrf_opClock (C : Conf) (op : DOp) : opClock (toOp C op) = dclock op := by
  cases op <;> rfl

theorem djrf_monotone (C : Conf) (t : Int) (ops : List DOp) :
    Cache.Monotone t (ops.map (toOp C)) ↔ DMonotone t ops := by
  unfold Cache.Monotone DMonotone
  induction ops generalizing t with
  | nil => exact Iff.rfl
  | cons op ops ih =>
    rw [List.map_cons, monotoneB, dmonotoneB, djrf_opClock]
    cases dclock op with
    | none => exact ih t
    | some n =>
      simp only [Bool.and_eq_true, decide_eq_true_eq]
      exact and_congr Iff.rfl (ih n)

theorem djrf_nonnumeric (C : Conf) (ops : List DOp) :
    histPyAll (fun k => !pyIsNumber k) (ops.map (toOp C)) = true := by
  unfold histPyAll
  rw [List.all_map, List.all_eq_true]
  intro op _
  cases op <;> rfl

/-- **the routing hypothesis is automatic**: the keys DjangoCache hands to the sharded cache are
text, and text is equal only to itself (D11 cannot occur) -/
theorem djrf_routeOK (d : Django) (ops : List DOp) (V : Spec.Key → Prop) :
    RouteOK d.fan (histKeys (fcfg d.fan) (ops.map (toOp (conf d)))) V :=
  routeOK_of_nonnumeric d.fan _ V (fun op hop E k hkey => by
    simpa using frf_histPyAll (djrf_nonnumeric (conf d) ops) op hop E k hkey)

/-! ### histories: model and specification through the translation -/

def postAll : List DOp → List Out → List Out
  | op :: ops, o :: os => post op o :: postAll ops os
  | _, _ => []

theorem djrf_run_cons (d : Django) (op : DOp) (ops : List DOp) :
    d.run (op :: ops) = (d.step op).1.run ops := rfl

theorem djrf_run (d : Django) (ops : List DOp) :
    (d.run ops).fan = d.fan.run (ops.map (toOp (conf d))) ∧ conf (d.run ops) = conf d := by
  induction ops generalizing d with
  | nil => exact ⟨rfl, rfl⟩
  | cons op ops ih =>
    rw [djrf_run_cons, List.map_cons, frf_run_cons]
    obtain ⟨h1, h2⟩ := ih (d.step op).1
    rw [djrf_step_conf] at h1 h2
    rw [djrf_step_fan] at h1
    exact ⟨h1, h2⟩

theorem djrf_post_none (op : DOp) (h : determined op = false) : post op .none = .none := by
  cases op <;> first | rfl | cases h

theorem djrf_outs (d : Django) (ops : List DOp) :
    outs d ops = postAll ops (Fanout.outs d.fan (ops.map (toOp (conf d)))) := by
  induction ops generalizing d with
  | nil => rfl
  | cons op ops ih =>
    rw [outs, List.map_cons, Fanout.outs, postAll, ih, djrf_step_conf, djrf_step_fan,
      djrf_determined]
    congr 1
    cases hdet : determined op with
    | true => simp only [if_true]; rw [djrf_step_eq]
    | false => simp only [Bool.false_eq_true, if_false]; exact (djrf_post_none op hdet).symm

theorem djrf_spec_run (m : Spec.Dict) (C : Conf) (cfg : Cfg) (ops : List DOp) :
    DjSpec.run m C cfg ops = Spec.run m cfg (ops.map (toOp C)) := by
  induction ops generalizing m with
  | nil => rfl
  | cons op ops ih =>
    show DjSpec.run (DjSpec.step m C cfg op).1 C cfg ops = _
    rw [ih, djrf_spec_step, List.map_cons, spec_run_cons]

theorem djrf_spec_outs (m : Spec.Dict) (C : Conf) (cfg : Cfg) (ops : List DOp) :
    DjSpec.outs m C cfg ops = postAll ops (Spec.outs m cfg (ops.map (toOp C))) := by
  induction ops generalizing m with
  | nil => rfl
  | cons op ops ih =>
    rw [DjSpec.outs, List.map_cons, Spec.outs, postAll, ih, djrf_spec_step]

/-! ### the relation, the invariant, the history theorem -/

def DRefines (d : Django) (m : Spec.Dict) (clock : Int) : Prop := FRefines d.fan m clock

/-- the invariant: that of the sharded cache (at least one shard, every shard quiescent and
consistent, one configuration, eviction policy 'none') -/
def DGood (d : Django) : Prop := FGood d.fan

def dcfg (d : Django) : Cfg := fcfg d.fan

/-- the history theorem with everything the induction carries -/
theorem djrun_refines_strong (d : Django) (m : Spec.Dict) (clock : Int) (ops : List DOp)
    (hg : DGood d) (hr : DRefines d m clock) (hm : DMonotone clock ops) :
    outs d ops = DjSpec.outs m (conf d) (dcfg d) ops ∧
    (∃ clock', DRefines (d.run ops) (DjSpec.run m (conf d) (dcfg d) ops) clock') ∧
    DGood (d.run ops) ∧ dcfg (d.run ops) = dcfg d ∧ conf (d.run ops) = conf d := by
  obtain ⟨h1, h2, h3, h4, -⟩ := frun_refines_on_strong (fun _ => True) d.fan m clock
    (ops.map (toOp (conf d))) hg hr (djrf_keyed_all d ops)
    ((djrf_monotone _ _ _).2 hm) (fun _ _ => trivial) (djrf_routeOK d ops _)
  obtain ⟨r1, r2⟩ := djrf_run d ops
  refine ⟨?_, ⟨lastClock clock (ops.map (toOp (conf d))), ?_⟩, ?_, ?_, r2⟩
  · rw [djrf_outs, djrf_spec_outs, h1]; rfl
  · unfold DRefines
    rw [r1, djrf_spec_run]
    exact h2
  · unfold DGood; rw [r1]; exact h3
  · unfold dcfg; rw [r1]; exact h4

/-- **the history theorem**: for every history of Django cache calls with a clock that never goes
backwards, every call returns what the Django-level specification over the ONE reference
dictionary returns, and the final states correspond — whatever the number of shards.  No routing
hypothesis: the namespaced keys are text (`djrf_routeOK`). -/
theorem djrun_refines (d : Django) (m : Spec.Dict) (clock : Int) (ops : List DOp)
    (hg : DGood d) (hr : DRefines d m clock) (hm : DMonotone clock ops) :
    outs d ops = DjSpec.outs m (conf d) (dcfg d) ops ∧
    ∃ clock', DRefines (d.run ops) (DjSpec.run m (conf d) (dcfg d) ops) clock' :=
  ⟨(djrun_refines_strong d m clock ops hg hr hm).1, (djrun_refines_strong d m clock ops hg hr hm).2.1⟩

/-- a fresh DjangoCache over `n ≥ 1` shards with eviction policy 'none': the invariant holds and it
represents the empty dictionary -/
theorem django_init (n : Nat) (cf : Cfg) (st : Bool) (pre : Str) (ver : Int) (dt : Option Int)
    (hn : 1 ≤ n) (hp : cf.policy = .none) (hpg : 0 < cf.page) (clock : Int) :
    DGood { fan := Fanout.init n cf st, keyPrefix := pre, version := ver, defaultTimeout := dt } ∧
    DRefines { fan := Fanout.init n cf st, keyPrefix := pre, version := ver, defaultTimeout := dt }
      [] clock :=
  ⟨fgood_init n cf st hn hp hpg, frefines_init n cf st hn clock⟩

/-! ### what a call returns after a history -/

theorem djrf_run_append (d : Django) (a b : List DOp) : d.run (a ++ b) = (d.run a).run b := by
  unfold run; rw [List.foldl_append]

theorem djrf_spec_run_append (m : Spec.Dict) (C : Conf) (cfg : Cfg) (a b : List DOp) :
    DjSpec.run m C cfg (a ++ b) = DjSpec.run (DjSpec.run m C cfg a) C cfg b := by
  unfold DjSpec.run; rw [List.foldl_append]

theorem djrf_outs_append (d : Django) (ops : List DOp) (g : DOp) :
    outs d (ops ++ [g]) =
      outs d ops ++ [if determined g then ((d.run ops).step g).2 else .none] := by
  induction ops generalizing d with
  | nil => rfl
  | cons op ops ih =>
    show _ :: outs (d.step op).1 (ops ++ [g]) = _ :: _ ++ _
    rw [ih]; rfl

theorem djrf_spec_outs_append (m : Spec.Dict) (C : Conf) (cfg : Cfg) (ops : List DOp) (g : DOp) :
    DjSpec.outs m C cfg (ops ++ [g]) =
      DjSpec.outs m C cfg ops ++ [(DjSpec.step (DjSpec.run m C cfg ops) C cfg g).2] := by
  induction ops generalizing m with
  | nil => rfl
  | cons op ops ih =>
    show _ :: DjSpec.outs (DjSpec.step m C cfg op).1 C cfg (ops ++ [g]) = _ :: _ ++ _
    rw [ih]; rfl

/-- **what a user sees**: after any history with a non-decreasing clock, a call returns exactly
what the Django-level specification returns on the dictionary built by that history -/
theorem call_after_history (d : Django) (m : Spec.Dict) (clock : Int) (ops : List DOp) (g : DOp)
    (hg : DGood d) (hr : DRefines d m clock) (hdet : determined g = true)
    (hm : DMonotone clock (ops ++ [g])) :
    ((d.run ops).step g).2 = (DjSpec.step (DjSpec.run m (conf d) (dcfg d) ops) (conf d) (dcfg d) g).2 := by
  have h := (djrun_refines d m clock (ops ++ [g]) hg hr hm).1
  rw [djrf_outs_append, djrf_spec_outs_append, hdet, if_pos rfl] at h
  have := List.append_inj_right' h rfl
  exact List.singleton_inj.1 this

/-! ### clocks of sub-histories -/

theorem djrf_mono_cons (t : Int) (op : DOp) (ops : List DOp) :
    DMonotone t (op :: ops) ↔
      (∀ n, dclock op = some n → t ≤ n) ∧ DMonotone ((dclock op).getD t) ops := by
  unfold DMonotone
  rw [dmonotoneB]
  cases dclock op with
  | none => simp
  | some n => simp

theorem djrf_mono_append (t : Int) (a b : List DOp) :
    DMonotone t (a ++ b) ↔
      DMonotone t a ∧ DMonotone (a.foldl (fun t op => (dclock op).getD t) t) b := by
  induction a generalizing t with
  | nil => exact ⟨fun h => ⟨rfl, h⟩, fun h => h.2⟩
  | cons op a ih =>
    rw [List.cons_append, djrf_mono_cons, djrf_mono_cons, ih]
    exact ⟨fun ⟨h1, h2, h3⟩ => ⟨⟨h1, h2⟩, h3⟩, fun ⟨⟨h1, h2⟩, h3⟩ => ⟨h1, h2, h3⟩⟩

theorem djrf_mono_le {t : Int} {a : List DOp} (h : DMonotone t a) :
    t ≤ a.foldl (fun t op => (dclock op).getD t) t := by
  induction a generalizing t with
  | nil => exact Int.le_refl _
  | cons op a ih =>
    obtain ⟨h1, h2⟩ := (djrf_mono_cons t op a).1 h
    refine Int.le_trans (?_ : t ≤ (dclock op).getD t) (ih h2)
    cases hc : dclock op with
    | none => exact Int.le_refl _
    | some n => exact h1 n hc

theorem djrf_mono_prefix {t : Int} {a b : List DOp} (h : DMonotone t (a ++ b)) : DMonotone t a :=
  ((djrf_mono_append t a b).1 h).1

theorem djrf_mono_skip {t : Int} {a b : List DOp} {g : DOp} (h : DMonotone t (a ++ b ++ [g])) :
    DMonotone t (a ++ [g]) := by
  rw [List.append_assoc, djrf_mono_append] at h
  obtain ⟨h1, h2⟩ := (djrf_mono_append _ b [g]).1 h.2
  refine (djrf_mono_append t a [g]).2 ⟨h.1, (djrf_mono_cons _ g []).2 ⟨fun n hn => ?_, rfl⟩⟩
  exact Int.le_trans (djrf_mono_le h1) (((djrf_mono_cons _ g []).1 h2).1 n hn)

theorem djrf_mono_clocks {t : Int} {a b : List DOp} {x y : DOp} {n n' : Int}
    (h : DMonotone t (a ++ [x] ++ b ++ [y])) (hx : dclock x = some n) (hy : dclock y = some n') :
    n ≤ n' := by
  have h1 := djrf_mono_skip h
  rw [List.append_assoc, djrf_mono_append] at h1
  have h2 := ((djrf_mono_cons _ y []).1 ((djrf_mono_cons _ x [y]).1 h1.2).2).1 n' hy
  rw [hx] at h2
  exact h2

/-! ### the contract clauses, for histories

Each carries `(dcfg d).disk = .pickle` (the default `Disk`): the stored form of a text key is then
the text itself; with `JSONDisk` it is the compressed JSON of the text (see the module header). -/

def addr : DOp → Option (Str × Option Int)
  | .set _ _ k _ _ ver _ | .add _ _ k _ _ ver _ | .get _ _ k ver | .touch _ _ k _ ver
  | .delete _ _ k ver | .pop _ _ k ver | .hasKey _ _ k ver | .incr _ _ k _ ver
  | .decr _ _ k _ ver => some (k, ver)
  | .clear => none

def isRead : DOp → Bool
  | .get .. | .hasKey .. => true
  | _ => false

def writesTo (C : Conf) (k : Str) (v : Int) (op : DOp) : Bool :=
  match addr op with
  | none => true
  | some (k', ver') => !isRead op && (k' == k && ver'.getD C.version == v)

theorem djrf_keyOf_pickle (E : Externals) (cfg : Cfg) (hd : cfg.disk = .pickle) (s : Str) :
    keyOf E cfg (.str s) = (.text s, true) := by
  unfold keyOf put; rw [hd]; rfl

theorem djrf_sameKey_false (C : Conf) (cfg : Cfg) (hd : cfg.disk = .pickle) (E₁ E₂ : Externals)
    (k₁ k₂ : Str) (v₁ v₂ : Option Int)
    (hne : ¬ (k₁ = k₂ ∧ v₁.getD C.version = v₂.getD C.version)) :
    sameKey (keyOf E₁ cfg (key C k₁ v₁)) (keyOf E₂ cfg (key C k₂ v₂)) = false := by
  cases h : sameKey (keyOf E₁ cfg (key C k₁ v₁)) (keyOf E₂ cfg (key C k₂ v₂)) with
  | false => rfl
  | true =>
    exfalso
    apply hne
    have hk : key C k₁ v₁ = key C k₂ v₂ := by
      unfold key at h ⊢
      rw [djrf_keyOf_pickle _ _ hd, djrf_keyOf_pickle _ _ hd] at h
      simp only [sameKey, SqlVal.eqv, Bool.and_eq_true, beq_iff_eq] at h
      rw [h.1]
    -- `makeKey_inj` (C19) for a DjangoCache configured by `C`
    have := makeKey_inj { fan := default, keyPrefix := C.keyPrefix, version := C.version,
                          defaultTimeout := C.defaultTimeout } k₁ k₂ v₁ v₂
      (by rw [djrf_makeKey, djrf_makeKey]; exact hk)
    exact ⟨this.2, this.1⟩

theorem djrf_get_state (m : Spec.Dict) (E : Externals) (cfg : Cfg) (now : Int) (k : PyVal)
    (read et tg : Bool) : (Spec.get m E cfg now k read et tg).1 = m := by
  rw [rf_get_spec read et tg (rf_VRel_refl _ now)]

theorem djrf_frame (m : Spec.Dict) (C : Conf) (cfg : Cfg) (hd : cfg.disk = .pickle) (op : DOp)
    (E : Externals) (k : Str) (ver : Option Int)
    (hw : writesTo C k (ver.getD C.version) op = false) :
    (DjSpec.step m C cfg op).1.get (keyOf E cfg (key C k ver)) = m.get (keyOf E cfg (key C k ver)) := by
  have aux : ∀ (E' : Externals) (k' : Str) (ver' : Option Int),
      frf_opKey (toOp C op) = some (E', key C k' ver') →
      (k' == k && ver'.getD C.version == ver.getD C.version) = false →
      (Spec.step m cfg (toOp C op)).1.get (keyOf E cfg (key C k ver)) =
        m.get (keyOf E cfg (key C k ver)) := by
    intro E' k' ver' hkey hne
    refine frf_local_frame (frf_step_local cfg (toOp C op) E' _ hkey) m _ ?_
    apply djrf_sameKey_false C cfg hd
    intro h
    simp [h.1, h.2] at hne
  rw [djrf_spec_step]
  -- writes to another key: `aux`; `get` and `has_key` return the dictionary as it is
  cases op <;> simp only [writesTo, addr, isRead, Bool.not_true, Bool.not_false, Bool.true_and,
    Bool.false_and, reduceCtorEq] at hw <;> first
      | exact aux _ _ _ rfl hw
      | rfl
      | exact congrArg (fun x => Dict.get x _) (djrf_get_state ..)

theorem djrf_run_frame (m : Spec.Dict) (C : Conf) (cfg : Cfg) (hd : cfg.disk = .pickle)
    (ops : List DOp) (E : Externals) (k : Str) (ver : Option Int)
    (hw : ∀ op ∈ ops, writesTo C k (ver.getD C.version) op = false) :
    (DjSpec.run m C cfg ops).get (keyOf E cfg (key C k ver)) = m.get (keyOf E cfg (key C k ver)) := by
  induction ops generalizing m with
  | nil => rfl
  | cons op ops ih =>
    show (DjSpec.run (DjSpec.step m C cfg op).1 C cfg ops).get _ = _
    rw [ih _ (fun o ho => hw o (List.mem_cons_of_mem _ ho))]
    exact djrf_frame m C cfg hd op E k ver (hw op List.mem_cons_self)

/-- **calls that do not write to `(key, version)` do not change what `get(key, version)` returns**:
reads of any key, and set / add / touch / delete / pop / incr / decr of other keys or of the same
key under other versions -/
theorem get_unaffected (d : Django) (m : Spec.Dict) (clock : Int) (ops ops' : List DOp)
    (E : Externals) (now : Int) (k : Str) (ver : Option Int)
    (hg : DGood d) (hr : DRefines d m clock)
    (hd : (dcfg d).disk = .pickle) -- the default `Disk`, see above
    (hm : DMonotone clock (ops ++ ops' ++ [.get E now k ver]))
    (hw : ∀ op ∈ ops', writesTo (conf d) k (ver.getD (conf d).version) op = false) :
    ((d.run (ops ++ ops')).step (.get E now k ver)).2 = ((d.run ops).step (.get E now k ver)).2 := by
  rw [call_after_history d m clock (ops ++ ops') _ hg hr rfl hm,
    call_after_history d m clock ops _ hg hr rfl (djrf_mono_skip hm), djrf_spec_run_append]
  -- `get` on the specification looks at the binding of its key only
  exact frf_local_out (frf_get_local E _ now (key _ k ver) false false false) _ _
    (djrf_run_frame _ _ _ hd ops' E k ver hw)

/-- the hypothesis `(dcfg d).disk = .pickle` is needed: with `JSONDisk` and a codec whose `jsonz`
is not injective (that of `toyV` maps everything to the empty byte string) all keys are one
dictionary key, and a `set` of key `a` changes what `get` of key `b` returns.  Not a finding about
the code: the real json+zlib codec is injective. -/
theorem get_unaffected_needs_disk :
    ∃ (d : Django) (ops' : List DOp) (E : Externals) (now : Int) (k : Str) (ver : Option Int),
      DGood d ∧ DRefines d [] 0 ∧ DMonotone 0 ([] ++ ops' ++ [.get E now k ver]) ∧
      (∀ op ∈ ops', writesTo (conf d) k (ver.getD (conf d).version) op = false) ∧
      ((d.run ([] ++ ops')).step (.get E now k ver)).2 ≠ ((d.run []).step (.get E now k ver)).2 := by
  refine ⟨{ fan := Fanout.init 1 { policy := .none, disk := .json } false },
    [.set toyV 0 [97] (.int 7) .forever none .null], toyV, 1, [98], none,
    (django_init 1 _ false _ _ _ (by decide) rfl (by decide) 0).1,
    (django_init 1 _ false _ _ _ (by decide) rfl (by decide) 0).2, by decide +kernel,
    by decide +kernel, ?_⟩
  intro h
  have h2 := congrArg (fun o => match o with | .default => true | _ => false) h
  revert h2
  decide +kernel

/-- the version a call addresses (`None` = the configured one); `clear` addresses all -/
def versionOf (C : Conf) (op : DOp) : Option Int := (addr op).map (fun p => p.2.getD C.version)

theorem djrf_version_writesTo {C : Conf} {op : DOp} {k : Str} {v v' : Int}
    (h : versionOf C op = some v') (hne : v' ≠ v) : writesTo C k v op = false := by
  unfold versionOf at h
  unfold writesTo
  cases ha : addr op with
  | none => rw [ha] at h; cases h
  | some p =>
    rw [ha] at h
    have hv : p.2.getD C.version = v' := Option.some.inj h
    have : (p.2.getD C.version == v) = false := by
      rw [hv]; simpa using hne
    simp [this]

/-- **different versions never see each other's values**: whatever is done under the version `v'`
(to whatever keys) does not change what `get` under another version returns -/
theorem versions_isolated (d : Django) (m : Spec.Dict) (clock : Int) (ops ops' : List DOp)
    (E : Externals) (now : Int) (k : Str) (ver : Option Int) (v' : Int)
    (hg : DGood d) (hr : DRefines d m clock)
    (hd : (dcfg d).disk = .pickle) -- the default `Disk`, see above
    (hm : DMonotone clock (ops ++ ops' ++ [.get E now k ver]))
    (hv : ∀ op ∈ ops', versionOf (conf d) op = some v')
    (hne : v' ≠ ver.getD (conf d).version) :
    ((d.run (ops ++ ops')).step (.get E now k ver)).2 = ((d.run ops).step (.get E now k ver)).2 :=
  get_unaffected d m clock ops ops' E now k ver hg hr hd hm
    (fun op hop => djrf_version_writesTo (hv op hop) hne)

theorem djrf_set_true (m : Spec.Dict) (C : Conf) (cfg : Cfg) (E : Externals) (now : Int) (k : Str)
    (v : PyVal) (t : Timeout) (ver : Option Int) (tag : SqlVal)
    (h : (DjSpec.step m C cfg (.set E now k v t ver tag)).2 = .bool true) :
    ∃ p, place E cfg.disk cfg.minFileSize v false = .ok p ∧
      (DjSpec.step m C cfg (.set E now k v t ver tag)).1.get (keyOf E cfg (key C k ver)) =
        some (entryOf p ((ttl C t).map (now + ·)) tag) := by
  show ∃ p, _ ∧ (Spec.set m E cfg now (key C k ver) v (ttl C t) false tag).1.get _ = _
  change (Spec.set m E cfg now (key C k ver) v (ttl C t) false tag).2 = .bool true at h
  unfold Spec.set at h ⊢
  cases hp : place E cfg.disk cfg.minFileSize v false with
  | error e => rw [hp] at h; cases h
  | ok p =>
    rw [hp] at h
    simp only at h ⊢
    split at h
    · rename_i hb
      refine ⟨p, rfl, ?_⟩
      rw [if_pos hb, rf_get_put]
      have hb1 : bindable (keyOf E cfg (key C k ver)).1 = true := by
        simp only [Bool.and_eq_true] at hb; exact hb.1.1
      have hrefl : sameKey (keyOf E cfg (key C k ver)) (keyOf E cfg (key C k ver)) = true := by
        unfold key keyOf put at hb1 ⊢
        cases cfg.disk <;> simp [sameKey, SqlVal.eqv, Disk.put, JSONDisk.put]
      rw [if_pos hrefl]
    · cases h

theorem djrf_keyOf_congr (C : Conf) (cfg : Cfg) (hd : cfg.disk = .pickle) (E E' : Externals) (k : Str)
    (ver ver' : Option Int) (hver : ver'.getD C.version = ver.getD C.version) :
    keyOf E' cfg (key C k ver') = keyOf E cfg (key C k ver) := by
  unfold key
  rw [hver, djrf_keyOf_pickle _ _ hd, djrf_keyOf_pickle _ _ hd]

theorem djrf_after_set (m : Spec.Dict) (C : Conf) (cfg : Cfg) (hd : cfg.disk = .pickle)
    (ops' : List DOp) (E E' : Externals) (now : Int) (k : Str) (v : PyVal) (t : Timeout)
    (ver ver' : Option Int) (tag : SqlVal) (hver : ver'.getD C.version = ver.getD C.version)
    (hset : (DjSpec.step m C cfg (.set E now k v t ver tag)).2 = .bool true)
    (hw : ∀ op ∈ ops', writesTo C k (ver.getD C.version) op = false) :
    ∃ p, place E cfg.disk cfg.minFileSize v false = .ok p ∧
      (DjSpec.run m C cfg (.set E now k v t ver tag :: ops')).get (keyOf E' cfg (key C k ver')) =
        some (entryOf p ((ttl C t).map (now + ·)) tag) := by
  obtain ⟨p, hp, hget⟩ := djrf_set_true _ _ _ _ _ _ _ _ _ _ hset
  refine ⟨p, hp, ?_⟩
  rw [djrf_keyOf_congr C cfg hd E E' k ver ver' hver]
  show (DjSpec.run (DjSpec.step m C cfg (.set E now k v t ver tag)).1 C cfg ops').get _ = _
  rw [djrf_run_frame _ C cfg hd ops' E k ver hw]
  exact hget

theorem djrf_get_forever (m : Spec.Dict) (C : Conf) (cfg : Cfg) (E : Externals) (now : Int) (k : Str)
    (ver : Option Int) (p : Placement) (tag : SqlVal)
    (h : m.get (keyOf E cfg (key C k ver)) = some (entryOf p none tag)) :
    (DjSpec.step m C cfg (.get E now k ver)).2 = (entryOf p none tag).out E cfg false false false := by
  show (Spec.get m E cfg now (key C k ver) false false false).2 = _
  unfold Spec.get
  rw [h]
  cases p <;> rfl

/-- `get` of a key bound to an entry stored earlier with a timeout ≤ 0 returns the default:
`get_backend_timeout` turns 0 into -1, so the expiry instant lies before the store instant -/
theorem djrf_get_dead (m : Spec.Dict) (C : Conf) (cfg : Cfg) (E : Externals) (now now' : Int) (k : Str)
    (ver : Option Int) (p : Placement) (tag : SqlVal) (t : Int) (ht : t ≤ 0) (hnow : now ≤ now')
    (h : m.get (keyOf E cfg (key C k ver)) = some (entryOf p ((ttl C (.secs t)).map (now + ·)) tag)) :
    (DjSpec.step m C cfg (.get E now' k ver)).2 = .default := by
  show (Spec.get m E cfg now' (key C k ver) false false false).2 = _
  unfold Spec.get
  rw [h]
  have hexp : (entryOf p ((ttl C (.secs t)).map (now + ·)) tag).expT =
      some (now + (if t = 0 then -1 else t)) := by cases p <;> rfl
  have hdead : (entryOf p ((ttl C (.secs t)).map (now + ·)) tag).live now' = false := by
    unfold Entry.live
    rw [hexp]
    simp only [gt_iff_lt, decide_eq_false_iff_not, Int.not_lt]
    split <;> omega
  simp only [hdead, Bool.false_eq_true, if_false]
  rfl

/-- **a value set with timeout None is returned by every later get, until the key is written
again**: if `set(key, value, timeout=None, version)` returned True, then after any calls that do
not write to `(key, version)`, `get(key, version)` — at any later time — returns the stored value
read back (`Entry.out` of the entry `set` stored) -/
theorem forever_returned (d : Django) (m : Spec.Dict) (clock : Int) (ops ops' : List DOp)
    (E E' : Externals) (now now' : Int) (k : Str) (v : PyVal) (ver ver' : Option Int) (tag : SqlVal)
    (hg : DGood d) (hr : DRefines d m clock)
    (hd : (dcfg d).disk = .pickle) -- the default `Disk`, see above
    (hm : DMonotone clock (ops ++ [.set E now k v .forever ver tag] ++ ops' ++ [.get E' now' k ver']))
    (hver : ver'.getD (conf d).version = ver.getD (conf d).version)
    (hset : ((d.run ops).step (.set E now k v .forever ver tag)).2 = .bool true)
    (hw : ∀ op ∈ ops', writesTo (conf d) k (ver.getD (conf d).version) op = false) :
    ∃ p, place E (dcfg d).disk (dcfg d).minFileSize v false = .ok p ∧
      ((d.run (ops ++ [.set E now k v .forever ver tag] ++ ops')).step (.get E' now' k ver')).2 =
        (entryOf p none tag).out E' (dcfg d) false false false := by
  have hm1 : DMonotone clock (ops ++ [.set E now k v .forever ver tag]) :=
    djrf_mono_prefix (djrf_mono_prefix hm)
  rw [call_after_history d m clock ops _ hg hr rfl hm1] at hset
  obtain ⟨p, hp, hget⟩ := djrf_after_set _ _ _ hd ops' E E' now k v .forever ver ver' tag hver hset hw
  refine ⟨p, hp, ?_⟩
  rw [call_after_history d m clock _ _ hg hr rfl hm, List.append_assoc, djrf_spec_run_append]
  exact djrf_get_forever _ _ _ _ _ _ _ _ _ hget

/-- **a value set with a timeout ≤ 0 is never returned**: if `set(key, value, timeout=t, version)`
with `t ≤ 0` returned True, then after any calls that do not write to `(key, version)`,
`get(key, version)` returns the default -/
theorem nonpositive_never_returned (d : Django) (m : Spec.Dict) (clock : Int) (ops ops' : List DOp)
    (E E' : Externals) (now now' : Int) (k : Str) (v : PyVal) (t : Int) (ver ver' : Option Int)
    (tag : SqlVal) (ht : t ≤ 0)
    (hg : DGood d) (hr : DRefines d m clock)
    (hd : (dcfg d).disk = .pickle) -- the default `Disk`, see above
    (hm : DMonotone clock (ops ++ [.set E now k v (.secs t) ver tag] ++ ops' ++ [.get E' now' k ver']))
    (hver : ver'.getD (conf d).version = ver.getD (conf d).version)
    (hset : ((d.run ops).step (.set E now k v (.secs t) ver tag)).2 = .bool true)
    (hw : ∀ op ∈ ops', writesTo (conf d) k (ver.getD (conf d).version) op = false) :
    ((d.run (ops ++ [.set E now k v (.secs t) ver tag] ++ ops')).step (.get E' now' k ver')).2 =
      .default := by
  have hm1 : DMonotone clock (ops ++ [.set E now k v (.secs t) ver tag]) :=
    djrf_mono_prefix (djrf_mono_prefix hm)
  have hnow : now ≤ now' := djrf_mono_clocks hm rfl rfl
  rw [call_after_history d m clock ops _ hg hr rfl hm1] at hset
  obtain ⟨p, -, hget⟩ := djrf_after_set _ _ _ hd ops' E E' now k v (.secs t) ver ver' tag hver hset hw
  rw [call_after_history d m clock _ _ hg hr rfl hm, List.append_assoc, djrf_spec_run_append]
  exact djrf_get_dead _ _ _ _ _ _ _ _ _ _ _ ht hnow hget

/-- the stored value read back with the codec it was stored with is the value (C01) -/
theorem djrf_out_value (E : Externals) (hE : Lawful E) (cfg : Cfg) (hd : cfg.disk = .pickle)
    (v : PyVal) (p : Placement) (x : Option Int) (tag : SqlVal)
    (hp : place E cfg.disk cfg.minFileSize v false = .ok p) :
    (entryOf p x tag).out E cfg false false false = .val v := by
  rw [hd] at hp
  have h := fetch_store E hE cfg.minFileSize v p hp
  unfold Entry.out
  rw [hd]
  cases p with
  | inline mode sv =>
    have h' : fetch E .pickle mode none false sv false = .val v := h
    show (match fetch E .pickle mode none false sv false with
      | .ioerror => _ | f => _) = _
    rw [h']; rfl
  | file mode c =>
    have h' : fetch E .pickle mode (some c) true .null false = .val v := h
    show (match fetch E .pickle mode (some c) true .null false with
      | .ioerror => _ | f => _) = _
    rw [h']; rfl

/-- `forever_returned` with one lawful codec for `set` and `get`: the later `get` returns the value
itself -/
theorem forever_returns_value (d : Django) (m : Spec.Dict) (clock : Int) (ops ops' : List DOp)
    (E : Externals) (hE : Lawful E) (now now' : Int) (k : Str) (v : PyVal) (ver ver' : Option Int)
    (tag : SqlVal)
    (hg : DGood d) (hr : DRefines d m clock)
    (hd : (dcfg d).disk = .pickle) -- the default `Disk`, see above
    (hm : DMonotone clock (ops ++ [.set E now k v .forever ver tag] ++ ops' ++ [.get E now' k ver']))
    (hver : ver'.getD (conf d).version = ver.getD (conf d).version)
    (hset : ((d.run ops).step (.set E now k v .forever ver tag)).2 = .bool true)
    (hw : ∀ op ∈ ops', writesTo (conf d) k (ver.getD (conf d).version) op = false) :
    ((d.run (ops ++ [.set E now k v .forever ver tag] ++ ops')).step (.get E now' k ver')).2 =
      .val v := by
  obtain ⟨p, hp, h⟩ := forever_returned d m clock ops ops' E E now now' k v ver ver' tag hg hr hd hm
    hver hset hw
  rw [h]
  exact djrf_out_value E hE _ hd v p none tag hp

/-! ### non-vacuity: a DjangoCache over three shards -/

/-- KEY_PREFIX "p", VERSION 1, TIMEOUT 300, three shards with eviction policy 'none' -/
def exDj : Django := { fan := Fanout.init 3 { policy := .none } false, keyPrefix := [112] }

/-- set under versions 1 and 2, read back, an already expired set, add on a live item, incr / decr,
incr on a missing key (ValueError), the default timeout running out, touch, pop, has_key, delete,
clear -/
def exDjOps : List DOp :=
  [ .set toyV 10 [97] (.int 7) .forever none .null,
    .set toyV 10 [97] (.int 70) .dflt (some 2) .null,
    .get toyV 11 [97] none,
    .get toyV 11 [97] (some 2),
    .set toyV 12 [98] (.int 1) (.secs 0) none .null,
    .get toyV 12 [98] none,
    .add toyV 13 [97] (.int 8) (.secs 5) none .null,
    .add toyV 13 [98] (.int 8) (.secs 5) none .null,
    .incr toyV 14 [97] 3 none,
    .decr toyV 14 [97] 1 (some 1),
    .incr toyV 14 [99] 1 none,
    .get toyV 18 [98] none,
    .incr toyV 19 [98] 1 none,
    .get toyV 400 [97] (some 2),
    .touch toyV 401 [97] (.secs 10) none,
    .pop toyV 405 [97] none,
    .hasKey toyV 405 [97] none,
    .delete toyV 406 [97] (some 2),
    .clear ]

example : outs exDj exDjOps = DjSpec.outs [] (conf exDj) (dcfg exDj) exDjOps ∧
    ∃ clock', DRefines (exDj.run exDjOps) (DjSpec.run [] (conf exDj) (dcfg exDj) exDjOps) clock' :=
  djrun_refines exDj [] 0 exDjOps
    (django_init 3 _ false _ _ _ (by decide) rfl (by decide) 0).1
    (django_init 3 _ false _ _ _ (by decide) rfl (by decide) 0).2 (by decide +kernel)

/-- what the DjangoCache (and the specification) returns along that history -/
example : outs exDj exDjOps =
    [.bool true, .bool true, .val (.int 7), .val (.int 70), .bool true, .default, .bool false,
     .bool true, .int 10, .int 9, .exc "ValueError", .default, .exc "ValueError", .default,
     .bool true, .val (.int 9), .bool false, .bool false, .none] :=
  (djrun_refines exDj [] 0 exDjOps
    (django_init 3 _ false _ _ _ (by decide) rfl (by decide) 0).1
    (django_init 3 _ false _ _ _ (by decide) rfl (by decide) 0).2 (by decide +kernel)).1.trans (by rfl)

end DC.Django
