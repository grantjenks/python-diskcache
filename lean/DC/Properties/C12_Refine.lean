/-
C12 (refinement) — the Index model refines the insertion-ordered dictionary of
DC/Model/OSpec.lean: for every history of mapping calls every call returns what
the ordered dictionary returns, and the rows of the final state, in rowid
order, ARE the bindings of the final dictionary, in insertion order.

 * `IRefines x m`: the rows of `x.cache`, in order, each with the entry it denotes
   (`entryOfRow`), are literally the list `m`.  No clock: an Index never gives an
   item an expiry time.
 * `IOk x`: `Index.Ok` (policy none, nothing expires, no open block, pickle disk,
   table invariant) plus `Cache.Good` (every file-backed row has its file, no
   orphan file, nothing pending) — what `Spec.Entry.out` needs to agree with
   `Disk.fetch` of the row.
 * Every call of `IOp` is covered, including the views, the comparisons and
   `rehandle` (a new handle on the same directory: pickle round trip, re-opening,
   copy), so a history may reopen at any point.
 * `hpg : 0 < x.cache.cfg.page` for `iter` and `clear`, hence for histories: the page
   size is a `Cfg` field of the model (the constant 100 in core.py); with page size
   0 the paging loops see nothing (`iter_irefines_needs_page`).
 * `hcodec` for `popitem`, the views and the comparisons: persistent.py looks the
   key up again through the Python key decoded from the row (`del self[key]`,
   `ItemsView.__iter__`, `ValuesView.__iter__`, `Index.__eq__`), so the stored keys
   must survive decode-then-encode (`*_irefines_needs_codec`).  A look-up that misses
   raises KeyError, which is the outcome of the whole call (model: `Index.itemsWalk`;
   dictionary: `OSpec.walk`, at an entry whose value cannot be read).  In the
   history theorem the hypothesis becomes `HistCodec D ops` — all calls pickle keys
   with the same `D` and their `loads` inverts it — plus `KeysRT D m` for the keys
   already there; a law of each call's codec by itself is not enough because every
   call carries its own codec observations (`hist_codec_needs_agreement`).
 * Exceptions propagate as in persistent.py: `index[key] = value` returns the
   exception of `Cache.set` and changes nothing; `update` stops at the first
   assignment that raises; `popitem` whose `del _cache[key]` misses raises KeyError
   and rolls its block back; `setdefault` whose `add` raises propagates that
   exception and rolls its block back (`*_propagates_error` are concrete instances).
-/
import DC.Proofs.IRefineOps
import DC.Proofs.IRefineBlock
import DC.Proofs.IRefineSetdefault
import DC.Proofs.IRefineViews
import DC.Properties.C12
import DC.Properties.C03_Refine

namespace DC.Index
open DC.Spec DC.Cache

def IRefines (x : Index) (m : ODict) : Prop :=
  x.cache.rows.map (fun r => ((r.key, r.raw), entryOfRow x.cache r)) = m

structure IOk (x : Index) : Prop where
  ok : Ok x
  good : Good x.cache

theorem irefines_iff (x : Index) (m : ODict) : IRefines x m ↔ irf_abs x.cache = m := Iff.rfl

theorem IOk.inv {x : Index} (h : IOk x) : irf_Inv x.cache := ⟨h.good, h.ok.pol, h.ok.noexp⟩

theorem iok_of {x : Index} (h : IOk x) {c : Cache} (hi : irf_Inv c) (hc : c.cfg = x.cache.cfg) :
    IOk { cache := c } :=
  ⟨⟨hi.good.tinv, hi.pol, hi.noexp, hi.good.depth, by rw [hc]; exact h.ok.disk⟩, hi.good⟩

structure StepOK (x : Index) (r : Index × Out) (s : ODict × Out) : Prop where
  ok : IOk r.1
  cfg : r.1.cache.cfg = x.cache.cfg
  out : r.2 = s.2
  rel : IRefines r.1 s.1

/-! ### the calls -/

/-- a call that keeps `core` of the cache; `h` has the shape of the lemmas of DC/Proofs/IRefine*.lean
(result, state, invariant) -/
theorem StepOK.of_core {x : Index} {r : Index × Out} {s : ODict × Out} (hok : IOk x)
    (h : r.2 = s.2 ∧ core r.1.cache = core x.cache ∧ irf_Inv r.1.cache) (hs : irf_abs x.cache = s.1) :
    StepOK x r s :=
  ⟨iok_of hok h.2.2 (congrArg Core.cfg h.2.1), congrArg Core.cfg h.2.1, h.1, (irf_abs_core h.2.1).trans hs⟩

theorem StepOK.of_abs {x : Index} {r : Index × Out} {s : ODict × Out} (hok : IOk x)
    (h : r.2 = s.2 ∧ irf_abs r.1.cache = s.1 ∧ r.1.cache.cfg = x.cache.cfg ∧ irf_Inv r.1.cache) :
    StepOK x r s :=
  ⟨iok_of hok h.2.2.2 h.2.2.1, h.2.2.1, h.1, h.2.1⟩

theorem StepOK.pair {x : Index} {r : Index × Out} {s : ODict × Out} (h : StepOK x r s) :
    r.2 = s.2 ∧ IRefines r.1 s.1 := ⟨h.out, h.rel⟩

theorem getitem_step (x : Index) (m : ODict) (E : Externals) (now : Int) (k : PyVal)
    (hok : IOk x) (hr : IRefines x m) :
    StepOK x (x.getitem E now k) (OSpec.getitem m E x.cache.cfg k) := by
  subst hr
  obtain ⟨h1, h2, h3⟩ := irf_get x.cache E now k hok.inv
  refine .of_core hok ⟨?_, h2, h3⟩ rfl
  show keyErr (x.cache.get E now k false false false).2 = _
  rw [h1]; rfl

theorem setitem_step (x : Index) (m : ODict) (E : Externals) (now : Int) (k v : PyVal)
    (hok : IOk x) (hr : IRefines x m) :
    StepOK x (x.setitem E now k v) (OSpec.setitem m E x.cache.cfg k v) := by
  subst hr
  exact .of_abs hok ⟨irf_set_out x.cache E now k v hok.inv, irf_set x.cache E now k v hok.inv⟩

theorem delitem_step (x : Index) (m : ODict) (E : Externals) (now : Int) (k : PyVal)
    (hok : IOk x) (hr : IRefines x m) :
    StepOK x (x.delitem E now k) (OSpec.delitem m E x.cache.cfg k) := by
  subst hr
  exact .of_abs hok (irf_delitem x.cache E now k hok.inv)

theorem pop_step (x : Index) (m : ODict) (E : Externals) (now : Int) (k : PyVal) (d : Bool)
    (hok : IOk x) (hr : IRefines x m) :
    StepOK x (x.pop E now k d) (OSpec.pop m E x.cache.cfg k d) := by
  subst hr
  obtain ⟨h1, h2, h3, h4⟩ := irf_pop x.cache E now k hok.inv
  refine .of_abs hok ⟨?_, h2, h3, h4⟩
  show (if d then (x.cache.pop E now k false false).2 else keyErr (x.cache.pop E now k false false).2) = _
  rw [h1]; rfl

theorem len_step (x : Index) (m : ODict) (hok : IOk x) (hr : IRefines x m) :
    StepOK x x.len (OSpec.len m) := by
  subst hr
  exact .of_core hok (irf_len x.cache hok.inv) rfl

theorem iter_step (x : Index) (m : ODict) (E : Externals) (asc : Bool)
    (hok : IOk x) (hr : IRefines x m)
    (hpg : 0 < x.cache.cfg.page) -- page size of the iteration loop
    : StepOK x (x.iter E asc) (OSpec.iter m E x.cache.cfg asc) := by
  subst hr
  exact .of_core hok (irf_iter x.cache E asc hok.inv hpg) rfl

theorem clear_step (x : Index) (m : ODict) (hok : IOk x) (_hr : IRefines x m)
    (hpg : 0 < x.cache.cfg.page) -- page size of the removal loop
    : StepOK x x.clear (OSpec.clear m) := by
  exact .of_abs hok ⟨rfl, irf_clear x.cache hok.inv hpg⟩

theorem peekitem_step (x : Index) (m : ODict) (E : Externals) (now : Int) (last : Bool)
    (hok : IOk x) (hr : IRefines x m) :
    StepOK x (x.peekitem E now last) (OSpec.peekitem m E x.cache.cfg last) := by
  subst hr
  obtain ⟨h1, h2⟩ := irf_peekitem x.cache E now last hok.ok.noexp
  obtain ⟨h3, h4⟩ := irf_peekOut_spec x.cache E last hok.good
  exact .of_core hok ⟨h2.trans h3, h1, irf_inv_core hok.inv h1 (peekitem_inv _ _ _ _ _ _ hok.good.tinv)⟩
    h4.symm

/-- `popitem` finds the row to delete again through the Python key it decoded from the edge row
(`del self[key]`), so the stored keys must survive decode-then-encode (`popitem_end_needs_codec`
in C12.lean is the counterexample without `hcodec`) -/
theorem popitem_step (x : Index) (m : ODict) (E : Externals) (now : Int) (last : Bool)
    (hok : IOk x) (hr : IRefines x m)
    (hcodec : ∀ r ∈ x.cache.rows,
      DC.put E x.cache.cfg.disk (DC.get E x.cache.cfg.disk r.key r.raw) = (r.key, r.raw)) :
    StepOK x (x.popitem E now last) (OSpec.popitem m E x.cache.cfg last) := by
  subst hr
  exact .of_abs hok (irf_popitem_edge x E now last hok.inv (fun r he => hcodec r (irf_edge_mem he)))

theorem setdefault_step (x : Index) (m : ODict) (E : Externals) (now : Int) (k v : PyVal)
    (hok : IOk x) (hr : IRefines x m) :
    StepOK x (x.setdefault E now k v) (OSpec.setdefault m E x.cache.cfg k v) := by
  subst hr
  exact .of_abs hok (irf_setdefault x E now k v hok.inv)

theorem update_step (x : Index) (m : ODict) (E : Externals) (now : Int) (kvs : List (PyVal × PyVal))
    (hok : IOk x) (hr : IRefines x m) :
    StepOK x (x.update E now kvs) (OSpec.update m E x.cache.cfg kvs) := by
  induction kvs generalizing x m with
  | nil => exact ⟨hok, rfl, rfl, hr⟩
  | cons kv kvs ih =>
    have h1 := setitem_step x m E now kv.1 kv.2 hok hr
    have h2 := ih (x.setitem E now kv.1 kv.2).1 (OSpec.setitem m E x.cache.cfg kv.1 kv.2).1 h1.ok h1.rel
    rw [h1.cfg] at h2
    rw [Index.update, OSpec.update]
    obtain ⟨a1, a2, a3, a4⟩ := h1
    obtain ⟨b1, b2, b3, b4⟩ := h2
    rw [show x.setitem E now kv.1 kv.2 = ((x.setitem E now kv.1 kv.2).1,
        (OSpec.setitem m E x.cache.cfg kv.1 kv.2).2) from Prod.ext rfl a3,
      show OSpec.setitem m E x.cache.cfg kv.1 kv.2 = ((OSpec.setitem m E x.cache.cfg kv.1 kv.2).1,
        (OSpec.setitem m E x.cache.cfg kv.1 kv.2).2) from rfl]
    rcases irf_spec_setitem_snd m E x.cache.cfg kv.1 kv.2 with ho | ⟨e, ho⟩
    · rw [ho]; exact ⟨b1, b2.trans a2, b3, b4⟩
    · rw [ho]; exact ⟨a1, a2, rfl, a4⟩

/-- the views look every key up again through the Python key decoded from the row
(`ItemsView.__iter__`: `for key in mapping: yield (key, mapping[key])`), so — as for `popitem` —
the stored keys must survive decode-then-encode (`items_irefines_needs_codec`) -/
theorem items_step (x : Index) (m : ODict) (E : Externals) (now : Int)
    (hok : IOk x) (hr : IRefines x m)
    (hcodec : ∀ r ∈ x.cache.rows,
      DC.put E x.cache.cfg.disk (DC.get E x.cache.cfg.disk r.key r.raw) = (r.key, r.raw)) :
    StepOK x (x.items E now) (OSpec.items m E x.cache.cfg) := by
  subst hr
  exact .of_core hok (irf_items x E now hok.inv hcodec) rfl

theorem values_step (x : Index) (m : ODict) (E : Externals) (now : Int)
    (hok : IOk x) (hr : IRefines x m)
    (hcodec : ∀ r ∈ x.cache.rows,
      DC.put E x.cache.cfg.disk (DC.get E x.cache.cfg.disk r.key r.raw) = (r.key, r.raw)) :
    StepOK x (x.values E now) (OSpec.values m E x.cache.cfg) := by
  subst hr
  exact .of_core hok (irf_values x E now hok.inv hcodec) rfl

theorem eqTo_step (x : Index) (m : ODict) (E : Externals) (now : Int) (ordered : Bool)
    (other : List (PyVal × PyVal)) (hok : IOk x) (hr : IRefines x m)
    (hcodec : ∀ r ∈ x.cache.rows,
      DC.put E x.cache.cfg.disk (DC.get E x.cache.cfg.disk r.key r.raw) = (r.key, r.raw)) :
    StepOK x (x.eqTo E now ordered other) (OSpec.eqTo m E x.cache.cfg ordered other) := by
  subst hr
  exact .of_core hok (irf_eqTo x E now ordered other hok.inv hcodec) rfl

theorem neTo_step (x : Index) (m : ODict) (E : Externals) (now : Int) (ordered : Bool)
    (other : List (PyVal × PyVal)) (hok : IOk x) (hr : IRefines x m)
    (hcodec : ∀ r ∈ x.cache.rows,
      DC.put E x.cache.cfg.disk (DC.get E x.cache.cfg.disk r.key r.raw) = (r.key, r.raw)) :
    StepOK x (x.neTo E now ordered other) (OSpec.neTo m E x.cache.cfg ordered other) := by
  subst hr
  exact .of_core hok (irf_neTo x E now ordered other hok.inv hcodec) rfl

theorem rehandle_step (x : Index) (m : ODict) (hok : IOk x) (hr : IRefines x m) :
    StepOK x x.rehandle (OSpec.rehandle m) := ⟨hok, rfl, rfl, hr⟩

/-! the per-call theorems: same result as the dictionary call, and the relation is preserved -/

theorem getitem_irefines (x : Index) (m : ODict) (E : Externals) (now : Int) (k : PyVal)
    (hok : IOk x) (hr : IRefines x m) :
    (x.getitem E now k).2 = (OSpec.getitem m E x.cache.cfg k).2 ∧
    IRefines (x.getitem E now k).1 (OSpec.getitem m E x.cache.cfg k).1 :=
  (getitem_step x m E now k hok hr).pair

theorem setitem_irefines (x : Index) (m : ODict) (E : Externals) (now : Int) (k v : PyVal)
    (hok : IOk x) (hr : IRefines x m) :
    (x.setitem E now k v).2 = (OSpec.setitem m E x.cache.cfg k v).2 ∧
    IRefines (x.setitem E now k v).1 (OSpec.setitem m E x.cache.cfg k v).1 :=
  (setitem_step x m E now k v hok hr).pair

theorem delitem_irefines (x : Index) (m : ODict) (E : Externals) (now : Int) (k : PyVal)
    (hok : IOk x) (hr : IRefines x m) :
    (x.delitem E now k).2 = (OSpec.delitem m E x.cache.cfg k).2 ∧
    IRefines (x.delitem E now k).1 (OSpec.delitem m E x.cache.cfg k).1 :=
  (delitem_step x m E now k hok hr).pair

theorem pop_irefines (x : Index) (m : ODict) (E : Externals) (now : Int) (k : PyVal) (d : Bool)
    (hok : IOk x) (hr : IRefines x m) :
    (x.pop E now k d).2 = (OSpec.pop m E x.cache.cfg k d).2 ∧
    IRefines (x.pop E now k d).1 (OSpec.pop m E x.cache.cfg k d).1 :=
  (pop_step x m E now k d hok hr).pair

theorem peekitem_irefines (x : Index) (m : ODict) (E : Externals) (now : Int) (last : Bool)
    (hok : IOk x) (hr : IRefines x m) :
    (x.peekitem E now last).2 = (OSpec.peekitem m E x.cache.cfg last).2 ∧
    IRefines (x.peekitem E now last).1 (OSpec.peekitem m E x.cache.cfg last).1 :=
  (peekitem_step x m E now last hok hr).pair

/- Without `hcodec` the statement is false: `Index.popitem_end_needs_codec` (C12.lean) is a well-formed
Index whose only key is not the encoding of any Python key; `popitem` returns the item but the row
stays.  `hcodec` is true of every key written through `Disk.put` under a lawful key codec
(`Index.codec_of_put`). -/
theorem popitem_irefines (x : Index) (m : ODict) (E : Externals) (now : Int) (last : Bool)
    (hok : IOk x) (hr : IRefines x m)
    (hcodec : ∀ r ∈ x.cache.rows,
      DC.put E x.cache.cfg.disk (DC.get E x.cache.cfg.disk r.key r.raw) = (r.key, r.raw)) :
    (x.popitem E now last).2 = (OSpec.popitem m E x.cache.cfg last).2 ∧
    IRefines (x.popitem E now last).1 (OSpec.popitem m E x.cache.cfg last).1 :=
  (popitem_step x m E now last hok hr hcodec).pair

/-- `popitem`, sharper: the key-codec round trip is needed of the row it pops only — the last
(first) row -/
theorem popitem_irefines_edge (x : Index) (m : ODict) (E : Externals) (now : Int) (last : Bool)
    (hok : IOk x) (hr : IRefines x m)
    (hcodec : ∀ r, (if last then x.cache.rows.getLast? else x.cache.rows.head?) = some r →
      DC.put E x.cache.cfg.disk (DC.get E x.cache.cfg.disk r.key r.raw) = (r.key, r.raw)) :
    (x.popitem E now last).2 = (OSpec.popitem m E x.cache.cfg last).2 ∧
    IRefines (x.popitem E now last).1 (OSpec.popitem m E x.cache.cfg last).1 ∧
    IOk (x.popitem E now last).1 := by
  subst hr
  obtain ⟨h1, h2, h3, h4⟩ := irf_popitem_edge x E now last hok.inv hcodec
  exact ⟨h1, h2, iok_of hok h4 h3⟩

theorem setdefault_irefines (x : Index) (m : ODict) (E : Externals) (now : Int) (k v : PyVal)
    (hok : IOk x) (hr : IRefines x m) :
    (x.setdefault E now k v).2 = (OSpec.setdefault m E x.cache.cfg k v).2 ∧
    IRefines (x.setdefault E now k v).1 (OSpec.setdefault m E x.cache.cfg k v).1 :=
  (setdefault_step x m E now k v hok hr).pair

theorem len_irefines (x : Index) (m : ODict) (hok : IOk x) (hr : IRefines x m) :
    (x.len).2 = (OSpec.len m).2 ∧ IRefines (x.len).1 (OSpec.len m).1 :=
  (len_step x m hok hr).pair

theorem iter_irefines (x : Index) (m : ODict) (E : Externals) (asc : Bool)
    (hok : IOk x) (hr : IRefines x m)
    (hpg : 0 < x.cache.cfg.page) -- page size of the iteration loop
    : (x.iter E asc).2 = (OSpec.iter m E x.cache.cfg asc).2 ∧
      IRefines (x.iter E asc).1 (OSpec.iter m E x.cache.cfg asc).1 :=
  (iter_step x m E asc hok hr hpg).pair

theorem clear_irefines (x : Index) (m : ODict) (hok : IOk x) (hr : IRefines x m)
    (hpg : 0 < x.cache.cfg.page) -- page size of the removal loop
    : (x.clear).2 = (OSpec.clear m).2 ∧ IRefines (x.clear).1 (OSpec.clear m).1 :=
  (clear_step x m hok hr hpg).pair

theorem update_irefines (x : Index) (m : ODict) (E : Externals) (now : Int) (kvs : List (PyVal × PyVal))
    (hok : IOk x) (hr : IRefines x m) :
    (x.update E now kvs).2 = (OSpec.update m E x.cache.cfg kvs).2 ∧
    IRefines (x.update E now kvs).1 (OSpec.update m E x.cache.cfg kvs).1 :=
  (update_step x m E now kvs hok hr).pair

/- Without `hcodec` the statements are false: `items_irefines_needs_codec` below (the Index of
`Index.popitem_end_needs_codec`: the look-up of the key decoded from the only row misses, the
model's view raises KeyError — as persistent.py does — where the dictionary shows the item). -/
theorem items_irefines (x : Index) (m : ODict) (E : Externals) (now : Int)
    (hok : IOk x) (hr : IRefines x m)
    (hcodec : ∀ r ∈ x.cache.rows,
      DC.put E x.cache.cfg.disk (DC.get E x.cache.cfg.disk r.key r.raw) = (r.key, r.raw)) :
    (x.items E now).2 = (OSpec.items m E x.cache.cfg).2 ∧
    IRefines (x.items E now).1 (OSpec.items m E x.cache.cfg).1 :=
  (items_step x m E now hok hr hcodec).pair

theorem values_irefines (x : Index) (m : ODict) (E : Externals) (now : Int)
    (hok : IOk x) (hr : IRefines x m)
    (hcodec : ∀ r ∈ x.cache.rows,
      DC.put E x.cache.cfg.disk (DC.get E x.cache.cfg.disk r.key r.raw) = (r.key, r.raw)) :
    (x.values E now).2 = (OSpec.values m E x.cache.cfg).2 ∧
    IRefines (x.values E now).1 (OSpec.values m E x.cache.cfg).1 :=
  (values_step x m E now hok hr hcodec).pair

theorem eqTo_irefines (x : Index) (m : ODict) (E : Externals) (now : Int) (ordered : Bool)
    (other : List (PyVal × PyVal)) (hok : IOk x) (hr : IRefines x m)
    (hcodec : ∀ r ∈ x.cache.rows,
      DC.put E x.cache.cfg.disk (DC.get E x.cache.cfg.disk r.key r.raw) = (r.key, r.raw)) :
    (x.eqTo E now ordered other).2 = (OSpec.eqTo m E x.cache.cfg ordered other).2 ∧
    IRefines (x.eqTo E now ordered other).1 (OSpec.eqTo m E x.cache.cfg ordered other).1 :=
  (eqTo_step x m E now ordered other hok hr hcodec).pair

theorem neTo_irefines (x : Index) (m : ODict) (E : Externals) (now : Int) (ordered : Bool)
    (other : List (PyVal × PyVal)) (hok : IOk x) (hr : IRefines x m)
    (hcodec : ∀ r ∈ x.cache.rows,
      DC.put E x.cache.cfg.disk (DC.get E x.cache.cfg.disk r.key r.raw) = (r.key, r.raw)) :
    (x.neTo E now ordered other).2 = (OSpec.neTo m E x.cache.cfg ordered other).2 ∧
    IRefines (x.neTo E now ordered other).1 (OSpec.neTo m E x.cache.cfg ordered other).1 :=
  (neTo_step x m E now ordered other hok hr hcodec).pair

/-- persistence operations are the identity on contents: a new handle (pickle round trip,
re-opening the directory, `copy`) returns nothing and represents the same dictionary -/
theorem rehandle_irefines (x : Index) (m : ODict) (hok : IOk x) (hr : IRefines x m) :
    (x.rehandle).2 = (OSpec.rehandle m).2 ∧ IRefines (x.rehandle).1 (OSpec.rehandle m).1 ∧
    (x.rehandle).2 = .none ∧ (x.rehandle).1 = x ∧ IOk (x.rehandle).1 :=
  ⟨rfl, hr, rfl, rfl, hok⟩

/-! ### histories -/

/-- the calls that need a law of the key codec: `popitem` and the views (`items`, `values`, and the
comparisons, which read the items), which look a key up again through the Python key decoded from
its row -/
def NeedsCodec : IOp → Bool
  | .popitem .. => true
  | .items .. => true
  | .values .. => true
  | .eqTo .. => true
  | .neTo .. => true
  | _ => false

/-- the calls that encode a key into the table -/
def WritesKey : IOp → Bool
  | .setitem .. => true
  | .setdefault .. => true
  | .update .. => true
  | _ => false

/-- the hypothesis `popitem`, the views and the comparisons add: the stored keys survive
decode-then-encode under the codec of the call -/
def StepCodec (x : Index) : IOp → Prop
  | .popitem E _ _ | .items E _ | .values E _ | .eqTo E _ _ _ | .neTo E _ _ _ => ∀ r ∈ x.cache.rows,
      DC.put E x.cache.cfg.disk (DC.get E x.cache.cfg.disk r.key r.raw) = (r.key, r.raw)
  | _ => True

theorem istep (x : Index) (m : ODict) (op : IOp) (hok : IOk x) (hr : IRefines x m)
    (hpg : 0 < x.cache.cfg.page) -- page size of the paging loops (`iter`, `clear`)
    (hcodec : StepCodec x op) -- key codec round trip, for the calls of `NeedsCodec` only
    : StepOK x (x.step op) (OSpec.step m x.cache.cfg op) := by
  cases op with
  | getitem E now k => exact getitem_step x m E now k hok hr
  | setitem E now k v => exact setitem_step x m E now k v hok hr
  | delitem E now k => exact delitem_step x m E now k hok hr
  | setdefault E now k v => exact setdefault_step x m E now k v hok hr
  | pop E now k d => exact pop_step x m E now k d hok hr
  | popitem E now last => exact popitem_step x m E now last hok hr hcodec
  | peekitem E now last => exact peekitem_step x m E now last hok hr
  | len => exact len_step x m hok hr
  | iter E asc => exact iter_step x m E asc hok hr hpg
  | clear => exact clear_step x m hok hr hpg
  | update E now kvs => exact update_step x m E now kvs hok hr
  | items E now => exact items_step x m E now hok hr hcodec
  | values E now => exact values_step x m E now hok hr hcodec
  | eqTo E now ordered other => exact eqTo_step x m E now ordered other hok hr hcodec
  | neTo E now ordered other => exact neTo_step x m E now ordered other hok hr hcodec
  | rehandle => exact rehandle_step x m hok hr

theorem istep_ok (x : Index) (op : IOp) (hok : IOk x) (hpg : 0 < x.cache.cfg.page)
    (hcodec : StepCodec x op) : IOk (x.step op).1 :=
  (istep x _ op hok rfl hpg hcodec).ok

/-! #### the key codec along a history

Every call carries its own codec observations `E`.  `popitem` re-encodes a key that an earlier
call encoded, so the calls of a history must agree on the key codec: they pickle keys with the
same function `D`, and unpickling inverts it. -/

/-- the codec observations of a call -/
def opE : IOp → Option Externals
  | .getitem E .. | .setitem E .. | .delitem E .. | .setdefault E .. | .pop E .. | .popitem E ..
  | .peekitem E .. | .iter E .. | .update E .. | .items E .. | .values E .. | .eqTo E .. | .neTo E .. => some E
  | .len | .clear | .rehandle => none

def CodecOk (D : PyVal → Bytes) (E : Externals) : Prop := E.dumpsK = D ∧ ∀ k, E.loads (D k) = k

def HistCodec (D : PyVal → Bytes) (ops : List IOp) : Prop :=
  ∀ op ∈ ops, ∀ E, opE op = some E → CodecOk D E

/-- every key of the dictionary survives decode-then-encode under every codec agreeing with `D` -/
def KeysRT (D : PyVal → Bytes) (m : ODict) : Prop :=
  ∀ E, CodecOk D E → ∀ K ∈ m.keys, DC.put E .pickle (DC.get E .pickle K.1 K.2) = K

theorem keysRT_nil (D : PyVal → Bytes) : KeysRT D [] := fun _ _ _ hK => nomatch hK

/-- a key encoded under one codec of the history decodes and re-encodes to itself under another -/
theorem put_get_put2 (D : PyVal → Bytes) (E E' : Externals) (h : CodecOk D E) (h' : CodecOk D E')
    (k : PyVal) :
    DC.put E' .pickle (DC.get E' .pickle (DC.put E .pickle k).1 (DC.put E .pickle k).2) =
      DC.put E .pickle k :=
  Cache.put_get_put E E' (h'.1.trans h.1.symm) (fun k => by rw [h.1]; exact h'.2 k) k

theorem setitem_keys (m : ODict) (E : Externals) (cfg : Cfg) (k v : PyVal) :
    ∀ K ∈ (OSpec.setitem m E cfg k v).1.keys, K ∈ m.keys ∨ K = keyOf E cfg k := by
  intro K hK
  unfold OSpec.setitem at hK
  split at hK
  · exact .inl hK
  · simp only at hK
    split at hK
    · simp only at hK
      rw [irf_keys_set] at hK
      split at hK
      · exact .inl hK
      · rcases List.mem_append.1 hK with h | h
        · exact .inl h
        · exact .inr (List.mem_singleton.1 h)
    · exact .inl hK

theorem del_keys (m : ODict) (K0 : Key) : ∀ K ∈ (m.del K0).keys, K ∈ m.keys := by
  intro K hK
  rw [irf_keys_del] at hK
  exact (List.mem_filter.1 hK).1

/-- a call reaches its dictionary from the one before by deletions and, if it is one of `WritesKey`,
by assignments under its own codec (or empties it): what these keep, the call keeps -/
theorem step_closed (P : ODict → Prop) (cfg : Cfg) (op : IOp) (hnil : P [])
    (hdel : ∀ m K, P m → P (m.del K))
    (hset : ∀ m E k v, WritesKey op = true → opE op = some E → P m → P (OSpec.setitem m E cfg k v).1)
    (m : ODict) (h : P m) : P (OSpec.step m cfg op).1 := by
  cases op with
  | setitem E now k v => exact hset m E k v rfl rfl h
  | delitem E now k =>
    show P (OSpec.delitem m E cfg k).1
    rw [irf_spec_delitem_fst]
    exact hdel m _ h
  | setdefault E now k v =>
    show P (OSpec.setdefault m E cfg k v).1
    rcases irf_spec_setdefault_fst m E cfg k v with e | e
    · rw [e]; exact h
    · rw [e]; exact hset m E k v rfl rfl h
  | pop E now k d => exact hdel m _ h
  | popitem E now last =>
    show P (OSpec.popitem m E cfg last).1
    unfold OSpec.popitem
    split
    · exact h
    · split
      · exact h
      · exact hdel m _ h
  | peekitem E now last =>
    show P (OSpec.peekitem m E cfg last).1
    unfold OSpec.peekitem
    split
    · exact h
    · split <;> exact h
  | clear => exact hnil
  | update E now kvs =>
    show P (OSpec.update m E cfg kvs).1
    have hset' : ∀ m k v, P m → P (OSpec.setitem m E cfg k v).1 := fun m k v => hset m E k v rfl rfl
    clear hset
    induction kvs generalizing m with
    | nil => exact h
    | cons kv kvs ih =>
      rw [OSpec.update]
      have h1 := hset' m kv.1 kv.2 h
      cases hm : OSpec.setitem m E cfg kv.1 kv.2 with
      | mk m1 o =>
        rw [hm] at h1
        cases o with
        | exc e => exact h1
        | _ => exact ih m1 h1
  | getitem E now k | len | iter E asc | items E now | values E now | eqTo E now ordered other
  | neTo E now ordered other | rehandle => exact h

/-- a call binds no key other than those it encodes itself -/
theorem step_keys (m : ODict) (cfg : Cfg) (op : IOp) :
    ∀ K ∈ (OSpec.step m cfg op).1.keys, K ∈ m.keys ∨ ∃ E k, opE op = some E ∧ K = keyOf E cfg k := by
  refine step_closed (fun m' => ∀ K ∈ m'.keys, K ∈ m.keys ∨ ∃ E k, opE op = some E ∧ K = keyOf E cfg k)
    cfg op (fun _ hK => nomatch hK) (fun m' K0 h K hK => h K (del_keys m' K0 K hK)) ?_ m
    (fun _ hK => .inl hK)
  intro m' E k v _ hE h K hK
  rcases setitem_keys m' E cfg k v K hK with h1 | h1
  · exact h K h1
  · exact .inr ⟨E, k, hE, h1⟩

theorem step_keysRT (D : PyVal → Bytes) (m : ODict) (cfg : Cfg) (op : IOp) (hd : cfg.disk = .pickle)
    (hE : ∀ E, opE op = some E → CodecOk D E) (hk : KeysRT D m) :
    KeysRT D (OSpec.step m cfg op).1 := by
  intro E' hE' K hK
  rcases step_keys m cfg op K hK with h | ⟨E, k, ho, rfl⟩
  · exact hk E' hE' K h
  · unfold keyOf
    rw [hd]
    exact put_get_put2 D E E' (hE E ho) hE' k

theorem stepCodec_of (D : PyVal → Bytes) (x : Index) (m : ODict) (op : IOp) (hok : IOk x)
    (hr : IRefines x m) (hE : ∀ E, opE op = some E → CodecOk D E) (hk : KeysRT D m) :
    StepCodec x op := by
  have key : ∀ E, opE op = some E → ∀ r ∈ x.cache.rows,
      DC.put E x.cache.cfg.disk (DC.get E x.cache.cfg.disk r.key r.raw) = (r.key, r.raw) := by
    intro E hop r hrm
    rw [hok.ok.disk]
    refine hk E (hE E hop) (r.key, r.raw) ?_
    rw [← hr]
    exact List.mem_map.2 ⟨_, List.mem_map.2 ⟨r, hrm, rfl⟩, rfl⟩
  cases op <;> first | trivial | exact key _ rfl

/-- the hypothesis of the history theorem about the key codec: needed only when the history
contains a call that re-encodes keys (`NeedsCodec`: `popitem`, the views, the comparisons) -/
def CodecHyp (D : PyVal → Bytes) (m : ODict) (ops : List IOp) : Prop :=
  (∃ op ∈ ops, NeedsCodec op = true) → HistCodec D ops ∧ KeysRT D m

theorem stepCodec_trivial (x : Index) (op : IOp) (hn : NeedsCodec op = false) : StepCodec x op := by
  cases op <;> first | trivial | cases hn

/-- the induction over a history, for any agreement `H` among the calls still to come that gives
each call of `NeedsCodec` its codec (`hN`) and under which a call keeps the stored keys
round-tripping (`hK`); it is asked for only when a call of `NeedsCodec` is still to come -/
theorem irun_refines_hist (D : PyVal → Bytes) (H : List IOp → Prop)
    (hN : ∀ op ops, H (op :: ops) → NeedsCodec op = true → ∀ E, opE op = some E → CodecOk D E)
    (hK : ∀ (m : ODict) (cfg : Cfg) (op : IOp) (ops : List IOp), cfg.disk = .pickle → H (op :: ops) →
      KeysRT D m → H ops ∧ KeysRT D (OSpec.step m cfg op).1)
    (x : Index) (m : ODict) (ops : List IOp) (hok : IOk x) (hr : IRefines x m)
    (hpg : 0 < x.cache.cfg.page) (hD : (∃ op ∈ ops, NeedsCodec op = true) → H ops ∧ KeysRT D m) :
    Index.outs x ops = OSpec.outs m x.cache.cfg ops ∧
    IRefines (Index.run x ops) (OSpec.run m x.cache.cfg ops) ∧
    IOk (Index.run x ops) ∧ (Index.run x ops).cache.cfg = x.cache.cfg := by
  induction ops generalizing x m with
  | nil => exact ⟨rfl, hr, hok, rfl⟩
  | cons op ops ih =>
    have hcod : StepCodec x op := by
      cases hn : NeedsCodec op with
      | false => exact stepCodec_trivial x op hn
      | true =>
        obtain ⟨h1, h2⟩ := hD ⟨op, List.mem_cons_self .., hn⟩
        exact stepCodec_of D x m op hok hr (hN op ops h1 hn) h2
    have hs := istep x m op hok hr hpg hcod
    obtain ⟨h1, h2, h3, h4⟩ := ih (x.step op).1 (OSpec.step m x.cache.cfg op).1 hs.ok hs.rel
      (by rw [hs.cfg]; exact hpg)
      (fun ⟨o, ho, hn⟩ => by
        obtain ⟨h1, h2⟩ := hD ⟨o, List.mem_cons_of_mem _ ho, hn⟩
        exact hK m x.cache.cfg op ops hok.ok.disk h1 h2)
    rw [hs.cfg] at h1 h2 h4
    refine ⟨?_, h2, h3, h4⟩
    show _ :: _ = _ :: _
    rw [hs.out, h1]

theorem irun_refines_strong (x : Index) (m : ODict) (ops : List IOp) (hok : IOk x) (hr : IRefines x m)
    (hpg : 0 < x.cache.cfg.page) (D : PyVal → Bytes) (hD : CodecHyp D m ops) :
    Index.outs x ops = OSpec.outs m x.cache.cfg ops ∧
    IRefines (Index.run x ops) (OSpec.run m x.cache.cfg ops) ∧
    IOk (Index.run x ops) ∧ (Index.run x ops).cache.cfg = x.cache.cfg :=
  irun_refines_hist D (HistCodec D) (fun op _ h _ => h op (List.mem_cons_self ..))
    (fun m cfg op _ hd h hk => ⟨fun o ho => h o (List.mem_cons_of_mem _ ho),
      step_keysRT D m cfg op hd (h op (List.mem_cons_self ..)) hk⟩)
    x m ops hok hr hpg hD

/-- **the history theorem**: every call of a history of mapping calls returns what the
insertion-ordered dictionary returns, and the rows of the final state ARE the bindings of the
final dictionary, in order.  `hpg`: the page size of the paging loops of `iter` / `clear` (100 in
core.py).  `hD`, `hkeys`: the key codec law `popitem` needs, as a hypothesis on every call's `E`:
all calls pickle keys with the same `D` and unpickling inverts it; the keys already stored
round-trip (vacuous for the empty Index).  `irun_refines_no_popitem` below: without the calls of
`NeedsCodec` in the history no codec hypothesis is needed.  `irun_refines_w` (C12_Views.lean): the
agreement is needed only of the calls that write keys and of those that re-encode them. -/
theorem irun_refines (x : Index) (m : ODict) (ops : List IOp) (hok : IOk x) (hr : IRefines x m)
    (hpg : 0 < x.cache.cfg.page)
    (D : PyVal → Bytes) (hD : HistCodec D ops)
    (hkeys : KeysRT D m)
    : Index.outs x ops = OSpec.outs m x.cache.cfg ops ∧
      IRefines (Index.run x ops) (OSpec.run m x.cache.cfg ops) :=
  have h := irun_refines_strong x m ops hok hr hpg D (fun _ => ⟨hD, hkeys⟩)
  ⟨h.1, h.2.1⟩

/-- histories without `popitem` (and without `items`, `values`, `==`, `!=`: the calls of
`NeedsCodec`): no hypothesis on the codecs at all -/
theorem irun_refines_no_popitem (x : Index) (m : ODict) (ops : List IOp) (hok : IOk x) (hr : IRefines x m)
    (hpg : 0 < x.cache.cfg.page)
    (hnp : ∀ op ∈ ops, NeedsCodec op = false) :
    Index.outs x ops = OSpec.outs m x.cache.cfg ops ∧
    IRefines (Index.run x ops) (OSpec.run m x.cache.cfg ops) := by
  have hD : CodecHyp (fun _ => []) m ops := by
    rintro ⟨o, ho, hn⟩
    rw [hnp o ho] at hn; cases hn
  have h := irun_refines_strong x m ops hok hr hpg _ hD
  exact ⟨h.1, h.2.1⟩

/-! ### the empty Index, the user-level corollary, non-vacuity -/

theorem irefines_init (cf : Cfg) (st : Bool) (hp : cf.policy = .none) (hd : cf.disk = .pickle) :
    IOk { cache := { cfg := cf, statistics := st } } ∧
    IRefines { cache := { cfg := cf, statistics := st } } [] := by
  refine ⟨⟨⟨inv_init cf st, hp, ?_, rfl, hd⟩, good_init cf st⟩, rfl⟩
  intro r hr
  cases hr

/-! what "insertion-ordered" means for the key list of the dictionary -/

theorem oset_keys_existing (m : ODict) (k : Key) (e : Entry) (h : m.has k = true) :
    (m.set k e).keys = m.keys := by rw [irf_keys_set, if_pos h]

theorem oset_keys_new (m : ODict) (k : Key) (e : Entry) (h : m.has k = false) :
    (m.set k e).keys = m.keys ++ [k] := by rw [irf_keys_set, h]; rfl

theorem odel_set_keys (m : ODict) (k : Key) (e : Entry) (hk : sameKey k k = true) :
    ((m.del k).set k e).keys = m.keys.filter (fun q => !sameKey q k) ++ [k] := by
  have h : (m.del k).has k = false := by rw [irf_has_eq, irf_get_del, hk]; rfl
  rw [oset_keys_new _ _ _ h, irf_keys_del]

theorem odel_head (m : ODict) (K : Key) (e : Entry) (hw : m.WF) (h : m.head? = some (K, e)) :
    m.del K = m.tail := by
  cases m with
  | nil => cases h
  | cons a t =>
    simp only [List.head?_cons, Option.some.injEq] at h
    subst h
    have hpw := List.pairwise_cons.1 hw.1
    have hself : sameKey K K = true := hw.2 _ (List.mem_cons_self ..)
    unfold ODict.del
    rw [List.filter_cons_of_neg (by simp [hself]), List.tail_cons, List.filter_eq_self]
    intro p hp
    have := hpw.1 p hp
    rw [rf_sameKey_comm] at this
    simp [this]

theorem odel_last (m : ODict) (K : Key) (e : Entry) (hw : m.WF) (h : m.getLast? = some (K, e)) :
    m.del K = m.dropLast := by
  obtain ⟨hne, hl⟩ := List.getLast?_eq_some_iff.1 h
  subst hl
  rw [List.dropLast_concat]
  have hpw := List.pairwise_append.1 hw.1
  have hself : sameKey K K = true := hw.2 _ (List.mem_append_right _ (List.mem_singleton.2 rfl))
  unfold ODict.del
  rw [List.filter_append, List.filter_cons_of_neg (by simp [hself]), List.filter_nil, List.append_nil,
    List.filter_eq_self]
  intro p hp
  have := hpw.2.2 p hp (K, e) (List.mem_singleton.2 rfl)
  simp [this]

/-- **what a user sees**: after any history of mapping calls on a fresh Index, `list(index)` is the
key list of the ordered dictionary that history builds — insertion order; re-assignment keeps the
position (`oset_keys_existing`); deletion and re-insertion moves the key to the end
(`odel_set_keys`) — and `list(reversed(index))` is its reverse -/
theorem iter_after_history (cf : Cfg) (st : Bool) (ops : List IOp) (E : Externals) (asc : Bool)
    (hp : cf.policy = .none) (hd : cf.disk = .pickle) (hpg : 0 < cf.page)
    (D : PyVal → Bytes) (hD : HistCodec D ops) :
    ((Index.run { cache := { cfg := cf, statistics := st } } ops).iter E asc).2 =
      .list ((if asc then (OSpec.run [] cf ops).keys else (OSpec.run [] cf ops).keys.reverse).map
        (fun K => Cache.keyOut E cf.disk K.1 K.2)) := by
  obtain ⟨hok, hr⟩ := irefines_init cf st hp hd
  obtain ⟨-, h2, h3, h4⟩ := irun_refines_strong _ [] ops hok hr hpg D (fun _ => ⟨hD, keysRT_nil D⟩)
  have := (iter_irefines _ _ E asc h3 h2 (by rw [h4]; exact hpg)).1
  rw [this, h4]
  show Out.list _ = Out.list _
  congr 1
  cases asc
  · simp only [Bool.false_eq_true, if_false, ODict.keys, ← List.map_reverse, List.map_map]
    rfl
  · simp only [if_true, ODict.keys, List.map_map]
    rfl

/-- a codec for the examples: keys are pickled like values -/
def exEI : Externals := { toyV with dumpsK := toyV.dumpsV }

theorem exEI_codec : CodecOk exEI.dumpsK exEI := by
  refine ⟨rfl, fun k => ?_⟩
  cases k with
  | none => rfl
  | int i =>
    show PyVal.int ((i.toNat : Int) - ((-i).toNat : Int)) = .int i
    congr 1
    omega
  | float f => rfl
  | str s => rfl
  | bytes b => rfl
  | obj o => rfl

/-- non-vacuity: a concrete history on a fresh Index.  `a`, `b` are assigned, `a` re-assigned
(keeps its place), `c` added by `setdefault`, the keys listed; `a` deleted and assigned again
(moves to the end), the keys listed again, the last item popped, the first one peeked, the
length taken. -/
def exIndex : Index := { cache := { cfg := { policy := .none } } }

def exIOps : List IOp :=
  [ .setitem exEI 0 (.str [97]) (.int 1),
    .setitem exEI 0 (.str [98]) (.int 2),
    .setitem exEI 0 (.str [97]) (.int 3),
    .setdefault exEI 0 (.str [99]) (.int 4),
    .iter exEI true,
    .delitem exEI 0 (.str [97]),
    .setitem exEI 0 (.str [97]) (.int 5),
    .iter exEI true,
    .popitem exEI 0 true,
    .peekitem exEI 0 false,
    .getitem exEI 0 (.str [97]),
    .len ]

theorem exIOps_codec : HistCodec exEI.dumpsK exIOps := by
  intro op hop E hE
  simp only [exIOps, List.mem_cons, List.not_mem_nil, or_false] at hop
  rcases hop with rfl | rfl | rfl | rfl | rfl | rfl | rfl | rfl | rfl | rfl | rfl | rfl <;>
    first | (cases hE; exact exEI_codec) | cases hE

example : Index.outs exIndex exIOps = OSpec.outs [] exIndex.cache.cfg exIOps ∧
    IRefines (Index.run exIndex exIOps) (OSpec.run [] exIndex.cache.cfg exIOps) :=
  irun_refines exIndex [] exIOps (irefines_init _ _ rfl rfl).1 (irefines_init _ _ rfl rfl).2 (by decide)
    exEI.dumpsK exIOps_codec (keysRT_nil _)

/-- what the dictionary (hence the Index) returns along that history -/
example : OSpec.outs [] exIndex.cache.cfg exIOps =
    [.none, .none, .none, .val (.int 4),
     .list [.val (.str [97]), .val (.str [98]), .val (.str [99])],
     .none, .none,
     .list [.val (.str [98]), .val (.str [99]), .val (.str [97])],
     .tup [.val (.str [97]), .val (.int 5)],
     .tup [.val (.str [98]), .val (.int 2)],
     .exc "KeyError", .int 2] := by
  rfl

/-! ### the hypotheses `hpg` and `hcodec` are necessary -/

/-- `hpg` is necessary: with page size 0 the iteration loop sees nothing, so `list(index)` of a
non-empty Index is empty (not a finding about the code — core.py pages by the constant 100, and
no call changes it) -/
theorem iter_irefines_needs_page :
    ∃ (x : Index) (m : ODict), IOk x ∧ IRefines x m ∧
      (x.iter exEI true).2 ≠ (OSpec.iter m exEI x.cache.cfg true).2 := by
  obtain ⟨hok0, hr0⟩ := irefines_init { policy := .none, page := 0 } false rfl rfl
  have hs := setitem_step _ [] exEI 0 (.str [97]) (.int 1) hok0 hr0
  refine ⟨_, _, hs.ok, hs.rel, ?_⟩
  have h1 : (((({ cache := { cfg := { policy := .none, page := 0 } } } : Index).setitem exEI 0
      (.str [97]) (.int 1)).1).iter exEI true).2 = .list [] := by rfl
  have h2 : (OSpec.iter (OSpec.setitem [] exEI ({ policy := .none, page := 0 } : Cfg) (.str [97]) (.int 1)).1 exEI
      ((({ cache := { cfg := { policy := .none, page := 0 } } } : Index).setitem exEI 0
      (.str [97]) (.int 1)).1).cache.cfg true).2 = .list [.val (.str [97])] := by rfl
  intro h
  rw [h1] at h
  have h3 := h.trans h2
  injection h3 with h4
  cases h4

/-- the Index of `popitem_end_needs_codec` is a quiescent, file-consistent Index -/
theorem exIx_iok : IOk exIx := by
  refine ⟨exIx_ok, exIx_ok.inv, ⟨?_, ?_, ?_, ?_⟩, ?_, rfl, rfl, rfl, rfl⟩
  · intro r hr f hf
    simp only [exIx, List.mem_singleton] at hr
    subst hr
    simp [exBigRow] at hf
  · exact List.pairwise_singleton _ _
  · intro p hp; cases hp
  · exact List.nodup_nil
  · intro p hp; cases hp

/-- `hcodec` is necessary (`Index.popitem_end_needs_codec` in refinement form): a well-formed Index
whose only key is not the encoding of any Python key; the dictionary's `popitem` removes the
binding and returns the item, the model's raises KeyError (`del _cache[key]` does not find the key
read back), rolls its block back and leaves the row (not reachable through `Disk.put`) -/
theorem popitem_irefines_needs_codec :
    ∃ (x : Index) (m : ODict), IOk x ∧ IRefines x m ∧
      ¬ IRefines (x.popitem Cache.exE 0 true).1 (OSpec.popitem m Cache.exE x.cache.cfg true).1 := by
  refine ⟨exIx, _, exIx_iok, rfl, ?_⟩
  show ¬ (List.map _ _ = _)
  decide +kernel

/-- the dictionary `exIx` represents: one binding, key 2^64 stored as an integer cell -/
def exIxDict : ODict := exIx.cache.rows.map (fun r => ((r.key, r.raw), entryOfRow exIx.cache r))

/-- `hcodec` is necessary for `items`: on the Index of `popitem_end_needs_codec` the look-up of the
key decoded from the only row misses: the model's view raises KeyError (as persistent.py:
`ItemsView.__iter__` evaluates `index[key]`), the dictionary shows the item -/
theorem items_irefines_needs_codec :
    ∃ (x : Index) (m : ODict), IOk x ∧ IRefines x m ∧
      (x.items Cache.exE 0).2 ≠ (OSpec.items m Cache.exE x.cache.cfg).2 := by
  refine ⟨exIx, exIxDict, exIx_iok, rfl, ?_⟩
  have h1 : (exIx.items Cache.exE 0).2 = .exc "KeyError" := by rfl
  have h2 : (OSpec.items exIxDict Cache.exE exIx.cache.cfg).2 =
      .list [.tup [.val (.int 18446744073709551616), .val (.int 0)]] := by rfl
  intro h
  rw [h1, h2] at h
  cases h

/-- `hcodec` is necessary for `values` (same Index) -/
theorem values_irefines_needs_codec :
    ∃ (x : Index) (m : ODict), IOk x ∧ IRefines x m ∧
      (x.values Cache.exE 0).2 ≠ (OSpec.values m Cache.exE x.cache.cfg).2 := by
  refine ⟨exIx, exIxDict, exIx_iok, rfl, ?_⟩
  have h1 : (exIx.values Cache.exE 0).2 = .exc "KeyError" := by rfl
  have h2 : (OSpec.values exIxDict Cache.exE exIx.cache.cfg).2 = .list [.val (.int 0)] := by
    rfl
  intro h
  rw [h1, h2] at h
  cases h

/-- `hcodec` is necessary for `==` and `!=`, against ordered and unordered mappings alike (same
Index): the model raises KeyError at the first look-up, the dictionary compares the pair (unequal) -/
theorem eqTo_irefines_needs_codec :
    ∃ (x : Index) (m : ODict) (other : List (PyVal × PyVal)), IOk x ∧ IRefines x m ∧
      ∀ ordered,
        (x.eqTo Cache.exE 0 ordered other).2 ≠ (OSpec.eqTo m Cache.exE x.cache.cfg ordered other).2 ∧
        (x.neTo Cache.exE 0 ordered other).2 ≠ (OSpec.neTo m Cache.exE x.cache.cfg ordered other).2 := by
  refine ⟨exIx, exIxDict, [(.int 18446744073709551616, .int 1)], exIx_iok, rfl, ?_⟩
  intro ordered
  have hm : (exIx.eqTo Cache.exE 0 ordered [(.int 18446744073709551616, .int 1)]).2 = .exc "KeyError" ∧
      (exIx.neTo Cache.exE 0 ordered [(.int 18446744073709551616, .int 1)]).2 = .exc "KeyError" := by
    cases ordered <;> exact ⟨rfl, rfl⟩
  have hd : (match (OSpec.eqTo exIxDict Cache.exE exIx.cache.cfg ordered
        [(.int 18446744073709551616, .int 1)]).2 with | .bool false => true | _ => false) = true ∧
      (match (OSpec.neTo exIxDict Cache.exE exIx.cache.cfg ordered
        [(.int 18446744073709551616, .int 1)]).2 with | .bool true => true | _ => false) = true := by
    cases ordered <;> decide +kernel
  rw [hm.1, hm.2]
  refine ⟨fun h => ?_, fun h => ?_⟩
  · have := hd.1
    rw [← h] at this
    cases this
  · have := hd.2
    rw [← h] at this
    cases this

/-- a second codec, lawful by itself, that disagrees with `exEI` on how keys are pickled -/
def exEI2 : Externals :=
  { exEI with dumpsK := fun k => 9 :: exEI.dumpsK k,
              loads := fun b => match b with | 9 :: t => exEI.loads t | _ => .none }

/-- the key-codec hypothesis of the history theorem must be an agreement between the calls
(`HistCodec`: one `D` for all), not a law of each call's codec by itself: `exEI` and `exEI2` each
invert their own key pickling, yet after `index[obj] = 1` under the first, `popitem()` under the
second raises KeyError and removes nothing, where the dictionary removes the item (an artefact of
per-call codec observations in the model, not of the code: one process pickles consistently) -/
theorem hist_codec_needs_agreement :
    (∀ k, exEI.loads (exEI.dumpsK k) = k) ∧ (∀ k, exEI2.loads (exEI2.dumpsK k) = k) ∧
    ¬ IRefines (Index.run exIndex [.setitem exEI 0 (.obj [7]) (.int 1), .popitem exEI2 0 true])
      (OSpec.run [] exIndex.cache.cfg [.setitem exEI 0 (.obj [7]) (.int 1), .popitem exEI2 0 true]) := by
  refine ⟨exEI_codec.2, fun k => exEI_codec.2 k, ?_⟩
  show ¬ (List.map _ _ = _)
  decide +kernel

/-! ### exceptions propagate (concrete instances) -/

/-- `index['a'] = '\ud800'`: the value cannot be stored (text with a lone surrogate) —
UnicodeEncodeError propagates from `Cache.set`, the Index is unchanged, and the dictionary call
raises the same exception and is unchanged -/
theorem setitem_propagates_error :
    (match (exIndex.setitem exEI 0 (.str [97]) (.str [0xD800])).2 with
      | .exc "UnicodeEncodeError" => true | _ => false) = true ∧
    (exIndex.setitem exEI 0 (.str [97]) (.str [0xD800])).1.cache.rows = [] ∧
    (match (OSpec.setitem [] exEI exIndex.cache.cfg (.str [97]) (.str [0xD800])).2 with
      | .exc "UnicodeEncodeError" => true | _ => false) = true ∧
    (OSpec.setitem [] exEI exIndex.cache.cfg (.str [97]) (.str [0xD800])).1 = [] ∧
    (match (exIndex.setitem exEI 0 (.str [0xD800]) (.int 1)).2 with
      | .exc "UnicodeEncodeError" => true | _ => false) = true := by
  decide +kernel

/-- `index.update([('a', 1), ('b', '\ud800'), ('c', 3)])`: `a` is assigned, the assignment to `b`
raises UnicodeEncodeError, which propagates; `c` is never assigned.  Model and dictionary agree. -/
theorem update_propagates_error :
    (match (exIndex.update exEI 0 [(.str [97], .int 1), (.str [98], .str [0xD800]), (.str [99], .int 3)]).2 with
      | .exc "UnicodeEncodeError" => true | _ => false) = true ∧
    (exIndex.update exEI 0 [(.str [97], .int 1), (.str [98], .str [0xD800]), (.str [99], .int 3)]).1.cache.rows.map
      (·.key) = [.text [97]] ∧
    (match (OSpec.update [] exEI exIndex.cache.cfg
        [(.str [97], .int 1), (.str [98], .str [0xD800]), (.str [99], .int 3)]).2 with
      | .exc "UnicodeEncodeError" => true | _ => false) = true ∧
    (OSpec.update [] exEI exIndex.cache.cfg
        [(.str [97], .int 1), (.str [98], .str [0xD800]), (.str [99], .int 3)]).1.keys = [(.text [97], true)] ∧
    (match (exIndex.update exEI 0 [(.str [97], .int 1), (.str [99], .int 3)]).2 with
      | .none => true | _ => false) = true := by
  decide +kernel

/-- `popitem()` on the Index of `popitem_end_needs_codec` (its only key is not the encoding of any
Python key): `del _cache[key]` does not find the key read back — KeyError propagates, the block is
rolled back (the row stays, no transaction left open) -/
theorem popitem_propagates_error :
    (match (exIx.popitem Cache.exE 0 true).2 with | .exc "KeyError" => true | _ => false) = true ∧
    (exIx.popitem Cache.exE 0 true).1.cache.rows = exIx.cache.rows ∧
    (exIx.popitem Cache.exE 0 true).1.cache.depth = 0 ∧
    (exIx.popitem Cache.exE 0 true).1.cache.snap.isNone = true := by
  decide +kernel

/-- `index.setdefault('b', '\ud800')` on an Index holding `a`: the key is missing, `add` cannot
store the default (text with a lone surrogate) — UnicodeEncodeError propagates out of the block,
which is rolled back (rows unchanged, no transaction left open, no snapshot); the dictionary call
raises the same exception and is unchanged.  A key that cannot be bound raises likewise.  On the
present key `a` the value is returned and nothing raises, whatever the default. -/
theorem setdefault_propagates_error :
    let x := (exIndex.setitem exEI 0 (.str [97]) (.int 1)).1
    let m := (OSpec.setitem [] exEI exIndex.cache.cfg (.str [97]) (.int 1)).1
    (match (x.setdefault exEI 1 (.str [98]) (.str [0xD800])).2 with
      | .exc "UnicodeEncodeError" => true | _ => false) = true ∧
    (x.setdefault exEI 1 (.str [98]) (.str [0xD800])).1.cache.rows = x.cache.rows ∧
    (x.setdefault exEI 1 (.str [98]) (.str [0xD800])).1.cache.depth = 0 ∧
    (x.setdefault exEI 1 (.str [98]) (.str [0xD800])).1.cache.snap.isNone = true ∧
    (match (OSpec.setdefault m exEI exIndex.cache.cfg (.str [98]) (.str [0xD800])).2 with
      | .exc "UnicodeEncodeError" => true | _ => false) = true ∧
    (OSpec.setdefault m exEI exIndex.cache.cfg (.str [98]) (.str [0xD800])).1 = m ∧
    (match (x.setdefault exEI 1 (.str [0xD800]) (.int 2)).2 with
      | .exc "UnicodeEncodeError" => true | _ => false) = true ∧
    (match (x.setdefault exEI 1 (.str [97]) (.str [0xD800])).2 with
      | .val (.int 1) => true | _ => false) = true ∧
    (x.setdefault exEI 1 (.str [97]) (.str [0xD800])).1.cache.rows = x.cache.rows ∧
    (match (x.setdefault exEI 1 (.str [98]) (.int 2)).2 with | .val (.int 2) => true | _ => false) = true ∧
    (x.setdefault exEI 1 (.str [98]) (.int 2)).1.cache.rows.length = 2 := by
  decide +kernel

end DC.Index
