/-
C11 (refinement), first part — the relation `DRefines` between a Deque and the bounded list of
DC/Model/DSpec.lean, the budgeted invariant `OkN`, and the basic calls (append / appendleft / pop /
popleft / peek / peekleft / len / clear / deque[i] / iteration): each returns what the bounded list
returns and keeps relation and invariant.  One call in general, histories and the notes on the
hypotheses `0 < page` and `disk = .pickle` are in DC/Properties/C11_Refine.lean.
-/
import DC.Proofs.DRefineIndex
import DC.Properties.C11
import DC.Properties.C03_Refine

namespace DC.Deque
open DC.Cache DC.Spec DC.DSpec

/-- `d` represents the bounded list `m`: the items front to back denote the entries of `m`, and
the bounds agree -/
def DRefines (d : Deque) (m : DList) : Prop :=
  (items d).map (entryOfRow d.cache) = m.items ∧ d.maxlen = m.maxlen

theorem drefines_self (d : Deque) : DRefines d { items := (items d).map (entryOfRow d.cache), maxlen := d.maxlen } :=
  ⟨rfl, rfl⟩

/-- the stored representation can be read back (`Disk.fetch` does not fail on it): true of
everything `Disk.store` produces -/
abbrev Readable (e : Spec.Entry) : Prop := drf_Readable e

/-- the budgeted invariant: `Ok d` (DC/Properties/C11.lean) with, in place of `Cache.Room`, "room for
`n` more pushes at either end" — every push moves one step away from the origin and the queue
keys have 15 digits (usable numbers 1 … 999999999999998) —, the file invariants (`Cache.Good`),
the bound, and readability of every stored item. -/
structure OkN (d : Deque) (n : Nat) : Prop where
  good : Cache.Good d.cache
  pol : d.cache.cfg.policy = .none
  noexp : ∀ r ∈ d.cache.rows, r.expT = none
  allq : ∀ r ∈ d.cache.rows, r ∈ d.cache.queueRows none
  qok : Cache.QueueOk d.cache none
  /-- every key leaves room for `n` more pushes on both sides -/
  room : ∀ r ∈ d.cache.queueRows none, ∀ k, queueNum r.key = some k →
    1 + (n : Int) ≤ k ∧ k + (n : Int) ≤ 999999999999998
  origin : Cache.OriginOk d.cache
  /-- … and so does the first key of an empty deque -/
  originN : n ≤ d.cache.cfg.qorigin ∧ d.cache.cfg.qorigin + n ≤ 999999999999999
  stats : d.cache.statistics = false
  bounded : ∀ m, d.maxlen = some m → (items d).length ≤ m
  readable : ∀ r ∈ d.cache.rows, Readable (entryOfRow d.cache r)

theorem OkN.mono {d : Deque} {n : Nat} (h : OkN d (n + 1)) : OkN d n :=
  { h with
    room := fun r hr k hk => by
      have := h.room r hr k hk
      constructor <;> omega
    originN := by
      have := h.originN
      constructor <;> omega }

/-- the same directory seen through a handle without bound: everything but `bounded` -/
theorem OkN.unbound {d : Deque} {n : Nat} (h : OkN d n) : OkN { d with maxlen := none } n :=
  { h with bounded := fun m hm => by cases hm }

theorem OkN.ok {d : Deque} {n : Nat} (h : OkN d (n + 1)) : Ok d where
  inv := h.good.tinv
  pol := h.pol
  noexp := h.noexp
  allq := h.allq
  qok := h.qok
  room := fun r hr k hk => by
    have := h.room r hr k hk
    constructor <;> omega
  origin := h.origin
  depth := h.good.depth
  stats := h.stats

theorem OkN.items_mem {d : Deque} {n : Nat} (_h : OkN d n) {r : Row} (hr : r ∈ items d) :
    r ∈ d.cache.rows := Ok.mem_rows hr

theorem OkN.href {d : Deque} {n : Nat} (h : OkN d n) {r : Row} (hr : r ∈ d.cache.rows) :
    ∀ f, r.file = some f → ∃ ct, d.cache.fileGet f = some ct := rf_good_ref h.good hr

theorem OkN.unexpired {d : Deque} {n : Nat} (h : OkN d n) {r : Row} (hr : r ∈ d.cache.rows) (now : Int) :
    Cache.expired now r = false := by
  unfold Cache.expired; rw [h.noexp r hr]

theorem OkN.allq' {d : Deque} {n : Nat} (h : OkN d n) : ∀ r ∈ d.cache.rows, r ∈ qrows d.cache.rows none := h.allq

theorem OkN.items_length {d : Deque} {n : Nat} (h : OkN d n) : (items d).length = d.cache.rows.length :=
  Deque.items_length h.allq'

theorem OkN.sortedRows {d : Deque} {n : Nat} (h : OkN d n) : sortedRows d.cache = items d :=
  sortedRows_eq_items h.good.tinv h.allq'

theorem OkN.count {d : Deque} {n : Nat} (h : OkN d n) : d.cache.count = ((items d).length : Int) :=
  count_eq_length h.good.tinv h.allq'

theorem items_def (d : Deque) : items d = d.cache.queueRows none := rfl

/-- rows that denote the same entry in two states: so do the items -/
theorem map_entries_congr {d d' : Deque}
    (hent : ∀ a ∈ d'.cache.rows, entryOfRow d'.cache a = entryOfRow d.cache a) :
    (items d').map (entryOfRow d'.cache) = (items d').map (entryOfRow d.cache) :=
  List.map_congr_left (fun a ha => hent a (Ok.mem_rows ha))

theorem OkN.transfer {d d' : Deque} {n : Nat} (h : OkN d n) (hg : Cache.Good d'.cache)
    (hcfg : d'.cache.cfg = d.cache.cfg) (hst : d'.cache.statistics = d.cache.statistics)
    (hml : d'.maxlen = d.maxlen)
    (hkeys : ∀ a ∈ d'.cache.rows, ∃ b ∈ d.cache.rows, irf_key a = irf_key b)
    (hexp : ∀ a ∈ d'.cache.rows, a.expT = none)
    (hrd : ∀ a ∈ d'.cache.rows, Readable (entryOfRow d'.cache a))
    (hlen : d'.cache.rows.length ≤ d.cache.rows.length) : OkN d' n := by
  have hqf : ∀ a ∈ d'.cache.rows, qfilter none a = true := by
    intro a ha
    obtain ⟨b, hb, hab⟩ := hkeys a ha
    rw [drf_qfilter_key, hab, ← drf_qfilter_key]
    exact (mem_qrows.1 (h.allq' b hb)).2
  have hallq : ∀ r ∈ d'.cache.rows, r ∈ d'.cache.queueRows none := by
    intro r hr
    rw [queueRows_eq]
    exact mem_qrows.2 ⟨hr, hqf r hr⟩
  have hq : ∀ a ∈ d'.cache.queueRows none, ∃ b ∈ d.cache.queueRows none, a.key = b.key := by
    intro a ha
    obtain ⟨b, hb, hab⟩ := hkeys a (Ok.mem_rows ha)
    exact ⟨b, h.allq b hb, congrArg Prod.fst hab⟩
  refine ⟨hg, by rw [hcfg]; exact h.pol, hexp, hallq, ?_, ?_, ?_, by rw [hcfg]; exact h.originN,
    by rw [hst]; exact h.stats, ?_, hrd⟩
  · intro r hr
    obtain ⟨b, hb, hab⟩ := hq r hr
    rw [hab]; exact h.qok b hb
  · intro r hr
    obtain ⟨b, hb, hab⟩ := hq r hr
    rw [hab]; exact h.room b hb
  · unfold OriginOk; rw [hcfg]; exact h.origin
  · intro m hm
    rw [hml] at hm
    rw [show (items d').length = d'.cache.rows.length from queueRows_length_all hqf]
    have := h.bounded m hm
    rw [h.items_length] at this
    omega

theorem OkN.shrink {d d' : Deque} {n : Nat} (h : OkN d n) (hg : Cache.Good d'.cache)
    (hcfg : d'.cache.cfg = d.cache.cfg) (hst : d'.cache.statistics = d.cache.statistics)
    (hml : d'.maxlen = d.maxlen)
    (hrows : ∀ a ∈ d'.cache.rows, a ∈ d.cache.rows)
    (hent : ∀ a ∈ d'.cache.rows, entryOfRow d'.cache a = entryOfRow d.cache a)
    (hlen : (items d').length ≤ (items d).length) : OkN d' n := by
  have hqf : ∀ a ∈ d'.cache.rows, qfilter none a = true :=
    fun a ha => (mem_qrows.1 (h.allq' a (hrows a ha))).2
  refine h.transfer hg hcfg hst hml (fun a ha => ⟨a, hrows a ha, rfl⟩) (fun a ha => h.noexp a (hrows a ha))
    (fun a ha => by rw [hent a ha]; exact h.readable a (hrows a ha)) ?_
  rw [← queueRows_length_all hqf, ← h.items_length]
  exact hlen

/-- the counterpart of `OkN.shrink`: one new row `r` in the queue, with a number that leaves room,
no expiry and a readable entry `e`; the other rows of `d'` are rows of `d` and denote what they did -/
theorem OkN.grow {d d' : Deque} {n : Nat} {e : Spec.Entry} {r : Row} {num : Int} (h : OkN d n)
    (hg : Cache.Good d'.cache) (hcfg : d'.cache.cfg = d.cache.cfg)
    (hst : d'.cache.statistics = d.cache.statistics)
    (hb : ∀ m, d'.maxlen = some m → (items d').length ≤ m)
    (hexp : r.expT = none) (hkey : r.key = .int num) (hqf : qfilter none r = true)
    (hroom : 1 + (n : Int) ≤ num ∧ num + (n : Int) ≤ 999999999999998) (hre : Readable e)
    (hent : ∀ a ∈ d'.cache.rows,
      (a = r ∧ rf_ent d'.cache a = e) ∨ (a ∈ d.cache.rows ∧ rf_ent d'.cache a = rf_ent d.cache a)) :
    OkN d' n := by
  have hqmem : ∀ a ∈ d'.cache.queueRows none, a = r ∨ a ∈ d.cache.queueRows none :=
    fun a ha => (hent a (Ok.mem_rows ha)).imp And.left (fun h1 => h.allq a h1.1)
  refine ⟨hg, hcfg.symm ▸ h.pol, ?_, ?_, ?_, ?_, ?_, hcfg.symm ▸ h.originN, hst.symm ▸ h.stats, hb, ?_⟩
  · intro a ha
    rcases hent a ha with ⟨rfl, -⟩ | ⟨h1, -⟩
    · exact hexp
    · exact h.noexp a h1
  · intro a ha
    rw [queueRows_eq]
    refine mem_qrows.2 ⟨ha, ?_⟩
    rcases hent a ha with ⟨rfl, -⟩ | ⟨h1, -⟩
    · exact hqf
    · exact (mem_qrows.1 (h.allq' a h1)).2
  · intro a ha
    rcases hqmem a ha with rfl | h1
    · rw [hkey]
      exact ⟨num, rfl, rfl, by omega, by omega⟩
    · exact h.qok a h1
  · intro a ha k hk
    rcases hqmem a ha with rfl | h1
    · rw [hkey] at hk
      cases hk
      exact hroom
    · exact h.room a h1 k hk
  · unfold OriginOk; rw [hcfg]; exact h.origin
  · intro a ha
    rcases hent a ha with ⟨-, h2⟩ | ⟨h1, h2⟩
    · rw [entryOfRow_eq, h2]; exact hre
    · rw [entryOfRow_eq, h2]; exact h.readable a h1

theorem OkN.of_core {d : Deque} {n : Nat} (h : OkN d n) {c' : Cache} (hg : Cache.Good c')
    (hc : core c' = core d.cache) : OkN { d with cache := c' } n := by
  have hrows : c'.rows = d.cache.rows := congrArg Core.rows hc
  have hfiles : c'.files = d.cache.files := congrArg Core.files hc
  refine h.shrink hg (congrArg Core.cfg hc) (congrArg Core.statistics hc) rfl
    (fun a ha => by rw [← hrows]; exact ha) ?_ ?_
  · exact fun a _ => drf_ent_files hfiles a
  · show (c'.queueRows none).length ≤ (d.cache.queueRows none).length
    rw [queueRows_eq, queueRows_eq, hrows]
    exact Nat.le_refl _

theorem DRefines.of_core {d : Deque} {m : DList} (h : DRefines d m) {c' : Cache}
    (hc : core c' = core d.cache) : DRefines { d with cache := c' } m := by
  have hrows : c'.rows = d.cache.rows := congrArg Core.rows hc
  have hfiles : c'.files = d.cache.files := congrArg Core.files hc
  refine ⟨?_, h.2⟩
  rw [← h.1]
  show (c'.queueRows none).map (entryOfRow c') = (d.cache.queueRows none).map (entryOfRow d.cache)
  rw [queueRows_eq, queueRows_eq, hrows]
  exact List.map_congr_left (fun a _ => drf_ent_files hfiles a)

theorem len_drefines (d : Deque) (m : DList) (n : Nat) (hok : OkN d n) (hr : DRefines d m) :
    (d.len).2 = (DSpec.len m).2 ∧ DRefines (d.len).1 (DSpec.len m).1 := by
  refine ⟨?_, hr.of_core (c' := (d.cache.len).1) rfl⟩
  show Out.int d.cache.count = Out.int m.items.length
  rw [hok.count, ← hr.1, List.length_map]

theorem spec_peek_fst (m : DList) (E : Externals) (cfg : Cfg) (left : Bool) : (DSpec.peek m E cfg left).1 = m := by
  unfold DSpec.peek; split <;> rfl

theorem spec_getitem_fst (m : DList) (E : Externals) (cfg : Cfg) (i : Int) : (DSpec.getitem m E cfg i).1 = m := by
  unfold DSpec.getitem; split <;> rfl

theorem spec_compare_fst (m : DList) (E : Externals) (cfg : Cfg) (op : CmpOp) (that : List PyVal) :
    (DSpec.compare m E cfg op that).1 = m := by
  unfold DSpec.compare; split <;> rfl

theorem drf_end_map {α β} (f : α → β) (l : List α) (left : Bool) :
    (if left then (l.map f).head? else (l.map f).getLast?) =
      (if left then l.head? else l.getLast?).map f := by
  cases left <;> simp

theorem drf_qhead_eq (s : Cache) (front : Bool) :
    qhead s none front = (if front then (s.queueRows none).head? else (s.queueRows none).getLast?) := by
  unfold qhead lastRow?; rfl

theorem drf_end_nil {α} (left : Bool) : (if left then ([] : List α).head? else ([] : List α).getLast?) = none := by
  cases left <;> rfl

theorem drf_end_none {α} {l : List α} {left : Bool}
    (h : (if left then l.head? else l.getLast?) = none) : l = [] := by
  cases left <;> simpa using h

theorem OkN.end_value {d : Deque} {n : Nat} (hok : OkN d n) {r : Row} (hr : r ∈ items d) (E : Externals) :
    (d.cache.fetchRow E r false).2 ≠ .ioerror ∧
    valueOf (entryOfRow d.cache r) E d.cache.cfg = fetchedOut (d.cache.fetchRow E r false).2 :=
  drf_valueOf d.cache E r (hok.href (hok.items_mem hr)) (hok.readable r (hok.items_mem hr))

theorem end_out (d : Deque) (m : DList) (n : Nat) (E : Externals) (now : Int) (left : Bool)
    (hok : OkN d n) (hr : DRefines d m) :
    indexErr (d.cache.pull E now none left false false).2 = (DSpec.peek m E d.cache.cfg left).2 ∧
    indexErr (d.cache.peek E now none left false false).2 = (DSpec.peek m E d.cache.cfg left).2 := by
  unfold DSpec.peek
  rw [← hr.1, drf_end_map]
  cases hh : (if left then (items d).head? else (items d).getLast?) with
  | none =>
    have he := drf_end_none hh
    rw [(pull_empty d.cache E now none left false false he).1,
      (peek_empty d.cache E now none left false false he).1]
    exact ⟨rfl, rfl⟩
  | some r =>
    have hmem : r ∈ items d := end_mem hh
    obtain ⟨hf, hv⟩ := hok.end_value hmem E
    have hlive := hok.unexpired (hok.items_mem hmem) now
    obtain ⟨q1, -⟩ := peek_is_next_pull d.cache E now none left hok.good.tinv r hh hlive hf
    obtain ⟨p1, -⟩ := pull_end d.cache E now none left hok.good.tinv r hh hlive hf
    rw [q1, p1]
    simp only [Option.map_some]
    rw [hv]
    exact ⟨rfl, rfl⟩

theorem peek_core (d : Deque) (n : Nat) (E : Externals) (now : Int) (left : Bool) (hok : OkN d n) :
    core (d.peek E now left).1.cache = core d.cache := by
  apply drf_peek_core d.cache E now left hok.good.depth
  · intro r hr; exact hok.unexpired (hok.items_mem hr) now
  · intro r hr; exact (hok.end_value hr E).1

theorem peek_drefines (d : Deque) (m : DList) (n : Nat) (E : Externals) (now : Int) (left : Bool)
    (hok : OkN d n) (hr : DRefines d m) :
    (d.peek E now left).2 = (DSpec.peek m E d.cache.cfg left).2 ∧
    DRefines (d.peek E now left).1 (DSpec.peek m E d.cache.cfg left).1 := by
  rw [spec_peek_fst]
  exact ⟨(end_out d m n E now left hok hr).2, hr.of_core (peek_core d n E now left hok)⟩

theorem peek_okN (d : Deque) (n : Nat) (E : Externals) (now : Int) (left : Bool) (hok : OkN d n) :
    OkN (d.peek E now left).1 n :=
  hok.of_core (peek_good d.cache E now none left false false hok.good) (peek_core d n E now left hok)

theorem pop_core_none (d : Deque) (n : Nat) (E : Externals) (now : Int) (left : Bool) (hok : OkN d n)
    (hh : (if left then (items d).head? else (items d).getLast?) = none) :
    core (d.pop E now left).1.cache = core d.cache := by
  have hqh : qhead d.cache none left = none := by rw [drf_qhead_eq]; exact hh
  show core (d.cache.pull E now none left false false).1 = _
  rw [drf_pull_none d.cache E now left hqh, drf_pullSel_core _ hok.good.depth]

theorem pop_state (d : Deque) (n : Nat) (E : Externals) (now : Int) (left : Bool) (hok : OkN d n)
    (r : Row) (hh : (if left then (items d).head? else (items d).getLast?) = some r) :
    let d' := (d.pop E now left).1
    Cache.Good d'.cache ∧ drf_Sub d.cache d'.cache ∧
    items d' = (if left then (items d).tail else (items d).dropLast) := by
  intro d'
  have hmem : r ∈ items d := end_mem hh
  obtain ⟨hf, -⟩ := hok.end_value hmem E
  have hlive := hok.unexpired (hok.items_mem hmem) now
  have hqh : qhead d.cache none left = some r := by rw [drf_qhead_eq]; exact hh
  have hc' : d'.cache = pullTake d.cache E r := drf_pull_one d.cache E now left r hqh hlive hf
  have hg' : Cache.Good d'.cache := pull_good d.cache E now none left false false hok.good
  have hcore := drf_pullTake_zero d.cache E r hok.good.depth
  rw [← hc'] at hcore
  have hrows : d'.cache.rows = d.cache.rows.filter (fun a => ![r.rowid].contains a.rowid) :=
    congrArg Core.rows hcore
  have hfiles : d'.cache.files = d.cache.files.filter (fun p => ![r.file].contains (some p.1)) :=
    congrArg Core.files hcore
  have hsub : ∀ a ∈ d'.cache.rows, a ∈ d.cache.rows := by
    intro a ha; rw [hrows] at ha; exact (List.mem_filter.1 ha).1
  refine ⟨hg', ⟨congrArg Core.cfg hcore, congrArg Core.statistics hcore, hsub, ?_⟩, ?_⟩
  · intro a ha
    exact rf_ent_mono (a := d'.cache) (b := d.cache)
      (by intro p hp; rw [hfiles] at hp; exact (List.mem_filter.1 hp).1) hok.good.finv.nodup
      (rf_good_ref hg' ha)
  · exact (pull_end d.cache E now none left hok.good.tinv r hh hlive hf).2

theorem pull_cfg (d : Deque) (n : Nat) (E : Externals) (now : Int) (left : Bool) (hok : OkN d n) :
    (d.cache.pull E now none left false false).1.cfg = d.cache.cfg := by
  cases hh : (if left then (items d).head? else (items d).getLast?) with
  | none => exact congrArg Core.cfg (pop_core_none d n E now left hok hh)
  | some r => exact (pop_state d n E now left hok r hh).2.1.cfg

theorem pop_drefines (d : Deque) (m : DList) (n : Nat) (E : Externals) (now : Int) (left : Bool)
    (hok : OkN d n) (hr : DRefines d m) :
    (d.pop E now left).2 = (DSpec.pop m E d.cache.cfg left).2 ∧
    DRefines (d.pop E now left).1 (DSpec.pop m E d.cache.cfg left).1 := by
  -- `pop` returns what `peek` returns
  have hout : (DSpec.pop m E d.cache.cfg left).2 = (DSpec.peek m E d.cache.cfg left).2 := by
    unfold DSpec.pop DSpec.peek; split <;> rfl
  refine ⟨(end_out d m n E now left hok hr).1.trans hout.symm, ?_⟩
  unfold DSpec.pop
  rw [← hr.1, drf_end_map]
  cases hh : (if left then (items d).head? else (items d).getLast?) with
  | none => exact hr.of_core (pop_core_none d n E now left hok hh)
  | some r =>
    obtain ⟨-, hsub, hitems⟩ := pop_state d n E now left hok r hh
    simp only [Option.map_some]
    refine ⟨?_, hr.2⟩
    show (items (d.pop E now left).1).map (entryOfRow (d.pop E now left).1.cache) = _
    rw [map_entries_congr hsub.entries, hitems]
    cases left with
    | true => simp only [if_true, List.map_tail]
    | false => simp only [Bool.false_eq_true, if_false, List.map_dropLast]

theorem pop_okN (d : Deque) (n : Nat) (E : Externals) (now : Int) (left : Bool) (hok : OkN d n) :
    OkN (d.pop E now left).1 n := by
  cases hh : (if left then (items d).head? else (items d).getLast?) with
  | none =>
    exact hok.of_core (pull_good d.cache E now none left false false hok.good)
      (pop_core_none d n E now left hok hh)
  | some r =>
    obtain ⟨hg, hsub, hitems⟩ := pop_state d n E now left hok r hh
    refine hok.shrink hg hsub.cfg hsub.statistics rfl hsub.rows hsub.entries ?_
    rw [hitems]
    cases left <;> simp

def overLen (ml : Option Nat) (k : Nat) : Bool :=
  match ml with
  | none => false
  | some m => decide (m < k)

/-- keep at most `ml` items: drop one from the far end (`left`: the back, else the front) -/
def trimTo {α} (ml : Option Nat) (left : Bool) (L : List α) : List α :=
  if overLen ml L.length then (if left then L.dropLast else L.tail) else L

theorem trimTo_map {α β} (f : α → β) (ml : Option Nat) (left : Bool) (L : List α) :
    (trimTo ml left L).map f = trimTo ml left (L.map f) := by
  unfold trimTo
  rw [List.length_map]
  cases overLen ml L.length <;> cases left <;> simp

theorem trimTo_length_le {α} (ml : Option Nat) (left : Bool) (L : List α) :
    (trimTo ml left L).length ≤ L.length := by
  unfold trimTo
  cases overLen ml L.length <;> cases left <;> simp

theorem trimTo_mem {α} {ml : Option Nat} {left : Bool} {L : List α} {a : α} (h : a ∈ trimTo ml left L) :
    a ∈ L := by
  unfold trimTo at h
  cases ho : overLen ml L.length <;> cases left <;> simp only [ho, Bool.false_eq_true, if_false, if_true] at h
  · exact h
  · exact h
  · exact List.mem_of_mem_tail h
  · exact List.dropLast_subset L h

theorem spec_append_some (m : DList) (E : Externals) (cfg : Cfg) (v : PyVal) (left : Bool) (e : Spec.Entry)
    (h : entryFor E cfg v = some e) :
    DSpec.append m E cfg v left =
      ({ m with items := trimTo m.maxlen left (if left then e :: m.items else m.items ++ [e]) }, .none) := by
  unfold DSpec.append trimTo DList.over overLen
  rw [h]
  cases left <;> rfl

theorem spec_append_none (m : DList) (E : Externals) (cfg : Cfg) (v : PyVal) (left : Bool)
    (h : entryFor E cfg v = none) :
    DSpec.append m E cfg v left = (m, .exc "UnicodeEncodeError") := by
  unfold DSpec.append
  rw [h]

theorem entryFor_cases (E : Externals) (cfg : Cfg) (v : PyVal) :
    (entryFor E cfg v = none ∧
      match place E cfg.disk cfg.minFileSize v false with
      | .error _ => True
      | .ok p => bindable (entryOf p none .null).val = false) ∨
    (∃ p, place E cfg.disk cfg.minFileSize v false = .ok p ∧
      bindable (entryOf p none .null).val = true ∧ entryFor E cfg v = some (entryOf p none .null)) := by
  unfold entryFor
  cases hpl : place E cfg.disk cfg.minFileSize v false with
  | error e => exact .inl ⟨rfl, trivial⟩
  | ok p =>
    cases hb : bindable (entryOf p none .null).val with
    | false => exact .inl ⟨by simp [hb], hb⟩
    | true => exact .inr ⟨p, rfl, hb, by simp [hb]⟩

theorem tooLong_eq (d : Deque) (c : Cache) (k : Nat) (hc : c.count = (k : Int)) :
    d.tooLong c = overLen d.maxlen k := by
  unfold tooLong overLen
  cases d.maxlen with
  | none => rfl
  | some m =>
    simp only [hc, gt_iff_lt, Int.ofNat_lt]

/-- `d'` is `d` after an `append` / `appendleft` that stored its value as the row `r`, which carries
the number `num` and denotes `e` -/
structure Appended (d d' : Deque) (n : Nat) (left : Bool) (e : Spec.Entry) (r : Row) (num : Int) : Prop where
  readable : Readable e
  good : Cache.Good d'.cache
  cfg : d'.cache.cfg = d.cache.cfg
  statistics : d'.cache.statistics = d.cache.statistics
  items : items d' = trimTo d.maxlen left (if left then r :: items d else items d ++ [r])
  fresh : r ∉ d.cache.rows
  expT : r.expT = none
  key : r.key = .int num
  inQueue : qfilter none r = true
  /-- `num` keeps `n` steps away from both ends of the usable numbers -/
  room : 1 + (n : Int) ≤ num ∧ num + (n : Int) ≤ 999999999999998
  /-- a row of the new table is the new one (unless the trim has just removed it: `maxlen = 0`),
  or an old one that denotes what it did -/
  entries : ∀ a ∈ d'.cache.rows,
    (a = r ∧ rf_ent d'.cache a = e) ∨ (a ∈ d.cache.rows ∧ rf_ent d'.cache a = rf_ent d.cache a)

/-- the rest of the block of `append` / `appendleft` after the push that led to `X`: one item goes
at the other end if there are now more than `maxlen`, then the block is left -/
theorem appended_of_pushed {d d' : Deque} {n : Nat} {E : Externals} {now : Int} {left : Bool} {X : Cache}
    {e : Spec.Entry} {r : Row} {num : Int} (hok : OkN { d with maxlen := none } (n + 1))
    (hp : drf_Pushed d.cache X n left e r num) (hre : Readable e)
    (hd' : d'.cache = (if d.tooLong X then (X.pull E now none (!left) false false).1 else X).tend) :
    Appended d d' n left e r num := by
  have hentx := hp.entries hok.good
  have hrdx : ∀ a ∈ X.rows, drf_Readable (rf_ent X a) := by
    intro a ha
    rcases hentx a ha with ⟨-, h2⟩ | ⟨h1, h2⟩
    · rw [h2]; exact hre
    · rw [h2]; exact hok.readable a h1
  have hexpx : ∀ a ∈ X.rows, a.expT = none := by
    intro a ha
    rcases hentx a ha with ⟨rfl, -⟩ | ⟨h1, -⟩
    · exact hp.expT
    · exact hok.noexp a h1
  have hne : d.tooLong X = true → X.queueRows none ≠ [] := by
    intro _; rw [hp.queue]; cases left <;> simp
  obtain ⟨hg', hq', hsub⟩ := drf_stage_finish X E now (d.tooLong X) (!left) hp.bi hrdx hexpx hne hd'
  have hcount : X.count = (((if left then r :: items d else items d ++ [r]).length : Nat) : Int) := by
    rw [hp.bi.tinv.tbl.count, hp.rows]
    have := items_length (d := d) hok.allq'
    cases left <;> simp [this]
  refine { readable := hre, good := hg', cfg := hsub.cfg.trans hp.cfg,
           statistics := hsub.statistics.trans hp.statistics,
           fresh := hp.fresh, expT := hp.expT, key := hp.key, inQueue := hp.inQueue, room := hp.room,
           items := ?_, entries := ?_ }
  · rw [items_def d', hq', hp.queue]
    unfold trimTo
    rw [← tooLong_eq d X _ hcount]
    cases d.tooLong X <;> cases left <;> rfl
  · intro a ha
    rcases hentx a (hsub.rows a ha) with ⟨h1, h2⟩ | ⟨h1, h2⟩
    · exact .inl ⟨h1, (hsub.entries a ha).trans h2⟩
    · exact .inr ⟨h1, (hsub.entries a ha).trans h2⟩

/-- everything `append` / `appendleft` do to the state.  The clause `bounded` of the invariant plays
no part in it, so the hypothesis leaves it out (`OkN.unbound`): the statement also covers a deque
that is longer than its bound. -/
theorem append_state (d : Deque) (n : Nat) (E : Externals) (now : Int) (v : PyVal) (left : Bool)
    (hok : OkN { d with maxlen := none } (n + 1)) :
    (entryFor E d.cache.cfg v = none ∧ (d.append E now v left).2 = .exc "UnicodeEncodeError" ∧
      Cache.Good (d.append E now v left).1.cache ∧
      core (d.append E now v left).1.cache = core d.cache) ∨
    (∃ (e : Spec.Entry) (r : Row) (num : Int), entryFor E d.cache.cfg v = some e ∧
      (d.append E now v left).2 = .none ∧ Appended d (d.append E now v left).1 n left e r num) := by
  have hg := hok.good
  rcases entryFor_cases E d.cache.cfg v with ⟨hef, hfail⟩ | ⟨p, hpl, hbind, hef⟩
  · -- the value cannot be stored: the push raises, the block is rolled back
    left
    obtain ⟨hg', hc', hout⟩ := drf_append_fail d.cache E now v left hg hok.qok hok.origin hok.ok.room hfail
    obtain ⟨h1, h2⟩ := append_exc d E now v left _ hout
    rw [show (d.append E now v left).1.cache = (pushed d E now v left).traise 1 from congrArg Deque.cache h1]
    exact ⟨hef, h2, hg', hc'⟩
  · -- the value is stored
    right
    obtain ⟨r, num, hp, hout⟩ :=
      drf_stage_push d.cache E now v left n hg hok.pol hok.noexp hok.qok hok.origin hok.room hok.originN
        hpl hbind
    exact ⟨_, r, num, hef, append_out d E now v left _ hout,
      appended_of_pushed hok hp (drf_place_readable E _ _ v p hpl none .null) (append_cache d E now v left _ hout)⟩

/-- `append` / `appendleft`: same result as the specification, relation preserved.  A value that
cannot be stored raises UnicodeEncodeError on both sides and changes nothing (the model rolls the
block back; `append_propagates_error` is a concrete instance). -/
theorem append_drefines (d : Deque) (m : DList) (n : Nat) (E : Externals) (now : Int) (v : PyVal)
    (left : Bool) (hok : OkN d (n + 1)) (hr : DRefines d m) :
    (d.append E now v left).2 = (DSpec.append m E d.cache.cfg v left).2 ∧
    DRefines (d.append E now v left).1 (DSpec.append m E d.cache.cfg v left).1 := by
  rcases append_state d n E now v left hok.unbound with ⟨hef, hout, -, hc⟩ | ⟨e, r, num, hef, hout, hap⟩
  · rw [spec_append_none m E _ v left hef]
    exact ⟨hout, (hr.of_core hc).1, (append_maxlen d E now v left).trans hr.2⟩
  · rw [spec_append_some m E _ v left e hef]
    refine ⟨hout, ?_, (append_maxlen d E now v left).trans hr.2⟩
    show (items (d.append E now v left).1).map (entryOfRow (d.append E now v left).1.cache) =
      trimTo m.maxlen left (if left then e :: m.items else m.items ++ [e])
    have hmap : (items (d.append E now v left).1).map (entryOfRow (d.append E now v left).1.cache) =
        (items (d.append E now v left).1).map (fun a => if a = r then e else rf_ent d.cache a) := by
      apply List.map_congr_left
      intro a ha
      rcases hap.entries a (Ok.mem_rows ha) with ⟨h1, h2⟩ | ⟨h1, h2⟩
      · rw [entryOfRow_eq, h2, if_pos h1]
      · have hne : a ≠ r := fun h => hap.fresh (h ▸ h1)
        rw [entryOfRow_eq, h2, if_neg hne]
    have hq : (items d).map (fun a => if a = r then e else rf_ent d.cache a) = m.items := by
      rw [← hr.1]
      apply List.map_congr_left
      intro a ha
      have hne : a ≠ r := fun h => hap.fresh (h ▸ Ok.mem_rows ha)
      rw [if_neg hne]; rfl
    rw [hmap, hap.items, trimTo_map, hr.2]
    cases left with
    | true => simp only [if_true, List.map_cons, hq]
    | false => simp only [Bool.false_eq_true, if_false, List.map_append, List.map_cons, List.map_nil, hq, if_true]

theorem appendleft_drefines (d : Deque) (m : DList) (n : Nat) (E : Externals) (now : Int) (v : PyVal)
    (hok : OkN d (n + 1)) (hr : DRefines d m) :
    (d.append E now v true).2 = (DSpec.append m E d.cache.cfg v true).2 ∧
    DRefines (d.append E now v true).1 (DSpec.append m E d.cache.cfg v true).1 :=
  append_drefines d m n E now v true hok hr

theorem append_cfg (d : Deque) (n : Nat) (E : Externals) (now : Int) (v : PyVal) (left : Bool)
    (hok : OkN d (n + 1)) : (d.append E now v left).1.cache.cfg = d.cache.cfg := by
  rcases append_state d n E now v left hok.unbound with ⟨-, -, -, hc⟩ | ⟨e, r, num, -, -, hap⟩
  · exact congrArg Core.cfg hc
  · exact hap.cfg

/-- `append` / `appendleft` use up one unit of the budget; as in `append_state` the clause `bounded`
is left out on both sides -/
theorem append_okN_unbound (d : Deque) (n : Nat) (E : Externals) (now : Int) (v : PyVal) (left : Bool)
    (hok : OkN { d with maxlen := none } (n + 1)) : OkN { (d.append E now v left).1 with maxlen := none } n := by
  rcases append_state d n E now v left hok with ⟨-, -, hg', hc⟩ | ⟨e, r, num, -, -, hap⟩
  · exact hok.mono.of_core hg' hc
  · exact hok.mono.grow hap.good hap.cfg hap.statistics (fun m hm => by cases hm) hap.expT hap.key
      hap.inQueue hap.room hap.readable hap.entries

theorem trimTo_eq_self {α} {ml : Option Nat} (left : Bool) {L : List α} (h : ∀ k, ml = some k → L.length ≤ k) :
    trimTo ml left L = L := by
  unfold trimTo
  cases ml with
  | none => rfl
  | some k => rw [show overLen (some k) L.length = decide (k < L.length) from rfl,
      decide_eq_false (Nat.not_lt.2 (h k rfl)), if_neg Bool.false_ne_true]

theorem trimTo_length_bound {α} {m : Nat} (left : Bool) {L : List α} (h : L.length ≤ m + 1) :
    (trimTo (some m) left L).length ≤ m := by
  unfold trimTo
  rw [show overLen (some m) L.length = decide (m < L.length) from rfl]
  by_cases hlt : m < L.length
  · rw [decide_eq_true hlt, if_pos rfl]
    cases left
    · rw [if_neg Bool.false_ne_true, List.length_tail]; omega
    · rw [if_pos rfl, List.length_dropLast]; omega
  · rw [decide_eq_false hlt, if_neg Bool.false_ne_true]; omega

theorem append_okN (d : Deque) (n : Nat) (E : Externals) (now : Int) (v : PyVal) (left : Bool)
    (hok : OkN d (n + 1)) : OkN (d.append E now v left).1 n := by
  refine { append_okN_unbound d n E now v left hok.unbound with bounded := fun m hm => ?_ }
  have hb := hok.bounded m ((append_maxlen d E now v left).symm.trans hm)
  rcases append_state d n E now v left hok.unbound with ⟨-, -, -, hc⟩ | ⟨e, r, num, -, -, hap⟩
  · have hrows : (d.append E now v left).1.cache.rows = d.cache.rows := congrArg Core.rows hc
    rw [items_eq, hrows]
    exact hb
  · rw [hap.items, ((append_maxlen d E now v left).symm.trans hm)]
    apply trimTo_length_bound
    cases left <;> simp only [Bool.false_eq_true, if_false, if_true, List.length_cons, List.length_append,
      List.length_nil] <;> omega

/-! ### `clear`

Hypothesis `0 < d.cache.cfg.page`: the page size of the `_select_delete` loop (the constant 100
in core.py, a `Cfg` field in the model, never changed by a call).  With page size 0 the loop
removes nothing; `Cache.clear_refines_needs_page` (DC/Properties/C03_Refine.lean) is the
counterexample. -/

theorem clear_rows (d : Deque) (n : Nat) (hok : OkN d n) (hpg : 0 < d.cache.cfg.page) :
    (d.clear).1.cache.rows = [] :=
  (clear_all d.cache hok.good.tinv.tbl.asc hok.good.tinv.tbl.pos hpg).1

theorem clear_drefines (d : Deque) (m : DList) (n : Nat) (hok : OkN d n) (hr : DRefines d m)
    (hpg : 0 < d.cache.cfg.page) -- page size of the removal loop
    : (d.clear).2 = (DSpec.clear m).2 ∧ DRefines (d.clear).1 (DSpec.clear m).1 := by
  refine ⟨rfl, ?_, hr.2⟩
  show ((d.clear).1.cache.queueRows none).map _ = []
  rw [queueRows_eq, clear_rows d n hok hpg]
  rfl

theorem clear_okN (d : Deque) (n : Nat) (hok : OkN d n) : OkN (d.clear).1 n := by
  by_cases hpg : 0 < d.cache.cfg.page
  · have hrows := clear_rows d n hok hpg
    refine hok.shrink (clear_good d.cache hok.good) (rf_clear_cfg d.cache) (drf_clear_stats d.cache) rfl
      ?_ ?_ ?_
    · intro a ha; rw [hrows] at ha; cases ha
    · intro a ha; rw [hrows] at ha; cases ha
    · show ((d.clear).1.cache.queueRows none).length ≤ _
      rw [queueRows_eq, hrows]
      exact Nat.zero_le _
  · exact hok.of_core (clear_good d.cache hok.good)
      (drf_clear_page0 d.cache hok.good.depth (by omega))

/-! ### `deque[i]`

Hypothesis `d.cache.cfg.disk = .pickle`: `getitem` (and iteration) look the row up again through
`Disk.get` / `Disk.put` of its integer key; with `JSONDisk` that round trip fails
(`exDqJson_getitem` in DC/Properties/C11.lean is the counterexample). -/

theorem index_map {α β} (f : α → β) (l : List α) (i : Int) :
    DSpec.index (l.map f) i = (DSpec.index l i).map f := by
  unfold DSpec.index
  rw [List.length_map]
  split
  · simp
  · split
    · simp
    · rfl

theorem rowAt_index (d : Deque) (n : Nat) (i : Int) (hok : OkN d n) :
    d.rowAt i = DSpec.index (items d) i :=
  rowAt_index_of d (items d) hok.sortedRows hok.count i

theorem get_item (d : Deque) (n : Nat) (E : Externals) (now : Int) (r : Row) (hok : OkN d n)
    (hdisk : d.cache.cfg.disk = .pickle) (hr : r ∈ d.cache.rows) :
    (d.cache.get E now (keyOfRow E d.cache r) false false false).2 =
      valueOf (entryOfRow d.cache r) E d.cache.cfg ∧
    (d.cache.get E now (keyOfRow E d.cache r) false false false).2 ≠ .default := by
  obtain ⟨k, hk, hraw, hi⟩ := item_key hok.qok hok.allq' hr
  obtain ⟨hf, hv⟩ := drf_valueOf d.cache E r (hok.href hr) (hok.readable r hr)
  have hg := get_int_row d.cache E now r k hok.good.tinv hr hk hraw hi (hok.noexp r hr) hok.stats hok.pol
    hdisk hf
  refine ⟨hg.trans hv.symm, ?_⟩
  show (d.cache.get E now (DC.get E d.cache.cfg.disk r.key r.raw) false false false).2 ≠ .default
  rw [hg]
  exact fetchedOut_ne_default _

theorem getitem_core (d : Deque) (n : Nat) (E : Externals) (now : Int) (i : Int) (hok : OkN d n) :
    core (d.getitem E now i).1.cache = core d.cache ∧ Cache.Good (d.getitem E now i).1.cache := by
  unfold getitem
  cases d.rowAt i with
  | none => exact ⟨rfl, hok.good⟩
  | some r =>
    exact ⟨rf_get_core d.cache E now _ false false false hok.good.depth hok.pol,
      get_good d.cache E now _ false false false hok.good⟩

theorem getitem_eta (d : Deque) (E : Externals) (now : Int) (i : Int) :
    (d.getitem E now i).1 = { d with cache := (d.getitem E now i).1.cache } := by
  unfold getitem
  cases d.rowAt i <;> rfl

theorem getitem_drefines (d : Deque) (m : DList) (n : Nat) (E : Externals) (now : Int) (i : Int)
    (hok : OkN d n) (hr : DRefines d m)
    (hdisk : d.cache.cfg.disk = .pickle) -- the keys are read back by the pickle `Disk`
    : (d.getitem E now i).2 = (DSpec.getitem m E d.cache.cfg i).2 ∧
    DRefines (d.getitem E now i).1 (DSpec.getitem m E d.cache.cfg i).1 := by
  refine ⟨?_, ?_⟩
  · unfold DSpec.getitem
    rw [← hr.1, index_map, ← rowAt_index d n i hok]
    cases hra : d.rowAt i with
    | none => rw [getitem_none d E now i hra]; rfl
    | some r =>
      obtain ⟨hg, hnd⟩ := get_item d n E now r hok hdisk (rowAt_mem d i r hra)
      simp only [Option.map_some]
      unfold getitem
      rw [hra]
      simp only  -- the `.default` branch of the match is discharged by `hnd`
      rw [← hg]
  · rw [spec_getitem_fst, getitem_eta]
    exact hr.of_core (getitem_core d n E now i hok).1

theorem getitem_okN (d : Deque) (n : Nat) (E : Externals) (now : Int) (i : Int) (hok : OkN d n) :
    OkN (d.getitem E now i).1 n := by
  obtain ⟨hc, hg⟩ := getitem_core d n E now i hok
  rw [getitem_eta]
  exact hok.of_core hg hc

def iterStep (E : Externals) (now : Int) (acc : Cache × List Out) (r : Row) : Cache × List Out :=
  ((acc.1.get E now (keyOfRow E acc.1 r) false false false).1,
    match (acc.1.get E now (keyOfRow E acc.1 r) false false false).2 with
    | .default => acc.2
    | o => acc.2 ++ [o])

theorem iterVals_eq (d : Deque) (E : Externals) (now : Int) (rev : Bool) :
    d.iterVals E now rev =
      ({ d with cache := ((if rev then (sortedRows d.cache).reverse else sortedRows d.cache).foldl
          (iterStep E now) (d.cache, [])).1 },
       .list ((if rev then (sortedRows d.cache).reverse else sortedRows d.cache).foldl
          (iterStep E now) (d.cache, [])).2) := rfl

theorem iter_fold_core (d : Deque) (n : Nat) (E : Externals) (now : Int) (hok : OkN d n) :
    ∀ (l : List Row) (c' : Cache) (acc : List Out), Cache.Good c' → core c' = core d.cache →
      core (l.foldl (iterStep E now) (c', acc)).1 = core d.cache ∧
      Cache.Good (l.foldl (iterStep E now) (c', acc)).1 := by
  intro l
  induction l with
  | nil => intro c' acc hg hc; exact ⟨hc, hg⟩
  | cons r t ih =>
    intro c' acc hg hc
    have hcfg : c'.cfg = d.cache.cfg := congrArg Core.cfg hc
    rw [List.foldl_cons]
    exact ih _ _ (get_good c' E now _ false false false hg)
      ((rf_get_core c' E now _ false false false hg.depth (by rw [hcfg]; exact hok.pol)).trans hc)

theorem iter_core (d : Deque) (n : Nat) (E : Externals) (now : Int) (rev : Bool) (hok : OkN d n) :
    core (d.iterVals E now rev).1.cache = core d.cache ∧ Cache.Good (d.iterVals E now rev).1.cache := by
  rw [iterVals_eq]
  exact iter_fold_core d n E now hok _ d.cache [] hok.good rfl

theorem iter_fold (d : Deque) (n : Nat) (E : Externals) (now : Int) (hok : OkN d n)
    (hdisk : d.cache.cfg.disk = .pickle) :
    ∀ (l : List Row), (∀ r ∈ l, r ∈ d.cache.rows) → ∀ (c' : Cache) (acc : List Out),
      Cache.Good c' → core c' = core d.cache →
      (l.foldl (iterStep E now) (c', acc)).2 =
        acc ++ l.map (fun r => valueOf (entryOfRow d.cache r) E d.cache.cfg) := by
  intro l
  induction l with
  | nil => intro _ c' acc _ _; exact (List.append_nil acc).symm
  | cons r t ih =>
    intro hl c' acc hg hc
    have hok' : OkN { d with cache := c' } n := hok.of_core hg hc
    have hr : r ∈ c'.rows := by
      rw [show c'.rows = d.cache.rows from congrArg Core.rows hc]
      exact hl r List.mem_cons_self
    have hcfg : c'.cfg = d.cache.cfg := congrArg Core.cfg hc
    obtain ⟨hv, hnd⟩ := get_item { d with cache := c' } n E now r hok' (by show c'.cfg.disk = _; rw [hcfg]; exact hdisk) hr
    have hv' : (c'.get E now (keyOfRow E c' r) false false false).2 =
        valueOf (entryOfRow d.cache r) E d.cache.cfg := by
      rw [hv]
      show valueOf (rf_ent c' r) E c'.cfg = valueOf (rf_ent d.cache r) E d.cache.cfg
      rw [drf_ent_files (show c'.files = d.cache.files from congrArg Core.files hc) r, hcfg]
    have hnd' : (c'.get E now (keyOfRow E c' r) false false false).2 ≠ .default := hnd
    have hstep : iterStep E now (c', acc) r =
        ((c'.get E now (keyOfRow E c' r) false false false).1,
          acc ++ [valueOf (entryOfRow d.cache r) E d.cache.cfg]) := by
      unfold iterStep
      simp only  -- the `.default` branch of the match is discharged by `hnd'`
      rw [← hv']
    rw [List.foldl_cons, hstep, ih (fun a ha => hl a (List.mem_cons_of_mem _ ha))
      (c'.get E now (keyOfRow E c' r) false false false).1
      (acc ++ [valueOf (entryOfRow d.cache r) E d.cache.cfg])
      (get_good c' E now _ false false false hg)
      ((rf_get_core c' E now _ false false false hg.depth (by rw [hcfg]; exact hok.pol)).trans hc)]
    simp

theorem iter_drefines (d : Deque) (m : DList) (n : Nat) (E : Externals) (now : Int) (rev : Bool)
    (hok : OkN d n) (hr : DRefines d m)
    (hdisk : d.cache.cfg.disk = .pickle) -- the keys are read back by the pickle `Disk`
    : (d.iterVals E now rev).2 = (DSpec.iter m E d.cache.cfg rev).2 ∧
    DRefines (d.iterVals E now rev).1 (DSpec.iter m E d.cache.cfg rev).1 := by
  have hmem : ∀ r ∈ (if rev then (items d).reverse else items d), r ∈ d.cache.rows := by
    intro r hr'
    cases rev with
    | true => exact Ok.mem_rows (List.mem_reverse.1 hr')
    | false => exact Ok.mem_rows hr'
  refine ⟨?_, hr.of_core (iter_core d n E now rev hok).1⟩
  rw [iterVals_eq, hok.sortedRows]
  show Out.list _ = Out.list _
  rw [iter_fold d n E now hok hdisk _ hmem d.cache [] hok.good rfl, ← hr.1]
  cases rev <;> simp [List.map_reverse, Function.comp_def]

theorem iter_okN (d : Deque) (n : Nat) (E : Externals) (now : Int) (rev : Bool) (hok : OkN d n) :
    OkN (d.iterVals E now rev).1 n := by
  obtain ⟨h1, h2⟩ := iter_core d n E now rev hok
  rw [iterVals_eq] at h1 h2 ⊢
  exact hok.of_core h2 h1

theorem iter_cfg (d : Deque) (n : Nat) (E : Externals) (now : Int) (rev : Bool) (hok : OkN d n) :
    (d.iterVals E now rev).1.cache.cfg = d.cache.cfg :=
  congrArg Core.cfg (iter_core d n E now rev hok).1

end DC.Deque
