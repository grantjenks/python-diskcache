/-
C19 (refinement under an eviction policy) — DjangoCache honours the Django cache contract for
every sequence of calls ALSO WHEN IT EVICTS: for every eviction policy DjangoCache refines the
Django-level specification `DC/Model/DjSpec.lean` run *lossily* (`DjSpec.runLossy`: after each
call the keys of the rows that call evicted are dropped from the ONE reference dictionary).
This is the configuration users run: DjangoCache is a FanoutCache with the default policy
least-recently-stored and the size limit divided among the shards; `djrun_refines` (C19_Refine)
covers policy `none` only.

Built from `Fanout.frun_refines_lossy_strong` (C13_Lossy); the routing hypothesis is automatic
(namespaced keys are text, `djrf_routeOK`).

The contract clauses, restated for a cache that may evict:
 * `get_unaffected_lossy`: calls that do not write to `(key, version)` do not change what
   `get(key, version)` returns — or the item was EVICTED in between (the key is in the drop list
   of one of those calls) and `get` returns the default: never a stale or foreign value.
 * `versions_isolated_lossy`: what is done under another version never changes the VALUE seen
   under this version; it can, however, EVICT this version's item — eviction knows nothing about
   versions (`version_evicts_other_version` is a concrete instance).
 * `forever_returned_lossy` / `forever_returns_value_lossy`: a value stored with timeout None is
   returned by every later `get` unless it was evicted (by the storing `set` itself or by a later
   call), in which case `get` returns the default.
 * `nonpositive_never_returned_lossy`: a value stored with a timeout ≤ 0 is never returned
   (as without eviction).
The drop lists are those of `Fanout.FEvictedRun` (C13_Lossy): per shard, only in writes that
found THAT shard at its share of the size limit, at most `cull_limit` rows, unexpired, in the
policy's order within the shard.

Hypotheses:
 * `hpl : DPlaced d` (every row sits in the shard of its key; true of a fresh cache,
   kept by every call): see C13_Lossy.
 * `(dcfg d).disk = .pickle` in the contract clauses: as in C19_Refine.
-/
import DC.Proofs.FLossyDjango

namespace DC.Django
open DC.Cache DC.Spec DC.Fanout DC.DjSpec

/-! ### the invariant for every policy -/

/-- the invariant of the sharded cache without `policy = none` -/
def DGoodAny (d : Django) : Prop := FGoodAny d.fan

def DPlaced (d : Django) : Prop := FPlaced d.fan

theorem DGood.toAny {d : Django} (h : DGood d) : DGoodAny d := FGood.toAny h

/-! ### the history theorem -/

/-- the history theorem with everything the induction carries -/
theorem djrun_refines_lossy_strong (d : Django) (m : Spec.Dict) (clock : Int) (ops : List DOp)
    (hg : DGoodAny d) (hpl : DPlaced d) (hr : DRefines d m clock) (hm : DMonotone clock ops) :
    ∃ LLs : List (List (List Row)), FEvictedRun d.fan (ops.map (toOp (conf d))) LLs ∧
      outs d ops = DjSpec.outsLossy m (conf d) (dcfg d) ops (LLs.map fdrops) ∧
      DRefines (d.run ops) (DjSpec.runLossy m (conf d) (dcfg d) ops (LLs.map fdrops))
        (dlastClock clock ops) ∧
      DGoodAny (d.run ops) ∧ DPlaced (d.run ops) ∧ dcfg (d.run ops) = dcfg d ∧
      conf (d.run ops) = conf d := by
  obtain ⟨LLs, h0, h1, h2, h3, hp, h4, -⟩ := frun_refines_lossy_strong (fun _ => True) d.fan m clock
    (ops.map (toOp (conf d))) hg hpl hr (djrf_keyed_all d ops)
    ((djrf_monotone _ _ _).2 hm) (fun _ _ => trivial) (djrf_routeOK d ops _)
  obtain ⟨r1, r2⟩ := djrf_run d ops
  refine ⟨LLs, h0, ?_, ?_, ?_, ?_, ?_, r2⟩
  · rw [djrf_outs, djlz_spec_outsLossy, h1]; rfl
  · unfold DRefines
    rw [r1, djlz_spec_runLossy, ← djlz_lastClock (conf d)]
    exact h2
  · unfold DGoodAny; rw [r1]; exact h3
  · unfold DPlaced; rw [r1]; exact hp
  · unfold dcfg; rw [r1]; exact h4

/-- **the history theorem for every eviction policy**: for every history of Django cache calls
with a clock that never goes backwards there is, per call, a family of evicted rows — one list per
shard, `Fanout.FEvictedRun`: only where and what C09 allows, shard by shard — such that every call
returns what the Django-level specification over the ONE reference dictionary returns when the
keys of those rows are dropped after each call, and the final states correspond.  No routing
hypothesis: the namespaced keys are text. -/
theorem djrun_refines_lossy (d : Django) (m : Spec.Dict) (clock : Int) (ops : List DOp)
    (hg : DGoodAny d) (hpl : DPlaced d) (hr : DRefines d m clock) (hm : DMonotone clock ops) :
    ∃ LLs : List (List (List Row)), FEvictedRun d.fan (ops.map (toOp (conf d))) LLs ∧
      outs d ops = DjSpec.outsLossy m (conf d) (dcfg d) ops (LLs.map fdrops) ∧
      ∃ clock', DRefines (d.run ops) (DjSpec.runLossy m (conf d) (dcfg d) ops (LLs.map fdrops)) clock' := by
  obtain ⟨LLs, h0, h1, h2, -⟩ := djrun_refines_lossy_strong d m clock ops hg hpl hr hm
  exact ⟨LLs, h0, h1, _, h2⟩

/-- a fresh DjangoCache over `n ≥ 1` shards, ANY eviction policy and size limit, any
database-size observations: the invariant holds, every row sits in its shard (there is none), and
it represents the empty dictionary -/
theorem django_init_any (n : Nat) (cf : Cfg) (st : Bool) (env : List Nat) (pre : Str) (ver : Int)
    (dt : Option Int) (hn : 1 ≤ n) (hpg : 0 < cf.page) (clock : Int) :
    DGoodAny { fan := { Fanout.init n cf st with env := env }, keyPrefix := pre, version := ver,
               defaultTimeout := dt } ∧
    DPlaced { fan := { Fanout.init n cf st with env := env }, keyPrefix := pre, version := ver,
              defaultTimeout := dt } ∧
    DRefines { fan := { Fanout.init n cf st with env := env }, keyPrefix := pre, version := ver,
               defaultTimeout := dt } [] clock :=
  ⟨fgoodAny_env (fgoodAny_init n cf st hn hpg) env, fplaced_env (fplaced_init n cf st _) env,
    frefines_env (frefines_init n cf st hn clock) env⟩

/-- without an eviction policy nothing is dropped: `djrun_refines` (C19_Refine) re-derived for a
cache whose rows sit in their shards (`Fanout.frun_refines_from_lossy` under the translation) -/
theorem djrun_refines_from_lossy (d : Django) (m : Spec.Dict) (clock : Int) (ops : List DOp)
    (hg : DGood d) (hpl : DPlaced d) (hr : DRefines d m clock) (hm : DMonotone clock ops) :
    outs d ops = DjSpec.outs m (conf d) (dcfg d) ops ∧
    ∃ clock', DRefines (d.run ops) (DjSpec.run m (conf d) (dcfg d) ops) clock' := by
  obtain ⟨h1, clock', h2⟩ := frun_refines_from_lossy d.fan m clock (ops.map (toOp (conf d))) hg hpl hr
    (djrf_keyed_all d ops) ((djrf_monotone _ _ _).2 hm) (djrf_routeOK d ops _)
  refine ⟨by rw [djrf_outs, djrf_spec_outs, h1]; rfl, clock', ?_⟩
  unfold DRefines
  rw [(djrf_run d ops).1, djrf_spec_run]
  exact h2

/-! ### what a call returns after a history -/

theorem djlz_step_out (d : Django) (m : Spec.Dict) (clock : Int) (g : DOp)
    (hg : DGoodAny d) (hpl : DPlaced d) (hr : DRefines d m clock) (hdet : determined g = true)
    (hm : ∀ n, dclock g = some n → clock ≤ n) :
    (d.step g).2 = (DjSpec.step m (conf d) (dcfg d) g).2 := by
  have hro := djrf_routeOK d [g] (fun _ => True)
  have h := (fstep_refines_lossy (fun _ => True) d.fan m clock (toOp (conf d) g) hg hpl hr
    (djrf_keyed _ g) (by rw [djrf_opClock]; exact hm) (fun _ _ _ => trivial)
    (fun E k hkey b hb hs =>
      (hro _ b ⟨_, List.mem_singleton.2 rfl, E, k, hkey, rfl⟩ hb hs).symm)).1
  rw [djrf_determined, hdet, if_pos rfl] at h
  rw [djrf_step_eq, djrf_spec_step]
  show post g _ = post g _
  rw [h]
  rfl

/-- **what a user sees, every policy**: after any history with a non-decreasing clock, a call
returns exactly what the Django-level specification returns on the lossy dictionary built by that
history -/
theorem call_after_history_lossy (d : Django) (m : Spec.Dict) (clock : Int) (ops : List DOp) (g : DOp)
    (hg : DGoodAny d) (hpl : DPlaced d) (hr : DRefines d m clock) (hdet : determined g = true)
    (hm : DMonotone clock (ops ++ [g])) :
    ∃ LLs : List (List (List Row)), FEvictedRun d.fan (ops.map (toOp (conf d))) LLs ∧
      ((d.run ops).step g).2 =
        (DjSpec.step (DjSpec.runLossy m (conf d) (dcfg d) ops (LLs.map fdrops)) (conf d) (dcfg d) g).2 := by
  obtain ⟨hm1, hm2⟩ := (djrf_mono_append clock ops [g]).1 hm
  obtain ⟨LLs, h0, -, h2, h3, hp3, h4, h5⟩ := djrun_refines_lossy_strong d m clock ops hg hpl hr hm1
  refine ⟨LLs, h0, ?_⟩
  have := djlz_step_out (d.run ops) _ _ g h3 hp3 h2 hdet ((djrf_mono_cons _ g []).1 hm2).1
  rw [h4, h5] at this
  exact this

/-- a history continued: after `ops` the cache represents some dictionary `m1`, on which every
call made next returns what the specification returns, and from which the calls `rest` and then
`g` run as `call_after_history_lossy` says -/
theorem djlz_restart (d : Django) (m : Spec.Dict) (clock : Int) (ops rest : List DOp) (g : DOp)
    (hg : DGoodAny d) (hpl : DPlaced d) (hr : DRefines d m clock) (hdet : determined g = true)
    (hm : DMonotone clock (ops ++ rest ++ [g])) :
    ∃ m1 : Spec.Dict,
      (∀ g0, determined g0 = true → DMonotone clock (ops ++ [g0]) →
        ((d.run ops).step g0).2 = (DjSpec.step m1 (conf d) (dcfg d) g0).2) ∧
      ∃ LLs : List (List (List Row)), FEvictedRun (d.run ops).fan (rest.map (toOp (conf d))) LLs ∧
        ((d.run (ops ++ rest)).step g).2 =
          (DjSpec.step (DjSpec.runLossy m1 (conf d) (dcfg d) rest (LLs.map fdrops)) (conf d) (dcfg d) g).2 := by
  rw [List.append_assoc] at hm
  obtain ⟨hm1, hm2⟩ := (djrf_mono_append clock ops _).1 hm
  obtain ⟨LLs0, -, -, h2, h3, hp3, h4, h5⟩ := djrun_refines_lossy_strong d m clock ops hg hpl hr hm1
  generalize DjSpec.runLossy m (conf d) (dcfg d) ops _ = m1 at h2
  refine ⟨m1, fun g0 hdet0 hm0 => ?_, ?_⟩
  · have := djlz_step_out (d.run ops) m1 _ g0 h3 hp3 h2 hdet0
      ((djrf_mono_cons _ g0 []).1 ((djrf_mono_append clock ops [g0]).1 hm0).2).1
    rw [h4, h5] at this
    exact this
  · obtain ⟨LLs, hE, hafter⟩ := call_after_history_lossy (d.run ops) m1 _ rest g h3 hp3 h2 hdet hm2
    rw [h4, h5] at hafter
    rw [h5] at hE
    rw [djrf_run_append]
    exact ⟨LLs, hE, hafter⟩

/-! ### the contract clauses for a cache that may evict -/

theorem djlz_get_none (m : Spec.Dict) (C : Conf) (cfg : Cfg) (E : Externals) (now : Int) (k : Str)
    (ver : Option Int) (h : m.get (keyOf E cfg (key C k ver)) = none) :
    (DjSpec.step m C cfg (.get E now k ver)).2 = .default := by
  show (Spec.get m E cfg now (key C k ver) false false false).2 = _
  unfold Spec.get
  rw [h]
  rfl

/-- **calls that do not write to `(key, version)` do not change what `get(key, version)` returns,
unless they evict the item**: after reads of any key and set / add / touch / delete / pop / incr /
decr of other keys or of the same key under other versions, `get(key, version)` returns what it
returned before — or the default, the key being in the drop list of one of those calls (an
eviction on the shard of the key, `Fanout.FEvicted`).  Never another value. -/
theorem get_unaffected_lossy (d : Django) (m : Spec.Dict) (clock : Int) (ops ops' : List DOp)
    (E : Externals) (now : Int) (k : Str) (ver : Option Int)
    (hg : DGoodAny d) (hpl : DPlaced d) (hr : DRefines d m clock)
    (hd : (dcfg d).disk = .pickle) -- the default Disk, see C19_Refine
    (hm : DMonotone clock (ops ++ ops' ++ [.get E now k ver]))
    (hw : ∀ op ∈ ops', writesTo (conf d) k (ver.getD (conf d).version) op = false) :
    ∃ LLs : List (List (List Row)), FEvictedRun (d.run ops).fan (ops'.map (toOp (conf d))) LLs ∧
      (((d.run (ops ++ ops')).step (.get E now k ver)).2 = ((d.run ops).step (.get E now k ver)).2 ∨
       (((d.run (ops ++ ops')).step (.get E now k ver)).2 = .default ∧
        ∃ LL ∈ LLs, (fdrops LL).any
          (fun l => sameKey l (keyOf E (dcfg d) (key (conf d) k ver))) = true)) := by
  obtain ⟨m1, hbefore, LLs, hE, hafter⟩ :=
    djlz_restart d m clock ops ops' (.get E now k ver) hg hpl hr rfl hm
  refine ⟨LLs, hE, ?_⟩
  rw [hbefore _ rfl (djrf_mono_skip hm), hafter]
  rcases djlz_runLossy_frame m1 (conf d) (dcfg d) hd ops' (LLs.map fdrops) E k ver hw with h | ⟨h, D, hD, hany⟩
  · exact .inl (frf_local_out (frf_get_local E _ now (key _ k ver) false false false) _ _ h)
  · refine .inr ⟨djlz_get_none _ _ _ _ _ _ _ h, ?_⟩
    obtain ⟨LL, hLL, rfl⟩ := List.mem_map.1 (List.mem_of_mem_take hD)
    exact ⟨LL, hLL, hany⟩

/-- **different versions never see each other's values — but they can evict each other's items**:
whatever is done under the version `v'` (to whatever keys) does not change the value `get` under
another version returns; at most the item is evicted (a write under `v'` found the shard at its
limit) and `get` returns the default.  `version_evicts_other_version` shows that this happens. -/
theorem versions_isolated_lossy (d : Django) (m : Spec.Dict) (clock : Int) (ops ops' : List DOp)
    (E : Externals) (now : Int) (k : Str) (ver : Option Int) (v' : Int)
    (hg : DGoodAny d) (hpl : DPlaced d) (hr : DRefines d m clock)
    (hd : (dcfg d).disk = .pickle) -- the default Disk, see C19_Refine
    (hm : DMonotone clock (ops ++ ops' ++ [.get E now k ver]))
    (hv : ∀ op ∈ ops', versionOf (conf d) op = some v')
    (hne : v' ≠ ver.getD (conf d).version) :
    ∃ LLs : List (List (List Row)), FEvictedRun (d.run ops).fan (ops'.map (toOp (conf d))) LLs ∧
      (((d.run (ops ++ ops')).step (.get E now k ver)).2 = ((d.run ops).step (.get E now k ver)).2 ∨
       (((d.run (ops ++ ops')).step (.get E now k ver)).2 = .default ∧
        ∃ LL ∈ LLs, (fdrops LL).any
          (fun l => sameKey l (keyOf E (dcfg d) (key (conf d) k ver))) = true)) :=
  get_unaffected_lossy d m clock ops ops' E now k ver hg hpl hr hd hm
    (fun op hop => djrf_version_writesTo (hv op hop) hne)

/-- the state of the specification after a successful `set` and calls that do not write to the
key: the entry `set` stored, or nothing — the key then being in one of the drop lists -/
theorem djlz_after_set (m1 : Spec.Dict) (C : Conf) (cfg : Cfg) (hd : cfg.disk = .pickle)
    (ops' : List DOp) (drops : List (List Spec.Key)) (E E' : Externals) (now : Int) (k : Str)
    (v : PyVal) (t : Timeout) (ver ver' : Option Int) (tag : SqlVal)
    (hver : ver'.getD C.version = ver.getD C.version)
    (hset : (DjSpec.step m1 C cfg (.set E now k v t ver tag)).2 = .bool true)
    (hw : ∀ op ∈ ops', writesTo C k (ver.getD C.version) op = false) :
    ∃ p, place E cfg.disk cfg.minFileSize v false = .ok p ∧
      ((DjSpec.runLossy m1 C cfg (.set E now k v t ver tag :: ops') drops).get
          (keyOf E' cfg (key C k ver')) = some (entryOf p ((ttl C t).map (now + ·)) tag) ∨
       ((DjSpec.runLossy m1 C cfg (.set E now k v t ver tag :: ops') drops).get
          (keyOf E' cfg (key C k ver')) = none ∧
        ∃ D ∈ drops, D.any (fun l => sameKey l (keyOf E' cfg (key C k ver'))) = true)) := by
  obtain ⟨p, hp, hget⟩ := djrf_set_true _ _ _ _ _ _ _ _ _ _ hset
  refine ⟨p, hp, ?_⟩
  rw [djrf_keyOf_congr C cfg hd E E' k ver ver' hver]
  have hstep : DjSpec.runLossy m1 C cfg (.set E now k v t ver tag :: ops') drops =
      DjSpec.runLossy (dropKeys (DjSpec.step m1 C cfg (.set E now k v t ver tag)).1 (drops.headD []))
        C cfg ops' drops.tail := rfl
  rw [hstep]
  have hmem0 : ∀ D, D = drops.headD [] → D ≠ [] → D ∈ drops := by
    intro D h1 h2
    cases drops with
    | nil => exact absurd h1 h2
    | cons d ds => rw [h1]; exact List.mem_cons_self
  have hmem1 : ∀ D, D ∈ drops.tail.take ops'.length → D ∈ drops :=
    fun D h => List.mem_of_mem_tail (List.mem_of_mem_take h)
  rcases djlz_runLossy_frame _ C cfg hd ops' drops.tail E k ver hw with h | ⟨h, D, hD, hany⟩
  · rw [h, rf_get_dropKeys, hget]
    cases ha : (drops.headD []).any (fun l => sameKey l (keyOf E cfg (key C k ver))) with
    | false => exact .inl rfl
    | true =>
      refine .inr ⟨rfl, _, hmem0 _ rfl ?_, ha⟩
      intro h0
      rw [h0] at ha
      cases ha
  · exact .inr ⟨h, D, hmem1 D hD, hany⟩

/-- **a value set with timeout None is returned by every later get — unless it was evicted**: if
`set(key, value, timeout=None, version)` returned True, then after any calls that do not write to
`(key, version)`, `get(key, version)` — at any later time — returns the stored value read back
(`Entry.out` of the entry `set` stored), or it returns the default and the key is in the drop list
of the `set` itself (`Cache.set_evicts_itself_lrs_tie`) or of one of the calls after it: the item
was evicted on its shard.  Never a stale or foreign value. -/
theorem forever_returned_lossy (d : Django) (m : Spec.Dict) (clock : Int) (ops ops' : List DOp)
    (E E' : Externals) (now now' : Int) (k : Str) (v : PyVal) (ver ver' : Option Int) (tag : SqlVal)
    (hg : DGoodAny d) (hpl : DPlaced d) (hr : DRefines d m clock)
    (hd : (dcfg d).disk = .pickle) -- the default Disk, see C19_Refine
    (hm : DMonotone clock (ops ++ [.set E now k v .forever ver tag] ++ ops' ++ [.get E' now' k ver']))
    (hver : ver'.getD (conf d).version = ver.getD (conf d).version)
    (hset : ((d.run ops).step (.set E now k v .forever ver tag)).2 = .bool true)
    (hw : ∀ op ∈ ops', writesTo (conf d) k (ver.getD (conf d).version) op = false) :
    ∃ LLs : List (List (List Row)),
      FEvictedRun (d.run ops).fan ((.set E now k v .forever ver tag :: ops').map (toOp (conf d))) LLs ∧
      ∃ p, place E (dcfg d).disk (dcfg d).minFileSize v false = .ok p ∧
        (((d.run (ops ++ [.set E now k v .forever ver tag] ++ ops')).step (.get E' now' k ver')).2 =
            (entryOf p none tag).out E' (dcfg d) false false false ∨
         (((d.run (ops ++ [.set E now k v .forever ver tag] ++ ops')).step (.get E' now' k ver')).2 =
            .default ∧
          ∃ LL ∈ LLs, (fdrops LL).any
            (fun l => sameKey l (keyOf E' (dcfg d) (key (conf d) k ver'))) = true)) := by
  obtain ⟨m1, hfirst, LLs, hE, hafter⟩ := djlz_restart d m clock ops
    (.set E now k v .forever ver tag :: ops') (.get E' now' k ver') hg hpl hr rfl
    (by rw [List.append_cons ops]; exact hm)
  rw [hfirst _ rfl (djrf_mono_prefix (djrf_mono_prefix hm))] at hset
  obtain ⟨p, hp, hst⟩ := djlz_after_set m1 (conf d) (dcfg d) hd ops' (LLs.map fdrops) E E' now k v
    .forever ver ver' tag hver hset hw
  refine ⟨LLs, hE, p, hp, ?_⟩
  rw [← List.append_cons ops, hafter]
  rcases hst with h | ⟨h, D, hD, hany⟩
  · exact .inl (djrf_get_forever _ _ _ _ _ _ _ _ _ h)
  · refine .inr ⟨djlz_get_none _ _ _ _ _ _ _ h, ?_⟩
    obtain ⟨LL, hLL, rfl⟩ := List.mem_map.1 hD
    exact ⟨LL, hLL, hany⟩

/-- … and with a lawful codec the later `get` returns the value itself, or the default after an
eviction -/
theorem forever_returns_value_lossy (d : Django) (m : Spec.Dict) (clock : Int) (ops ops' : List DOp)
    (E : Externals) (hE : Lawful E) (now now' : Int) (k : Str) (v : PyVal) (ver ver' : Option Int)
    (tag : SqlVal)
    (hg : DGoodAny d) (hpl : DPlaced d) (hr : DRefines d m clock)
    (hd : (dcfg d).disk = .pickle) -- the default Disk, see C19_Refine
    (hm : DMonotone clock (ops ++ [.set E now k v .forever ver tag] ++ ops' ++ [.get E now' k ver']))
    (hver : ver'.getD (conf d).version = ver.getD (conf d).version)
    (hset : ((d.run ops).step (.set E now k v .forever ver tag)).2 = .bool true)
    (hw : ∀ op ∈ ops', writesTo (conf d) k (ver.getD (conf d).version) op = false) :
    ∃ LLs : List (List (List Row)),
      FEvictedRun (d.run ops).fan ((.set E now k v .forever ver tag :: ops').map (toOp (conf d))) LLs ∧
      (((d.run (ops ++ [.set E now k v .forever ver tag] ++ ops')).step (.get E now' k ver')).2 = .val v ∨
       (((d.run (ops ++ [.set E now k v .forever ver tag] ++ ops')).step (.get E now' k ver')).2 =
          .default ∧
        ∃ LL ∈ LLs, (fdrops LL).any
          (fun l => sameKey l (keyOf E (dcfg d) (key (conf d) k ver'))) = true)) := by
  obtain ⟨LLs, h0, p, hp, h⟩ := forever_returned_lossy d m clock ops ops' E E now now' k v ver ver' tag
    hg hpl hr hd hm hver hset hw
  refine ⟨LLs, h0, ?_⟩
  rcases h with h | h
  · left; rw [h]; exact djrf_out_value E hE _ hd v p none tag hp
  · exact .inr h

/-- **a value set with a timeout ≤ 0 is never returned** — whatever is evicted: if
`set(key, value, timeout=t, version)` with `t ≤ 0` returned True, then after any calls that do not
write to `(key, version)`, `get(key, version)` returns the default -/
theorem nonpositive_never_returned_lossy (d : Django) (m : Spec.Dict) (clock : Int)
    (ops ops' : List DOp) (E E' : Externals) (now now' : Int) (k : Str) (v : PyVal) (t : Int)
    (ver ver' : Option Int) (tag : SqlVal) (ht : t ≤ 0)
    (hg : DGoodAny d) (hpl : DPlaced d) (hr : DRefines d m clock)
    (hd : (dcfg d).disk = .pickle) -- the default Disk, see C19_Refine
    (hm : DMonotone clock (ops ++ [.set E now k v (.secs t) ver tag] ++ ops' ++ [.get E' now' k ver']))
    (hver : ver'.getD (conf d).version = ver.getD (conf d).version)
    (hset : ((d.run ops).step (.set E now k v (.secs t) ver tag)).2 = .bool true)
    (hw : ∀ op ∈ ops', writesTo (conf d) k (ver.getD (conf d).version) op = false) :
    ((d.run (ops ++ [.set E now k v (.secs t) ver tag] ++ ops')).step (.get E' now' k ver')).2 =
      .default := by
  obtain ⟨m1, hfirst, LLs, -, hafter⟩ := djlz_restart d m clock ops
    (.set E now k v (.secs t) ver tag :: ops') (.get E' now' k ver') hg hpl hr rfl
    (by rw [List.append_cons ops]; exact hm)
  rw [hfirst _ rfl (djrf_mono_prefix (djrf_mono_prefix hm))] at hset
  obtain ⟨p, -, hst⟩ := djlz_after_set m1 (conf d) (dcfg d) hd ops' (LLs.map fdrops) E E' now k v
    (.secs t) ver ver' tag hver hset hw
  rw [← List.append_cons ops, hafter]
  rcases hst with h | ⟨h, -⟩
  · exact djrf_get_dead _ _ _ _ _ _ _ _ _ _ _ ht (djrf_mono_clocks hm rfl rfl) h
  · exact djlz_get_none _ _ _ _ _ _ _ h

/-! ### non-vacuity: a DjangoCache that evicts -/

/-- KEY_PREFIX "p", VERSION 1, two shards, least-recently-stored, total size limit 100 bytes (50
per shard), `cull_limit = 1`; the two writes observe the database file of their shard at 30 and
at 60 bytes -/
def exDjL : Django :=
  { fan := { Fanout.init 2 cfgL false with env := [30, 60] }, keyPrefix := [112] }

/-- `a` under version 1 and `b` under version 2 live on the same shard -/
example : [key (conf exDjL) [97] none, key (conf exDjL) [98] (some 2)].map
    (fun k => exDjL.fan.route toyV k) = [1, 1] := by decide +kernel

/-- `a` is stored for ever under version 1 and read; then `b` is stored under version 2 — the
shard is at its limit and evicts its least recently stored row, which is `a` of version 1 -/
def exDjLOps : List DOp :=
  [ .set toyV 1 [97] (.int 7) .forever none .null,
    .get toyV 2 [97] none,
    .set toyV 3 [98] (.int 8) .forever (some 2) .null,
    .get toyV 4 [97] none,
    .get toyV 4 [98] (some 2) ]

theorem exDjL_good : DGoodAny exDjL ∧ DPlaced exDjL ∧ DRefines exDjL [] 0 :=
  django_init_any 2 cfgL false _ _ _ _ (by decide) (by decide) 0

example : ∃ LLs : List (List (List Row)), FEvictedRun exDjL.fan (exDjLOps.map (toOp (conf exDjL))) LLs ∧
    outs exDjL exDjLOps = DjSpec.outsLossy [] (conf exDjL) (dcfg exDjL) exDjLOps (LLs.map fdrops) ∧
    ∃ clock', DRefines (exDjL.run exDjLOps)
      (DjSpec.runLossy [] (conf exDjL) (dcfg exDjL) exDjLOps (LLs.map fdrops)) clock' :=
  djrun_refines_lossy exDjL [] 0 exDjLOps exDjL_good.1 exDjL_good.2.1 exDjL_good.2.2 (by decide +kernel)

/-- **a write under one version can evict another version's item**: the value stored for ever
under version 1 is returned until `set('b', version=2)` evicts it; then `get` returns the
default — which is what the lossy specification returns when the key `p:1:a` is dropped after
the third call, and not what the specification without drops returns.  Eviction is by shard and
store time; versions (and timeouts: the item was to live for ever) play no role. -/
theorem version_evicts_other_version :
    outs exDjL exDjLOps = [.bool true, .val (.int 7), .bool true, .default, .val (.int 8)] ∧
    DjSpec.outsLossy [] (conf exDjL) (dcfg exDjL) exDjLOps
        [[], [], [(.text [112, 58, 49, 58, 97], true)], [], []] =
      [.bool true, .val (.int 7), .bool true, .default, .val (.int 8)] ∧
    DjSpec.outs [] (conf exDjL) (dcfg exDjL) exDjLOps =
      [.bool true, .val (.int 7), .bool true, .val (.int 7), .val (.int 8)] :=
  ⟨by rfl, by rfl, by rfl⟩

/-- `forever_returned_lossy` on that history (second alternative: evicted) -/
example : ∃ LLs : List (List (List Row)),
    FEvictedRun (exDjL.run []).fan
      ((.set toyV 1 [97] (.int 7) .forever none .null :: exDjLOps.tail.take 2).map (toOp (conf exDjL))) LLs ∧
    ∃ p, place toyV (dcfg exDjL).disk (dcfg exDjL).minFileSize (.int 7) false = .ok p ∧
      (((exDjL.run ([] ++ [.set toyV 1 [97] (.int 7) .forever none .null] ++ exDjLOps.tail.take 2)).step
          (.get toyV 4 [97] none)).2 = (entryOf p none .null).out toyV (dcfg exDjL) false false false ∨
       (((exDjL.run ([] ++ [.set toyV 1 [97] (.int 7) .forever none .null] ++ exDjLOps.tail.take 2)).step
          (.get toyV 4 [97] none)).2 = .default ∧
        ∃ LL ∈ LLs, (fdrops LL).any
          (fun l => sameKey l (keyOf toyV (dcfg exDjL) (key (conf exDjL) [97] none))) = true)) :=
  forever_returned_lossy exDjL [] 0 [] (exDjLOps.tail.take 2) toyV toyV 1 4 [97] (.int 7) none none .null
    exDjL_good.1 exDjL_good.2.1 exDjL_good.2.2 rfl (by decide +kernel) rfl (by rfl) (by decide +kernel)

end DC.Django
