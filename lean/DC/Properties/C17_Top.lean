/-
C17, continued — the directory as `os.walk` sees it: files lying directly in the cache directory
or directly in a first-level directory `xx/` are part of the observation (`FsFile.level`), and so is
the outcome of the substring test `DBNAME in full_path` (`FsFile.db`).  The theorems of
`DC.Properties.C17` (`check_silent_iff`, `fix_converges`, `fix_clean`, `fix_wellShaped`, ...) are
stated over this wider observation; here:

* on a directory with no file outside the value tree and no path containing `cache.db` (`TreeOnly`)
  the model is the simpler `Tree.check` (DC/Proofs/CheckLemmas.lean), and `Clean` / `WellShaped` are
  their forms that speak of the value tree only (`CleanTree`, `WellShapedTree`);
* stray files outside the value tree are reported once and removed; files whose path contains the
  text `cache.db` never are;
* undamaged items are untouched (row, file, its directories, uniqueness, counters), the repair
  invents nothing, and it is idempotent;
* plain check and check(fix=True) give the same warnings in the same order, fix mode adding only
  empty-directory warnings for directories its own repairs emptied, counter numbers aside.
-/
import DC.Properties.C17

namespace DC.Check

/-- `Clean` where only the files of the value tree are observed -/
structure CleanTree (s : St) : Prop where
  ref : ∀ r ∈ s.rows, ∀ f, r.file = some f → ∃ ff ∈ s.files, ff.id = f ∧ ff.size = r.size
  known : ∀ ff ∈ s.files, ∃ r ∈ s.rows, r.file = some ff.id
  noEmpty2 : ∀ d ∈ s.dirs2, ∃ ff ∈ s.files, ff.d1 = d.1 ∧ ff.d2 = d.2
  noEmpty1 : ∀ d ∈ s.dirs1, ∃ d2 ∈ s.dirs2, d2.1 = d
  count : s.count = s.rows.length
  size : s.size = sumSizes s.rows

/-- `WellShaped` where only the files of the value tree are observed -/
structure WellShapedTree (s : St) : Prop where
  fileDir : ∀ f ∈ s.files, (f.d1, f.d2) ∈ s.dirs2
  dirDir : ∀ d ∈ s.dirs2, d.1 ∈ s.dirs1
  fileIds : (s.files.map (·.id)).Nodup
  rowIds : (s.rows.map (·.rowid)).Nodup
  dirs1 : s.dirs1.Nodup
  dirs2 : s.dirs2.Nodup

/-- on a directory whose files all lie in the value tree and carry no `cache.db` in their path
(`TreeOnly`), the model computes what the model that knows only the value tree (`Tree.check`,
`DC/Proofs/CheckLemmas.lean`) computes -/
theorem check_tree_unchanged (fix : Bool) (s : St) (h : TreeOnly s) : check fix s = Tree.check fix s :=
  check_tree fix s h

theorem clean_tree_iff (s : St) (h : TreeOnly s) : Clean s ↔ CleanTree s := by
  constructor
  · intro c
    refine ⟨c.ref, fun ff hff => c.known ff hff (h ff hff).2, ?_, ?_, c.count, c.size⟩
    · intro d hd
      obtain ⟨ff, hff, _, e⟩ := c.noEmpty2 d hd
      exact ⟨ff, hff, e⟩
    · intro d hd
      rcases c.noEmpty1 d hd with h' | ⟨ff, hff, hl, _⟩
      · exact h'
      · rw [(h ff hff).1] at hl; cases hl
  · intro c
    refine ⟨c.ref, fun ff hff _ => c.known ff hff, ?_, fun d hd => Or.inl (c.noEmpty1 d hd), c.count, c.size⟩
    intro d hd
    obtain ⟨ff, hff, e⟩ := c.noEmpty2 d hd
    exact ⟨ff, hff, (h ff hff).1, e⟩

theorem wellShaped_tree_iff (s : St) (h : TreeOnly s) : WellShaped s ↔ WellShapedTree s := by
  constructor
  · intro w
    exact ⟨fun f hf => w.fileDir f hf (h f hf).1, w.dirDir, w.fileIds, w.rowIds, w.dirs1, w.dirs2⟩
  · intro w
    exact ⟨fun f hf _ => w.fileDir f hf, w.dirDir, w.fileIds, w.rowIds, w.dirs1, w.dirs2⟩

theorem fix_treeOnly (s : St) (h : WellShaped s) (ht : TreeOnly s) : TreeOnly (check true s).1 := by
  intro f hf
  rw [check_true_files s h.rowIds] at hf
  exact ht f (mem_files'.1 hf).1

/-- which files are reported unknown, in either mode: exactly those no row refers to and whose
path does not contain the text `cache.db` — at any level -/
theorem unknown_reported_iff (fix : Bool) (s : St) (h : WellShaped s) (i : Nat) :
    Warn.unknown i ∈ (check fix s).2 ↔
      ∃ f ∈ s.files, f.id = i ∧ f.db = false ∧ ∀ r ∈ s.rows, r.file ≠ some i := by
  rw [mem_check_file fix s h.rowIds rfl, unknown_mem_filePass]

/-- an unknown file is reported exactly once, in either mode -/
theorem unknown_reported_once (fix : Bool) (s : St) (h : WellShaped s) (f : FsFile) (hf : f ∈ s.files)
    (hdb : f.db = false) (hn : ∀ r ∈ s.rows, r.file ≠ some f.id) :
    (check fix s).2.count (.unknown f.id) = 1 := by
  obtain ⟨D, C, e, kD, kC⟩ := check_snd_blocks fix s h.rowIds
  have hm : Warn.unknown f.id ∈ (filePass false (s.rows.filterMap (·.file)) s).2 :=
    (unknown_mem_filePass false s f.id).2 ⟨f, hf, rfl, hdb, hn⟩
  have h0 : (rowWarns s.files s.rows).count (.unknown f.id) = 0 :=
    List.count_eq_zero.2 (fun hw => absurd (rowWarns_kind _ _ _ hw) (by simp [Warn.kind]))
  have h2 : D.count (.unknown f.id) = 0 :=
    List.count_eq_zero.2 (fun hw => absurd (kD _ hw) (by simp [Warn.kind]))
  have h3 : C.count (.unknown f.id) = 0 :=
    List.count_eq_zero.2 (fun hw => by have := kC _ hw; simp [Warn.kind] at this)
  have h1 := (unknown_nodup false (s.rows.filterMap (·.file)) s h.fileIds).count (a := Warn.unknown f.id)
  rw [if_pos hm] at h1
  rw [e]
  simp only [List.count_append, h0, h1, h2, h3]

/-- ... and is gone after `check(fix=True)` -/
theorem unknown_removed (s : St) (h : WellShaped s) (f : FsFile) (hf : f ∈ s.files)
    (hdb : f.db = false) (hn : ∀ r ∈ s.rows, r.file ≠ some f.id) :
    ∀ g ∈ (check true s).1.files, g.id ≠ f.id := by
  rw [check_true_files s h.rowIds]
  intro g hg e
  obtain ⟨hm, ⟨r, hr, hrf⟩ | hdb'⟩ := mem_files'.1 hg
  · exact hn r hr (by rw [hrf, e])
  · cases eq_of_mem_nodup_map (·.id) h.fileIds hm hf e
    rw [hdb] at hdb'; cases hdb'

/-- a file lying directly in the cache directory or directly in a first-level directory, to which
no row refers (and whose path does not contain the text `cache.db`), yields exactly one
unknown-file warning, with or without fix; plain check leaves it, check(fix=True) removes it -/
theorem stray_top_reported (s : St) (h : WellShaped s) (f : FsFile) (hf : f ∈ s.files)
    (_hl : f.level = .top ∨ f.level = .first) (hdb : f.db = false)
    (hn : ∀ r ∈ s.rows, r.file ≠ some f.id) :
    (check false s).2.count (.unknown f.id) = 1 ∧ (check true s).2.count (.unknown f.id) = 1 ∧
    f ∈ (check false s).1.files ∧ ∀ g ∈ (check true s).1.files, g.id ≠ f.id :=
  ⟨unknown_reported_once false s h f hf hdb hn, unknown_reported_once true s h f hf hdb hn,
   by rw [check_nofix_pure]; exact hf, unknown_removed s h f hf hdb hn⟩

/-- the substring test `DBNAME in full_path`: a file whose path contains the text `cache.db` is
never reported and never removed, whether or not a row refers to it, at any level (so also a value
file, and every file of a cache whose directory path contains `cache.db`) -/
theorem dbnamed_never_reported (fix : Bool) (s : St) (h : WellShaped s) (f : FsFile) (hf : f ∈ s.files)
    (hdb : f.db = true) :
    Warn.unknown f.id ∉ (check fix s).2 ∧ f ∈ (check true s).1.files := by
  constructor
  · rw [unknown_reported_iff fix s h]
    rintro ⟨g, hg, e, hdb', _⟩
    cases eq_of_mem_nodup_map (·.id) h.fileIds hg hf e
    rw [hdb] at hdb'; cases hdb'
  · rw [check_true_files s h.rowIds]
    exact mem_files'.2 ⟨hf, Or.inr hdb⟩

/-- `file not found` is reported for exactly the rows whose file is not on disk (at any level) -/
theorem notFound_reported_iff (fix : Bool) (s : St) (h : WellShaped s) (k : Nat) :
    Warn.notFound k ∈ (check fix s).2 ↔
      ∃ r ∈ s.rows, r.rowid = k ∧ ∃ f, r.file = some f ∧ ∀ ff ∈ s.files, ff.id ≠ f := by
  rw [mem_check_row fix s h.rowIds rfl, notFound_mem_rowWarns]
  simp only [List.find?_eq_none, beq_iff_eq]

/-- `wrong file size: real != recorded` is reported for exactly the rows whose file is on disk
with a size other than the recorded one, and with those two numbers -/
theorem wrongSize_reported_iff (fix : Bool) (s : St) (h : WellShaped s) (k a b : Nat) :
    Warn.wrongSize k a b ∈ (check fix s).2 ↔
      ∃ r ∈ s.rows, r.rowid = k ∧ r.size = b ∧ ∃ f, r.file = some f ∧
        ∃ ff ∈ s.files, ff.id = f ∧ ff.size = a ∧ a ≠ b := by
  rw [mem_check_row fix s h.rowIds rfl, wrongSize_mem_rowWarns]
  constructor
  · rintro ⟨r, hr, h1, h2, f, ff, hf, hff, h3, h4⟩
    obtain ⟨hm, hid⟩ := find_id_some hff
    exact ⟨r, hr, h1, h2, f, hf, ff, hm, hid, h3, h4⟩
  · rintro ⟨r, hr, h1, h2, f, hf, ff, hm, hid, h3, h4⟩
    have := find_id_of_mem h.fileIds hm
    rw [hid] at this
    exact ⟨r, hr, h1, h2, f, ff, hf, this, h3, h4⟩

/-- the rows `check(fix=True)` deletes are exactly those it reports as `file not found` -/
theorem fix_removes_iff_notFound (s : St) (h : WellShaped s) (r : CRow) (hr : r ∈ s.rows) :
    (∀ r' ∈ (check true s).1.rows, r'.rowid ≠ r.rowid) ↔ Warn.notFound r.rowid ∈ (check true s).2 := by
  rw [notFound_reported_iff true s h, check_true_rows s h.rowIds]
  constructor
  · intro hgone
    cases hf : r.file with
    | none => exact absurd rfl (hgone r (mem_rows'.2 ⟨r, hr, fixRow_none hf⟩))
    | some f =>
      cases hff : s.files.find? (·.id == f) with
      | some ff =>
        exact absurd rfl (hgone { r with size := ff.size } (mem_rows'.2 ⟨r, hr, fixRow_found hf hff⟩))
      | none =>
        refine ⟨r, hr, rfl, f, hf, ?_⟩
        simpa using hff
  · rintro ⟨r0, hr0, e, f, hf, hno⟩ r' hr' e'
    obtain ⟨r1, hr1, e1⟩ := mem_rows'.1 hr'
    have h1 := (fixRow_some e1).1
    have : r1 = r0 := eq_of_mem_nodup_map (·.rowid) h.rowIds hr1 hr0 (by rw [← h1, e', e])
    subst this
    obtain ⟨ff, hff, _⟩ := (fixRow_some e1).2.2 f hf
    obtain ⟨hm, hid⟩ := find_id_some hff
    exact hno ff hm hid

/-- plain check reports as empty exactly the second-level directories holding no file, and the
first-level directories holding neither a directory nor a file (a file lying directly in `xx/`
counts) -/
theorem emptyDir_reported_iff (s : St) :
    (∀ a b, Warn.emptyDir2 a b ∈ (check false s).2 ↔
      (a, b) ∈ s.dirs2 ∧ ∀ f ∈ s.files, ¬ (f.level = .leaf ∧ f.d1 = a ∧ f.d2 = b)) ∧
    (∀ a, Warn.emptyDir1 a ∈ (check false s).2 ↔
      a ∈ s.dirs1 ∧ (∀ d ∈ s.dirs2, d.1 ≠ a) ∧ ∀ f ∈ s.files, ¬ (f.level ≠ .top ∧ f.d1 = a)) := by
  have key : ∀ w : Warn, w.kind = 2 → (w ∈ (check false s).2 ↔ w ∈ (dirPass false s).2) := by
    intro w hk
    rw [check_false_snd',
      mem_blocks (rowWarns_kind _ _) (filePass_kind _ _ _) (dirPass_kind _ _) counterWarns_kind]
    simp [hk]
  exact ⟨fun a b => by rw [key _ rfl, emptyDir2_mem_dirPass_false],
    fun a => by rw [key _ rfl, emptyDir1_mem_dirPass_false]⟩

/-- "undamaged items are untouched", in full: an item whose row, file and recorded size were
consistent before `check(fix=True)` has afterwards the same row (and it is the only row with that
rowid), the same file (same id, place and size, and the only file with that id) in directories that
still exist; and the counters afterwards are the number of rows and the sum of their sizes -/
theorem fix_untouched (s : St) (h : WellShaped s) (r : CRow) (hr : r ∈ s.rows)
    (hu : ∀ f, r.file = some f → ∃ ff ∈ s.files, ff.id = f ∧ ff.size = r.size) :
    r ∈ (check true s).1.rows ∧
    (∀ r' ∈ (check true s).1.rows, r'.rowid = r.rowid → r' = r) ∧
    (∀ f, r.file = some f → ∀ ff ∈ s.files, ff.id = f →
      ff ∈ (check true s).1.files ∧
      (∀ g ∈ (check true s).1.files, g.id = f → g = ff) ∧
      (ff.level = .leaf → (ff.d1, ff.d2) ∈ (check true s).1.dirs2 ∧ ff.d1 ∈ (check true s).1.dirs1) ∧
      (ff.level = .first → ff.d1 ∈ s.dirs1 → ff.d1 ∈ (check true s).1.dirs1)) ∧
    (check true s).1.count = (check true s).1.rows.length ∧
    (check true s).1.size = sumSizes (check true s).1.rows := by
  have hp := fix_preserves_undamaged s h r hr hu
  have hw := fix_wellShaped s h
  have hc := fix_clean s h
  refine ⟨hp.1, ?_, ?_, hc.count, hc.size⟩
  · intro r' hr' e
    exact eq_of_mem_nodup_map (·.rowid) hw.rowIds hr' hp.1 e
  · intro f hf ff hff hid
    have hm := hp.2 f hf ff hff hid
    refine ⟨hm, ?_, ?_, ?_⟩
    · intro g hg e
      exact eq_of_mem_nodup_map (·.id) hw.fileIds hg hm (by rw [e, hid])
    · intro hl
      have := hw.fileDir ff hm hl
      exact ⟨this, hw.dirDir _ this⟩
    · intro hl hd
      rw [check_true_dirs1 s h.rowIds]
      rw [check_true_files s h.rowIds] at hm
      exact mem_dirs1'.2 ⟨hd, Or.inr ⟨ff, hm, by simp [hl], rfl⟩⟩

/-- the repair invents nothing and every remaining item has its file: a row left by
`check(fix=True)` is a row that was there (same rowid, same file; unchanged if it has no file,
otherwise its size is now the real size of its file, which is still there); files and directories
left are files and directories that were there, unchanged -/
theorem fix_no_invention (s : St) (h : WellShaped s) :
    (∀ r' ∈ (check true s).1.rows, ∃ r ∈ s.rows, r'.rowid = r.rowid ∧ r'.file = r.file ∧
      (r.file = none → r' = r) ∧
      ∀ f, r.file = some f → ∃ ff ∈ (check true s).1.files, ff ∈ s.files ∧ ff.id = f ∧ r'.size = ff.size) ∧
    (∀ f ∈ (check true s).1.files, f ∈ s.files) ∧
    (∀ d ∈ (check true s).1.dirs1, d ∈ s.dirs1) ∧ (∀ d ∈ (check true s).1.dirs2, d ∈ s.dirs2) := by
  have nd := h.rowIds
  rw [check_true_rows s nd, check_true_files s nd, check_true_dirs1 s nd, check_true_dirs2 s nd]
  refine ⟨?_, fun f hf => (mem_files'.1 hf).1, fun d hd => (mem_dirs1'.1 hd).1,
    fun d hd => (mem_dirs2'.1 hd).1⟩
  intro r' hr'
  obtain ⟨r, hr, e⟩ := mem_rows'.1 hr'
  obtain ⟨h1, h2, h3⟩ := fixRow_some e
  refine ⟨r, hr, h1, h2, ?_, ?_⟩
  · intro hn
    rw [fixRow_none hn] at e
    cases e; rfl
  · intro f hf
    obtain ⟨ff, hff, hs⟩ := h3 f hf
    obtain ⟨hm, hid⟩ := find_id_some hff
    exact ⟨ff, mem_files'.2 ⟨hm, Or.inl ⟨r, hr, by rw [hid]; exact hf⟩⟩, hm, hid, hs⟩

/-- on a consistent directory `check(fix=True)` does nothing and says nothing -/
theorem fix_on_clean (s : St) (h : WellShaped s) (c : Clean s) : check true s = (s, []) := by
  have nd := h.rowIds
  have er : rows' s = s.rows :=
    filterMap_eq_self _ _ (fun r hr => fixRow_of_consistent h.fileIds (c.ref r hr))
  have ef : files' s = s.files := by
    apply filter_eq_self'
    intro f hf
    rw [Bool.or_eq_true, contains_named]
    cases hdb : f.db with
    | true => exact Or.inr rfl
    | false => exact Or.inl (c.known f hf hdb)
  have hsil := (check_silent_iff s h).2 c
  rw [check_false_snd'] at hsil
  simp only [List.append_eq_nil_iff] at hsil
  obtain ⟨⟨⟨hR, hU⟩, hD⟩, hC⟩ := hsil
  have hD' := dirPass_true_of_false_nil s hD
  apply Prod.ext
  · show (check true s).1 = s
    have e2 : dirs2' s = s.dirs2 := by
      apply filter_eq_self'
      intro d hd
      obtain ⟨ff, hff, hl, e1, e2⟩ := c.noEmpty2 d hd
      rw [ef, List.any_eq_true]
      exact ⟨ff, hff, FsFile.inDir2_iff.2 ⟨hl, e1, e2⟩⟩
    have e1 : dirs1' s = s.dirs1 := by
      apply filter_eq_self'
      intro d hd
      rw [e2, ef, Bool.or_eq_true, List.any_eq_true, List.any_eq_true]
      rcases c.noEmpty1 d hd with ⟨d2, hd2, e⟩ | ⟨ff, hff, hl, e⟩
      · exact Or.inl ⟨d2, hd2, beq_iff_eq.2 e⟩
      · exact Or.inr ⟨ff, hff, FsFile.under_iff.2 ⟨by rw [hl]; decide, e⟩⟩
    rw [check_true_fst' s nd, er, ef, e1, e2, ← c.count, ← c.size]
  · show (check true s).2 = []
    obtain ⟨c', z', hc', hz', e⟩ := check_true_snd_exact s nd
    have es : ({ s with files := files' s } : St) = s := by rw [ef]
    rw [er] at hc' hz'
    have hC' : counterWarns c' z' s.rows = [] := by
      rw [counterWarns_nil_iff]
      have := c.count; have := c.size
      constructor <;> omega
    rw [e, hR, hU, es, hD'.1, er, hC']
    rfl

/-- running `check(fix=True)` twice is running it once: the second run changes nothing (and
reports nothing) -/
theorem fix_idempotent (s : St) (h : WellShaped s) :
    check true (check true s).1 = ((check true s).1, []) :=
  fix_on_clean _ (fix_wellShaped s h) (fix_clean s h)

def Warn.isEmptyDir : Warn → Bool
  | .emptyDir2 .. => true
  | .emptyDir1 _ => true
  | _ => false

/-- a warning without the numbers of a counter warning (which move with the repairs made before
the counters are compared) -/
def Warn.shape : Warn → Warn
  | .count _ _ => .count 0 0
  | .size _ _ => .size 0 0
  | w => w

theorem isEmptyDir_eq_kind (w : Warn) : w.isEmptyDir = (w.kind == 2) := by
  cases w <;> rfl

theorem filter_notEmptyDir {l : List Warn} (h : ∀ w ∈ l, w.kind ≠ 2) : l.filter (!·.isEmptyDir) = l :=
  List.filter_eq_self.2 (fun w hw => by simp [isEmptyDir_eq_kind, h w hw])

theorem filter_notEmptyDir_nil {l : List Warn} (h : ∀ w ∈ l, w.kind = 2) : l.filter (!·.isEmptyDir) = [] :=
  List.filter_eq_nil_iff.2 (fun w hw => by simp [isEmptyDir_eq_kind, h w hw])

theorem counterWarns_shape (c z : Int) (rows : List CRow) :
    (counterWarns c z rows).map Warn.shape =
      (if c = rows.length then [] else [.count 0 0]) ++ (if z = sumSizes rows then [] else [.size 0 0]) := by
  unfold counterWarns
  rw [List.map_append]
  congr 1 <;> split <;> rfl

/-- plain check and check(fix=True) give the same warnings IN THE SAME ORDER, counter numbers
aside, except that fix mode may insert further empty-directory warnings (for directories its own
repairs emptied):
* plain check's list is a sublist (order kept) of fix mode's list;
* with the empty-directory warnings left out the two lists are equal;
* the counter warnings differ at most in their numbers, and the discrepancy
  `Settings value - actual value` they show is the same in both modes. -/
theorem check_same_order (s : St) (h : WellShaped s) :
    ((check false s).2.map Warn.shape).Sublist ((check true s).2.map Warn.shape) ∧
    ((check false s).2.filter (!·.isEmptyDir)).map Warn.shape =
      ((check true s).2.filter (!·.isEmptyDir)).map Warn.shape ∧
    (∀ a b, Warn.count a b ∈ (check true s).2 → ∃ a' b', Warn.count a' b' ∈ (check false s).2 ∧ a - b = a' - b') ∧
    (∀ a b, Warn.size a b ∈ (check true s).2 → ∃ a' b', Warn.size a' b' ∈ (check false s).2 ∧ a - b = a' - b') := by
  obtain ⟨c, z, hc, hz, e⟩ := check_true_snd_exact s h.rowIds
  rw [e, check_false_snd']
  have kR := rowWarns_kind s.files s.rows
  have kU := filePass_kind false (s.rows.filterMap (·.file)) s
  have kD := dirPass_kind false s
  have kD' := dirPass_kind true { s with files := files' s }
  have sub := dirPass_sublist s (files' s) (fun f hf => (mem_files'.1 hf).1)
  have i1 : c = (rows' s).length ↔ s.count = s.rows.length := by omega
  have i2 : z = sumSizes (rows' s) ↔ s.size = sumSizes s.rows := by omega
  have eC : (counterWarns s.count s.size s.rows).map Warn.shape = (counterWarns c z (rows' s)).map Warn.shape := by
    simp only [counterWarns_shape, i1, i2]
  have nR : ∀ w ∈ rowWarns s.files s.rows, w.kind ≠ 2 := fun w hw => by rw [kR w hw]; decide
  have nU : ∀ w ∈ (filePass false (s.rows.filterMap (·.file)) s).2, w.kind ≠ 2 := fun w hw => by rw [kU w hw]; decide
  have nC : ∀ c z rows, ∀ w ∈ counterWarns c z rows, w.kind ≠ 2 := fun _ _ _ w hw => by
    have := counterWarns_kind w hw; omega
  refine ⟨?_, ?_, ?_, ?_⟩
  · simp only [List.map_append, eC]
    exact ((List.Sublist.refl _).append (sub.map _)).append (List.Sublist.refl _)
  · simp only [List.filter_append, List.map_append]
    rw [filter_notEmptyDir nR, filter_notEmptyDir nU, filter_notEmptyDir_nil kD, filter_notEmptyDir_nil kD',
      filter_notEmptyDir (nC _ _ _), filter_notEmptyDir (nC _ _ _), eC]
  · intro a b hw
    rw [mem_blocks kR kU kD' counterWarns_kind, count_mem_counterWarns] at hw
    simp [Warn.kind] at hw
    obtain ⟨rfl, rfl, hne⟩ := hw
    exact ⟨s.count, s.rows.length, List.mem_append_right _ (count_mem_counterWarns.2 ⟨rfl, rfl, mt i1.2 hne⟩), hc⟩
  · intro a b hw
    rw [mem_blocks kR kU kD' counterWarns_kind, size_mem_counterWarns] at hw
    simp [Warn.kind] at hw
    obtain ⟨rfl, rfl, hne⟩ := hw
    exact ⟨s.size, sumSizes s.rows, List.mem_append_right _ (size_mem_counterWarns.2 ⟨rfl, rfl, mt i2.2 hne⟩), hz⟩

/-- every kind of damage at once, with files outside the value tree: the database files
themselves (ids 10-11, path contains `cache.db`), a stray file in the cache directory (12), a value
file kept directly in the cache directory to which row 5 refers, with a wrong size (13), a stray
file directly in `1/` (14), a stray file alone in the otherwise empty `7/` (15), and a file that
row 6 refers to alone in `8/` (16) -/
def exDamagedTop : St :=
  { rows := [⟨1, 5, some 0⟩, ⟨2, 7, some 1⟩, ⟨3, 0, none⟩, ⟨4, 9, some 3⟩, ⟨5, 6, some 13⟩, ⟨6, 2, some 16⟩],
    count := 7, size := 1,
    files := [⟨10, 0, 0, 4096, .top, true⟩, ⟨11, 0, 0, 32768, .top, true⟩, ⟨12, 0, 0, 5, .top, false⟩,
      ⟨13, 0, 0, 3, .top, false⟩, ⟨14, 1, 0, 8, .first, false⟩, ⟨15, 7, 0, 1, .first, false⟩,
      ⟨16, 8, 0, 2, .first, false⟩,
      ⟨0, 1, 1, 5, .leaf, false⟩, ⟨2, 1, 1, 9, .leaf, false⟩, ⟨3, 2, 1, 4, .leaf, false⟩,
      ⟨5, 3, 1, 0, .leaf, false⟩],
    dirs1 := [1, 2, 3, 4, 6, 7, 8], dirs2 := [(1, 1), (2, 1), (3, 1), (4, 2), (4, 3)] }

theorem exDamagedTop_wellShaped : WellShaped exDamagedTop :=
  ⟨by decide, by decide, by decide, by decide, by decide, by decide⟩

example : (check false exDamagedTop).2 =
    [.notFound 2, .wrongSize 4 4 9, .wrongSize 5 3 6, .unknown 12, .unknown 14, .unknown 15, .unknown 2, .unknown 5,
     .emptyDir2 4 2, .emptyDir2 4 3, .emptyDir1 6, .count 7 6, .size 1 29] ∧
    (check true exDamagedTop).2 =
    [.notFound 2, .wrongSize 4 4 9, .wrongSize 5 3 6, .unknown 12, .unknown 14, .unknown 15, .unknown 2, .unknown 5,
     .emptyDir2 3 1, .emptyDir2 4 2, .emptyDir2 4 3, .emptyDir1 3, .emptyDir1 4, .emptyDir1 6, .emptyDir1 7,
     .count 6 5, .size (-14) 14] ∧
    (check true exDamagedTop).1.files.map (·.id) = [10, 11, 13, 16, 0, 3] ∧
    (check true exDamagedTop).1.dirs1 = [1, 2, 8] ∧
    (check false (check true exDamagedTop).1).2 = [] := by
  decide +kernel

/-- the hypotheses of `stray_top_reported` are satisfiable: file 12 (cache directory) and file 14
(directly in `1/`) of `exDamagedTop` -/
example : (check false exDamagedTop).2.count (.unknown 12) = 1 ∧ (check true exDamagedTop).2.count (.unknown 12) = 1 ∧
    (⟨12, 0, 0, 5, .top, false⟩ : FsFile) ∈ (check false exDamagedTop).1.files ∧
    ∀ g ∈ (check true exDamagedTop).1.files, g.id ≠ 12 :=
  stray_top_reported exDamagedTop exDamagedTop_wellShaped ⟨12, 0, 0, 5, .top, false⟩ (by decide) (Or.inl rfl) rfl
    (by decide)

example : (check false exDamagedTop).2.count (.unknown 14) = 1 ∧ (check true exDamagedTop).2.count (.unknown 14) = 1 ∧
    (⟨14, 1, 0, 8, .first, false⟩ : FsFile) ∈ (check false exDamagedTop).1.files ∧
    ∀ g ∈ (check true exDamagedTop).1.files, g.id ≠ 14 :=
  stray_top_reported exDamagedTop exDamagedTop_wellShaped ⟨14, 1, 0, 8, .first, false⟩ (by decide) (Or.inr rfl) rfl
    (by decide)

/-- ... and so is the hypothesis of `fix_untouched`: item 1 of `exDamagedTop` (row, file 0 in `1/1/`) -/
example := fix_untouched exDamagedTop exDamagedTop_wellShaped ⟨1, 5, some 0⟩ (by decide) (by decide)

/-- strict equality of the two lists fails, even with the counter numbers left out: fix mode
reports the directories its own repairs emptied (here `3/1`, `3`, `4`) -/
theorem check_same_order_not_equal :
    (check false exDamaged).2.map Warn.shape ≠ (check true exDamaged).2.map Warn.shape := by
  decide +kernel

/-- `stray_top_reported` needs `f.db = false`: a stray file in the cache directory whose name
contains `cache.db` (here: `cache.db.bak`, say) is not reported and survives the repair -/
def exStrayMarked : St :=
  { rows := [], count := 0, size := 0, files := [⟨0, 0, 0, 77, .top, true⟩], dirs1 := [], dirs2 := [] }

theorem stray_top_needs_unmarked :
    let s := exStrayMarked
    WellShaped s ∧ (check false s).2 = [] ∧ (check true s).2 = [] ∧ (check true s).1 = s := by
  refine ⟨⟨by decide, by decide, by decide, by decide, by decide, by decide⟩, ?_⟩
  decide +kernel

/-- `stray_top_reported` needs "no row refers to it": a file in the cache directory that a row
names is an item's value like any other: silent when the size agrees, kept by the repair -/
def exTopValue : St :=
  { rows := [⟨1, 77, some 0⟩], count := 1, size := 77, files := [⟨0, 0, 0, 77, .top, false⟩],
    dirs1 := [], dirs2 := [] }

theorem stray_top_needs_unreferenced :
    let s := exTopValue
    WellShaped s ∧ (check false s).2 = [] ∧ check true s = (s, []) := by
  refine ⟨⟨by decide, by decide, by decide, by decide, by decide, by decide⟩, ?_⟩
  decide +kernel

/-- what the substring test costs: an orphaned VALUE file whose path contains `cache.db` (all of
them do when the cache directory itself is called, say, `/var/tmp/cache.db.d`) is never reported
and never removed, and its directories are never found empty: the directory is not consistent in
the sense of `CleanTree`, yet check is silent and check(fix=True) leaves it alone -/
def exMarkedValue : St :=
  { rows := [], count := 0, size := 0, files := [⟨0, 1, 1, 9, .leaf, true⟩], dirs1 := [1], dirs2 := [(1, 1)] }

theorem dbnamed_value_file_kept :
    let s := exMarkedValue
    WellShaped s ∧ ¬ CleanTree s ∧ (check false s).2 = [] ∧ check true s = (s, []) := by
  refine ⟨⟨by decide, by decide, by decide, by decide, by decide, by decide⟩, ?_, ?_⟩
  · intro c
    obtain ⟨r, hr, _⟩ := c.known ⟨0, 1, 1, 9, .leaf, true⟩ (by simp [exMarkedValue])
    cases hr
  · decide +kernel

end DC.Check
