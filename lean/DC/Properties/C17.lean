/-
C17 — check(fix=True) repairs any out-of-band damage; plain check() only reports.
All statements are for EVERY combination of damage: any rows/files/directories/counters
whatever (subject only to the shape a file system imposes: `WellShaped`).
-/
import DC.Proofs.CheckLemmas

namespace DC.Check

/-- what a file system guarantees: a file of the value tree lives in an existing second-level
directory, that directory in an existing first-level one; names are unique; rowids are unique.
(Nothing is asked of the files lying directly in the cache directory or directly in a first-level
directory, nor of the `cache.db` mark: no theorem needs it.) -/
structure WellShaped (s : St) : Prop where
  fileDir : ∀ f ∈ s.files, f.level = .leaf → (f.d1, f.d2) ∈ s.dirs2
  dirDir : ∀ d ∈ s.dirs2, d.1 ∈ s.dirs1
  fileIds : (s.files.map (·.id)).Nodup
  rowIds : (s.rows.map (·.rowid)).Nodup
  dirs1 : s.dirs1.Nodup
  dirs2 : s.dirs2.Nodup

/-- the directory is consistent: what C08 demands.  `known` covers the files at every level
(value tree, first-level directory, cache directory) except those whose path contains the text
`cache.db`, which `check` passes over (see `C17_Top.dbnamed_never_reported`); a first-level
directory may also be kept non-empty by a file lying directly in it.  On a directory whose files
are all in the value tree and unmarked this is `CleanTree`, the form that speaks of the value
tree only (`C17_Top.clean_tree_iff`). -/
structure Clean (s : St) : Prop where
  ref : ∀ r ∈ s.rows, ∀ f, r.file = some f → ∃ ff ∈ s.files, ff.id = f ∧ ff.size = r.size
  known : ∀ ff ∈ s.files, ff.db = false → ∃ r ∈ s.rows, r.file = some ff.id
  noEmpty2 : ∀ d ∈ s.dirs2, ∃ ff ∈ s.files, ff.level = .leaf ∧ ff.d1 = d.1 ∧ ff.d2 = d.2
  noEmpty1 : ∀ d ∈ s.dirs1, (∃ d2 ∈ s.dirs2, d2.1 = d) ∨ ∃ ff ∈ s.files, ff.level = .first ∧ ff.d1 = d
  count : s.count = s.rows.length
  size : s.size = sumSizes s.rows

/-- plain `check()` changes nothing, whatever the damage -/
theorem check_nofix_pure (s : St) : (check false s).1 = s := by
  rw [check_false]

/-- `check()` is silent exactly on consistent directories: it reports every inconsistency
and nothing else -/
theorem check_silent_iff (s : St) (h : WellShaped s) : (check false s).2 = [] ↔ Clean s := by
  rw [check_false_snd']
  simp only [List.append_eq_nil_iff, rowWarns_nil_iff, filePass_nil_iff, dirPass_false_nil_iff,
    counterWarns_nil_iff]
  constructor
  · rintro ⟨⟨⟨hrow, hfile⟩, hd2, hd1⟩, hc, hz⟩
    refine ⟨?_, hfile, hd2, ?_, hc, hz⟩
    · intro r hr f hf
      obtain ⟨ff, hff, hsz⟩ := hrow r hr f hf
      obtain ⟨hm, hid⟩ := find_id_some hff
      exact ⟨ff, hm, hid, hsz⟩
    · intro d hd
      rcases hd1 d hd with h' | ⟨ff, hff, hl, e⟩
      · exact Or.inl h'
      · cases hlv : ff.level with
        | top => exact absurd hlv hl
        | first => exact Or.inr ⟨ff, hff, hlv, e⟩
        | leaf => exact Or.inl ⟨(ff.d1, ff.d2), h.fileDir ff hff hlv, e⟩
  · intro c
    refine ⟨⟨⟨?_, c.known⟩, c.noEmpty2, fun d hd => ?_⟩, c.count, c.size⟩
    rotate_left
    · rcases c.noEmpty1 d hd with h' | ⟨ff, hff, hl, e⟩
      · exact Or.inl h'
      · exact Or.inr ⟨ff, hff, by simp [hl], e⟩
    intro r hr f hf
    obtain ⟨ff, hm, hid, hsz⟩ := c.ref r hr f hf
    have := find_id_of_mem h.fileIds hm
    rw [hid] at this
    exact ⟨ff, this, hsz⟩

/-- the directory `check(fix=True)` leaves is consistent, whatever the damage -/
theorem fix_clean (s : St) (h : WellShaped s) : Clean (check true s).1 := by
  have nd := h.rowIds
  constructor
  case ref =>
    rw [check_true_rows s nd, check_true_files s nd]
    intro r' hr' f hf
    obtain ⟨r, hr, e⟩ := mem_rows'.1 hr'
    obtain ⟨_, hfile, hsz⟩ := fixRow_some e
    rw [hfile] at hf
    obtain ⟨ff, hff, hs⟩ := hsz f hf
    obtain ⟨hm, hid⟩ := find_id_some hff
    exact ⟨ff, mem_files'.2 ⟨hm, Or.inl ⟨r, hr, by rw [hid]; exact hf⟩⟩, hid, hs.symm⟩
  case known =>
    rw [check_true_rows s nd, check_true_files s nd]
    intro ff hff hdb
    obtain ⟨hm, ⟨r, hr, hf⟩ | hdb'⟩ := mem_files'.1 hff
    · obtain ⟨ff', hff'⟩ := find_id_isSome_of_mem hm
      exact ⟨{ r with size := ff'.size }, mem_rows'.2 ⟨r, hr, fixRow_found hf hff'⟩, hf⟩
    · rw [hdb] at hdb'; cases hdb'
  case noEmpty2 =>
    rw [check_true_dirs2 s nd, check_true_files s nd]
    intro d hd
    exact (mem_dirs2'.1 hd).2
  case noEmpty1 =>
    rw [check_true_dirs1 s nd, check_true_dirs2 s nd, check_true_files s nd]
    intro d hd
    obtain ⟨_, ⟨d2, hd2, e⟩ | ⟨ff, hff, hl, e⟩⟩ := mem_dirs1'.1 hd
    · exact Or.inl ⟨d2, hd2, e⟩
    · cases hlv : ff.level with
      | top => exact absurd hlv hl
      | first => exact Or.inr ⟨ff, hff, hlv, e⟩
      | leaf =>
        exact Or.inl ⟨(ff.d1, ff.d2),
          mem_dirs2'.2 ⟨h.fileDir ff (mem_files'.1 hff).1 hlv, ff, hff, hlv, rfl, rfl⟩, e⟩
  case count => rw [check_true_rows s nd, check_true_count s nd]
  case size => rw [check_true_rows s nd, check_true_size s nd]

/-- the repair keeps the file-system shape (so it can be repeated) -/
theorem fix_wellShaped (s : St) (h : WellShaped s) : WellShaped (check true s).1 := by
  have nd := h.rowIds
  constructor
  · rw [check_true_dirs2 s nd, check_true_files s nd]
    intro ff hff hlv
    exact mem_dirs2'.2 ⟨h.fileDir ff (mem_files'.1 hff).1 hlv, ff, hff, hlv, rfl, rfl⟩
  · rw [check_true_dirs1 s nd, check_true_dirs2 s nd]
    intro d hd
    exact mem_dirs1'.2 ⟨h.dirDir d (mem_dirs2'.1 hd).1, Or.inl ⟨d, hd, rfl⟩⟩
  · rw [check_true_files s nd]
    exact h.fileIds.sublist ((List.filter_sublist).map _)
  · rw [check_true_rows s nd]
    exact h.rowIds.sublist (map_rowid_filterMap_sublist _ _)
  · rw [check_true_dirs1 s nd]
    exact h.dirs1.sublist List.filter_sublist
  · rw [check_true_dirs2 s nd]
    exact h.dirs2.sublist List.filter_sublist

/-- ... so after `check(fix=True)` a second check reports nothing, whatever the damage
(finding D7: the pinned tree left directories emptied by its own repairs) -/
theorem fix_converges (s : St) (h : WellShaped s) : (check false (check true s).1).2 = [] :=
  (check_silent_iff _ (fix_wellShaped s h)).2 (fix_clean s h)

/-- undamaged items are untouched: a row with no file, or whose file exists with the recorded
size, is still there, unchanged, and so is its file -/
theorem fix_preserves_undamaged (s : St) (h : WellShaped s) (r : CRow) (hr : r ∈ s.rows)
    (hu : ∀ f, r.file = some f → ∃ ff ∈ s.files, ff.id = f ∧ ff.size = r.size) :
    r ∈ (check true s).1.rows ∧
    (∀ f, r.file = some f → ∀ ff ∈ s.files, ff.id = f → ff ∈ (check true s).1.files) := by
  rw [check_true_rows s h.rowIds, check_true_files s h.rowIds]
  constructor
  · exact mem_rows'.2 ⟨r, hr, fixRow_of_consistent h.fileIds hu⟩
  · intro f hf ff hm hid
    exact mem_files'.2 ⟨hm, Or.inl ⟨r, hr, by rw [hid]; exact hf⟩⟩

/-- `check()` and `check(fix=True)` report the same row/file inconsistencies; fix mode may
additionally report directories emptied by its own repairs, and counter warnings agree in kind -/
theorem check_same_warnings (s : St) (h : WellShaped s) :
    (∀ w ∈ (check false s).2, (∀ a b, w ≠ .count a b ∧ w ≠ .size a b) → w ∈ (check true s).2) ∧
    (∀ w ∈ (check true s).2, (∀ a b, w ≠ .count a b ∧ w ≠ .size a b) →
        (∀ a b, w ≠ .emptyDir2 a b) → (∀ a, w ≠ .emptyDir1 a) → w ∈ (check false s).2) ∧
    ((∃ a b, Warn.count a b ∈ (check false s).2) ↔ (∃ a b, Warn.count a b ∈ (check true s).2)) ∧
    ((∃ a b, Warn.size a b ∈ (check false s).2) ↔ (∃ a b, Warn.size a b ∈ (check true s).2)) := by
  obtain ⟨c, z, hc, hz, e⟩ := check_true_snd_exact s h.rowIds
  rw [e, check_false_snd']
  have kR := rowWarns_kind s.files s.rows
  have kU := filePass_kind false (s.rows.filterMap (·.file)) s
  have kD := dirPass_kind false s
  have kD' := dirPass_kind true { s with files := files' s }
  have mono := (dirPass_sublist s (files' s) (fun f hf => (mem_files'.1 hf).1)).subset
  refine ⟨?_, ?_, ?_, ?_⟩
  · intro w hw hk
    have hk := kind_lt3 hk
    rw [mem_blocks kR kU kD counterWarns_kind] at hw
    rw [mem_blocks kR kU kD' counterWarns_kind]
    rcases hw with hw | hw | hw | hw
    · exact Or.inl hw
    · exact Or.inr (Or.inl hw)
    · exact Or.inr (Or.inr (Or.inl ⟨hw.1, mono hw.2⟩))
    · omega
  · intro w hw hk hk2 hk1
    have hk := kind_lt3 hk
    have hk' := kind_ne2 hk2 hk1
    rw [mem_blocks kR kU kD' counterWarns_kind] at hw
    rw [mem_blocks kR kU kD counterWarns_kind]
    rcases hw with hw | hw | hw | hw
    · exact Or.inl hw
    · exact Or.inr (Or.inl hw)
    · exact absurd hw.1 hk'
    · omega
  · rw [exists_count_mem_blocks kR kU kD, exists_count_mem_blocks kR kU kD']
    omega
  · rw [exists_size_mem_blocks kR kU kD, exists_size_mem_blocks kR kU kD']
    omega

/-- non-vacuity: a directory with every kind of damage at once; the repair converges -/
def exDamaged : St :=
  { rows := [⟨1, 5, some 0⟩, ⟨2, 7, some 1⟩, ⟨3, 0, none⟩, ⟨4, 9, some 3⟩], count := 7, size := 1,
    files := [⟨0, 1, 1, 5, .leaf, false⟩, ⟨2, 1, 1, 9, .leaf, false⟩, ⟨3, 2, 1, 4, .leaf, false⟩,
      ⟨5, 3, 1, 0, .leaf, false⟩],
    dirs1 := [1, 2, 3, 4, 6], dirs2 := [(1, 1), (2, 1), (3, 1), (4, 2), (4, 3)] }

example : (check false exDamaged).2 =
    [.notFound 2, .wrongSize 4 4 9, .unknown 2, .unknown 5, .emptyDir2 4 2, .emptyDir2 4 3, .emptyDir1 6,
     .count 7 4, .size 1 21] ∧
    (check false (check true exDamaged).1).2 = [] := by
  decide +kernel

end DC.Check
