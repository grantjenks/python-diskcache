/-
C11 — Deque is a persistent collections.deque (sequential part).

A Deque is a Cache with eviction policy 'none' whose rows are exactly the items
of the integer-keyed queue (prefix None), never expire, and have room on both
sides.  Its abstraction is `items d` = the queue rows in key order.  append /
appendleft add at an end and trim the other end to maxlen inside one
transaction; pop / popleft / peek take or look at an end; positional access
walks the keys in order.  Concurrency: every method is one transaction (C05/C06),
exactly-once delivery is C10.
-/
import DC.Proofs.DequeLemmas

namespace DC.Deque
open DC.Cache

structure Ok (d : Deque) : Prop where
  inv : Cache.TableInv d.cache
  pol : d.cache.cfg.policy = .none
  noexp : ∀ r ∈ d.cache.rows, r.expT = none
  allq : ∀ r ∈ d.cache.rows, r ∈ d.cache.queueRows none
  qok : Cache.QueueOk d.cache none
  room : Cache.Room d.cache none
  origin : Cache.OriginOk d.cache
  depth : d.cache.depth = 0
  stats : d.cache.statistics = false

/-- the items front to back -/
def items (d : Deque) : List Row := d.cache.queueRows none

theorem items_eq (d : Deque) : items d = qrows d.cache.rows none := rfl

/-! a table all of whose rows are items: stated through `items_eq`, so that no proof has to
unfold `queueRows` to see a `qrows` -/

theorem items_length {d : Deque} (hq : ∀ r ∈ d.cache.rows, r ∈ qrows d.cache.rows none) :
    (items d).length = d.cache.rows.length :=
  (congrArg List.length (items_eq d)).trans (qrows_length_all hq)

theorem sortedRows_eq_items {d : Deque} (hinv : Cache.TableInv d.cache)
    (hq : ∀ r ∈ d.cache.rows, r ∈ qrows d.cache.rows none) : sortedRows d.cache = items d :=
  (isort_keyRaw_eq_qrows hinv.tbl.uniq hinv.tbl.nonnull hq).trans (items_eq d).symm

theorem count_eq_length {d : Deque} (hinv : Cache.TableInv d.cache)
    (hq : ∀ r ∈ d.cache.rows, r ∈ qrows d.cache.rows none) : d.cache.count = ((items d).length : Int) := by
  rw [hinv.tbl.count, items_length hq]

theorem item_key {d : Deque} (hqok : Cache.QueueOk d.cache none)
    (hq : ∀ r ∈ d.cache.rows, r ∈ qrows d.cache.rows none) {r : Row} (hr : r ∈ d.cache.rows) :
    ∃ k, r.key = .int k ∧ r.raw = true ∧ inI64 k = true := by
  obtain ⟨k, -, hk, h1, h2⟩ := hqok r (hq r hr)
  refine ⟨k, hk.symm, qfilter_raw (mem_qrows.1 (hq r hr)).2, ?_⟩
  unfold inI64
  simp only [Bool.and_eq_true, decide_eq_true_eq]
  omega

theorem Ok.allq' {d : Deque} (h : Ok d) : ∀ r ∈ d.cache.rows, r ∈ qrows d.cache.rows none := h.allq

theorem Ok.items_length {d : Deque} (h : Ok d) : (items d).length = d.cache.rows.length :=
  Deque.items_length h.allq'

theorem Ok.mem_rows {d : Deque} {r : Row} (hr : r ∈ items d) : r ∈ d.cache.rows :=
  (mem_qrows (rows := d.cache.rows) (p := none)).1 hr |>.1

theorem Ok.unexpired {d : Deque} (h : Ok d) {r : Row} (hr : r ∈ items d) (now : Int) :
    Cache.expired now r = false := by
  unfold Cache.expired; rw [h.noexp r (Ok.mem_rows hr)]

/-- `len(deque)` -/
theorem len_exact (d : Deque) (h : Ok d) : (d.len).2 = .int (items d).length := by
  show Out.int d.cache.count = _
  rw [h.inv.tbl.count, h.items_length]

/-- nothing is ever lost to eviction or expiry -/
theorem never_loses (d : Deque) (now : Int) (h : Ok d) : (d.cache.cullW now).1.rows = d.cache.rows :=
  cullW_quiet d.cache now (Or.inr ⟨h.pol, fun r hr => by unfold Cache.expired; rw [h.noexp r hr]⟩)

/-- `append` / `appendleft` with room left (no maxlen, or fewer than maxlen items): the new item
goes to the chosen end, everything else stays -/
theorem append_room (d : Deque) (E : Externals) (now : Int) (v : PyVal) (left : Bool) (h : Ok d)
    (hroom : ∀ m, d.maxlen = some m → (items d).length < m)
    (s1 : Cache) (c : Cache.Cols) (hst : d.cache.tbegin.store E v false = .ok (s1, c)) (hcb : c.bindable = true) :
    ∃ r : Row, items (d.append E now v left).1 = (if left then r :: items d else items d ++ [r]) ∧
      r.mode = c.mode ∧ r.val = c.val ∧ r.file = c.file := by
  obtain ⟨r, k, hk, hcount, h2, h3, h4, h5, -⟩ :=
    pushed_spec d E now v left h.inv h.pol h.noexp h.qok h.room h.origin hst hcb
  rw [← h.items_length] at hcount
  have htl : d.tooLong (pushed d E now v left) = false := by
    unfold tooLong
    cases hm : d.maxlen with
    | none => rfl
    | some m =>
      have := hroom m hm
      simp only [hcount, gt_iff_lt, decide_eq_false_iff_not]
      omega
  refine ⟨r, ?_, h3, h4, h5⟩
  show (d.append E now v left).1.cache.queueRows none = _
  rw [append_cache d E now v left k hk, htl]
  simp only [Bool.false_eq_true, if_false]
  rw [tend_queueRows, h2]
  rfl

/-- `append` with room left: the new item goes to the back -/
theorem append_grows (d : Deque) (E : Externals) (now : Int) (v : PyVal) (h : Ok d)
    (hroom : ∀ m, d.maxlen = some m → (items d).length < m)
    (s1 : Cache) (c : Cache.Cols) (hst : d.cache.tbegin.store E v false = .ok (s1, c)) (hcb : c.bindable = true) :
    ∃ r : Row, items (d.append E now v false).1 = items d ++ [r] ∧
      r.mode = c.mode ∧ r.val = c.val ∧ r.file = c.file :=
  append_room d E now v false h hroom s1 c hst hcb

/-- `appendleft` with room left: the new item goes to the front -/
theorem appendleft_grows (d : Deque) (E : Externals) (now : Int) (v : PyVal) (h : Ok d)
    (hroom : ∀ m, d.maxlen = some m → (items d).length < m)
    (s1 : Cache) (c : Cache.Cols) (hst : d.cache.tbegin.store E v false = .ok (s1, c)) (hcb : c.bindable = true) :
    ∃ r : Row, items (d.append E now v true).1 = r :: items d ∧
      r.mode = c.mode ∧ r.val = c.val ∧ r.file = c.file :=
  append_room d E now v true h hroom s1 c hst hcb

/-- `append` on a full deque (maxlen items, maxlen ≥ 1) discards the FRONT item and adds at the
back — the length stays maxlen, exactly like collections.deque -/
theorem append_full (d : Deque) (E : Externals) (now : Int) (v : PyVal) (h : Ok d) (m : Nat)
    (hm : d.maxlen = some m) (hfull : (items d).length = m) (hpos : 0 < m)
    (s1 : Cache) (c : Cache.Cols) (hst : d.cache.tbegin.store E v false = .ok (s1, c)) (hcb : c.bindable = true)
    (hfile : ∀ r ∈ items d, (d.cache.fetchRow E r false).2 ≠ .ioerror) :
    ∃ r : Row, items (d.append E now v false).1 = (items d).tail ++ [r] ∧
      r.mode = c.mode ∧ r.val = c.val ∧ r.file = c.file := by
  obtain ⟨r, k, hk, hcount, h2, h3, h4, h5, hinv1, hcfg, hfiles⟩ :=
    pushed_spec d E now v false h.inv h.pol h.noexp h.qok h.room h.origin hst hcb
  rw [← h.items_length] at hcount
  have htl : d.tooLong (pushed d E now v false) = true := by
    unfold tooLong
    rw [hm]
    simp only [hcount, hfull, gt_iff_lt, decide_eq_true_eq]
    omega
  cases hit : items d with
  | nil => rw [hit] at hfull; simp at hfull; omega
  | cons x rest =>
    have hx : x ∈ items d := by rw [hit]; exact List.mem_cons_self
    have hq : (pushed d E now v false).queueRows none = x :: (rest ++ [r]) := by
      rw [h2]
      show items d ++ [r] = _
      rw [hit]; rfl
    have hfx := fetchRow_snd_mono d.cache (pushed d E now v false) E x false hcfg hfiles (hfile x hx)
    obtain ⟨-, hp⟩ := pull_front (pushed d E now v false) E now none hinv1 x (rest ++ [r]) hq
      (h.unexpired hx now) (by rw [hfx]; exact hfile x hx)
    refine ⟨r, ?_, h3, h4, h5⟩
    show (d.append E now v false).1.cache.queueRows none = _
    rw [append_cache d E now v false k hk, htl]
    simp only [if_true, Bool.not_false]
    rw [tend_queueRows, hp]
    rfl

/-- `pop()` removes and returns the back item, `popleft()` the front item; an empty deque
raises IndexError and stays empty -/
theorem pop_end (d : Deque) (E : Externals) (now : Int) (left : Bool) (h : Ok d) :
    (items d = [] → (d.pop E now left).2 = .exc "IndexError" ∧ items (d.pop E now left).1 = []) ∧
    (∀ r, (if left then (items d).head? else (items d).getLast?) = some r →
      (d.cache.fetchRow E r false).2 ≠ .ioerror →
      (d.pop E now left).2 = Cache.fetchedOut (d.cache.fetchRow E r false).2 ∧
      items (d.pop E now left).1 = (if left then (items d).tail else (items d).dropLast)) := by
  have hpop : (d.pop E now left).2 = indexErr (d.cache.pull E now none left false false).2 ∧
      items (d.pop E now left).1 = (d.cache.pull E now none left false false).1.queueRows none :=
    ⟨rfl, rfl⟩
  constructor
  · intro he
    obtain ⟨h1, h2⟩ := pull_empty d.cache E now none left false false he
    refine ⟨by rw [hpop.1, h1]; rfl, ?_⟩
    rw [hpop.2, queueRows_eq, h2]
    exact he
  · intro r hr hf
    have hmem : r ∈ items d := end_mem hr
    obtain ⟨p1, p2⟩ := pull_end d.cache E now none left h.inv r hr (h.unexpired hmem now) hf
    exact ⟨by rw [hpop.1, p1]; rfl, by rw [hpop.2, p2]; rfl⟩

/-- `peek()` / `peekleft()` return the end item without removing it -/
theorem peek_end (d : Deque) (E : Externals) (now : Int) (left : Bool) (h : Ok d) :
    (items d = [] → (d.peek E now left).2 = .exc "IndexError") ∧
    (∀ r, (if left then (items d).head? else (items d).getLast?) = some r →
      (d.cache.fetchRow E r false).2 ≠ .ioerror →
      (d.peek E now left).2 = Cache.fetchedOut (d.cache.fetchRow E r false).2 ∧
      (d.peek E now left).1.cache.rows = d.cache.rows) := by
  have hpk : (d.peek E now left).2 = indexErr (d.cache.peek E now none left false false).2 ∧
      (d.peek E now left).1.cache = (d.cache.peek E now none left false false).1 := ⟨rfl, rfl⟩
  constructor
  · intro he
    rw [hpk.1, (peek_empty d.cache E now none left false false he).1]
    rfl
  · intro r hr hf
    have hmem : r ∈ items d := end_mem hr
    have hlive := h.unexpired hmem now
    obtain ⟨q1, q2⟩ := peek_is_next_pull d.cache E now none left h.inv r hr hlive hf
    obtain ⟨p1, -⟩ := pull_end d.cache E now none left h.inv r hr hlive hf
    exact ⟨by rw [hpk.1, q1, p1]; rfl, by rw [hpk.2, q2]⟩

/-- positional access: index i (negative from the back) addresses `items[i]`, out of range is
IndexError — over the whole integer range -/
theorem rowAt_spec (d : Deque) (i : Int) (h : Ok d) :
    let n : Int := (items d).length
    (0 ≤ i ∧ i < n → d.rowAt i = (items d)[i.toNat]?) ∧
    (-n ≤ i ∧ i < 0 → d.rowAt i = (items d)[(n + i).toNat]?) ∧
    (i ≥ n ∨ i < -n → d.rowAt i = none) := by
  intro n
  have hix := rowAt_index_of d (items d) (sortedRows_eq_items h.inv h.allq') (count_eq_length h.inv h.allq') i
  unfold DSpec.index at hix
  refine ⟨fun ⟨h0, _⟩ => by rw [hix, if_pos h0],
    fun ⟨h0, h1⟩ => by rw [hix, if_neg (by omega), if_pos h0], ?_⟩
  rintro (h1 | h1)
  · rw [hix, if_pos (by omega), List.getElem?_eq_none_iff]
    omega
  · rw [hix, if_neg (by omega), if_neg (by omega)]

set_option linter.unusedVariables false in  -- `hE` is not needed
/-- `deque[i]` returns the value of `items[i]`.

The statement without `hdisk`,
  `theorem getitem_spec (d) (E) (now) (i) (h : Ok d) (hE : ∀ k, E.loads (E.dumpsK k) = k) : …`,
is false: `getitem` looks the row up again through `Disk.get` / `Disk.put` of the configured disk,
and `JSONDisk.get` of a raw integer queue key is not that key (the model gives `None`, CPython
raises TypeError in `json.loads(zlib.decompress(500000000000000))`), so the second look-up misses
and `deque[i]` raises IndexError although `items[i]` exists and its value can be fetched —
`exDqJson_getitem` below (finding D17). -/
theorem getitem_spec (d : Deque) (E : Externals) (now : Int) (i : Int) (h : Ok d) (hE : ∀ k, E.loads (E.dumpsK k) = k)
    -- the keys are read back by the pickle `Disk` (false for `JSONDisk`, see `exDqJson_getitem`)
    (hdisk : d.cache.cfg.disk = .pickle) :
    (d.rowAt i = none → (d.getitem E now i).2 = .exc "IndexError") ∧
    (∀ r, d.rowAt i = some r → (d.cache.fetchRow E r false).2 ≠ .ioerror →
      (d.getitem E now i).2 = Cache.fetchedOut (d.cache.fetchRow E r false).2) := by
  refine ⟨getitem_none d E now i, ?_⟩
  intro r hr hf
  have hmem := rowAt_mem d i r hr
  obtain ⟨n, hk, hraw, hi⟩ := item_key h.qok h.allq' hmem
  exact getitem_some d E now i r hr _
    (get_int_row d.cache E now r n h.inv hmem hk hraw hi (h.noexp r hmem) h.stats h.pol hdisk hf)

/-- `clear()` empties the deque -/
theorem clear_empties (d : Deque) (h : Ok d) (hp : 0 < d.cache.cfg.page) : items (d.clear).1 = [] := by
  show (d.cache.clear).1.queueRows none = []
  rw [queueRows_eq, (clear_all d.cache h.inv.tbl.asc h.inv.tbl.pos hp).1]
  rfl

/-- non-vacuity: maxlen 2, three appends: the first item is gone, order kept -/
def exE11 : Externals :=
  { dumpsK := fun _ => [], dumpsV := fun _ => [], loads := fun _ => .none, jsonz := fun _ => [], unjsonz := fun _ => .none }

def exDq : Deque := { cache := { cfg := { policy := .none, cullLimit := 10 } }, maxlen := some 2 }

example :
    let d := ((exDq.append exE11 0 (.int 1) false).1.append exE11 0 (.int 2) false).1
    let d3 := (d.append exE11 0 (.int 3) false).1
    (items d).map (·.val) = [.int 1, .int 2] ∧ (items d3).map (·.val) = [.int 2, .int 3] ∧
    (match (d3.pop exE11 0 true).2 with | .val (.int 2) => true | _ => false) = true := by
  decide +kernel

/-! why `getitem_spec` needs `hdisk`: a one-item deque on a JSONDisk cache (the table one `append`
produces), a codec satisfying `hE`; `Ok` holds, `rowAt 0` is the item, its value can be fetched,
yet `deque[0]` raises IndexError -/
def exL : Externals :=
  { dumpsK := fun v => match v with
      | .none => [0] | .int i => [1, i.toNat, (-i).toNat] | .float f => [2, f]
      | .str s => 3 :: s | .bytes b => 4 :: b | .obj o => 5 :: o,
    dumpsV := fun _ => [],
    loads := fun b => match b with
      | [0] => .none | [1, p, n] => .int ((p : Int) - n) | [2, f] => .float f
      | 3 :: s => .str s | 4 :: b => .bytes b | 5 :: o => .obj o | _ => .none,
    jsonz := fun _ => [], unjsonz := fun _ => .none }

theorem exL_lawful : ∀ k, exL.loads (exL.dumpsK k) = k := by
  intro k
  cases k with
  | int i => exact congrArg PyVal.int (by omega : ((i.toNat : Int) - ((-i).toNat : Int)) = i)
  | _ => rfl

def exJsonRow : Row :=
  { rowid := 1, key := .int 500000000000000, raw := true, storeT := 0, expT := none, accT := 0, accN := 0,
    tag := .null, size := 0, mode := 1, file := none, val := .blob [] }

def exDqJson : Deque := { cache := { rows := [exJsonRow], count := 1, cfg := { policy := .none, disk := .json } } }

example : (({ cache := { cfg := { policy := .none, disk := .json } } } : Deque).append exL 0 (.int 1) false).1.cache.rows
    = exDqJson.cache.rows := by decide +kernel

theorem exDqJson_items : exDqJson.cache.queueRows none = [exJsonRow] := by decide +kernel

theorem exDqJson_ok : Ok exDqJson where
  inv := ⟨⟨by simp [RowidsAsc, exDqJson], by decide +kernel, by simp [KeysUnique, exDqJson],
    by decide +kernel, rfl, rfl⟩, by intro p hp; cases hp⟩
  pol := rfl
  noexp := by decide +kernel
  allq := by
    intro r hr
    rw [exDqJson_items]
    exact hr
  qok := by
    intro r hr
    rw [exDqJson_items] at hr
    simp only [List.mem_singleton] at hr
    subst hr
    exact ⟨500000000000000, rfl, rfl, by omega, by omega⟩
  room := by
    intro r hr n hn
    rw [exDqJson_items] at hr
    simp only [List.mem_singleton] at hr
    subst hr
    cases hn
    omega
  origin := by unfold OriginOk; decide +kernel
  depth := rfl
  stats := rfl

theorem exDqJson_getitem : Ok exDqJson ∧ (∀ k, exL.loads (exL.dumpsK k) = k) ∧
    exDqJson.rowAt 0 = some exJsonRow ∧ (exDqJson.cache.fetchRow exL exJsonRow false).2 = .val .none ∧
    (match (exDqJson.getitem exL 0 0).2 with | .exc "IndexError" => true | _ => false) = true :=
  ⟨exDqJson_ok, exL_lawful, by decide +kernel, by decide +kernel, by decide +kernel⟩

end DC.Deque
