/-
C13 (continued) — "aggregate operations cover every shard exactly once".
`Fanout.each op` runs one Cache call on every shard in shard order; the
aggregates (len, volume, clear, expire, evict, cull, statistics, iteration,
transaction blocks) are sums / concatenations over its results.
-/
import DC.Properties.C13
import DC.Properties.C04
import DC.Properties.C03_Paging

namespace DC.Cache

theorem agg_tbegin_depth (s : Cache) : s.tbegin.depth = s.depth + 1 := by
  unfold tbegin
  split
  · next h =>
    have : s.depth = 0 := by simpa using h
    rw [this]
  · rfl

theorem agg_tend_depth (s : Cache) (h : s.depth = 1) : s.tend.depth = 0 := by
  unfold tend
  rw [if_pos (by rw [h]; rfl)]
  exact (fremoveAll_keep _ _).2.2.2.2

end DC.Cache

namespace DC.Fanout

/-- the shard the i-th call of an aggregate runs on: shard i with the observations left by the
earlier calls -/
def prep (s : Cache) (env : List Nat) : Cache := { s with env := env, envMiss := false, trace := [] }

/-- every shard exactly once, in order: the i-th result is the Cache call on the i-th shard, the
i-th shard afterwards is that call's state, and there are exactly as many results as shards -/
theorem each_pointwise (f : Fanout) (op : Cache → Cache × Out) :
    (f.each op).2.length = f.shards.length ∧ (f.each op).1.shards.length = f.shards.length ∧
    ∀ i (hi : i < f.shards.length), ∃ env : List Nat,
      (f.each op).2[i]? = some (op (prep f.shards[i] env)).2 ∧
      (f.each op).1.shards[i]? = some (op (prep f.shards[i] env)).1 := by
  exact each_shape f op

theorem remove_is_sum (f : Fanout) (op : Cache → Cache × Out) :
    (f.remove op).2 = sumInts (f.each op).2 ∧ (f.remove op).1 = (f.each op).1 := by
  exact ⟨rfl, rfl⟩

/-- a removal that on every shard deletes exactly the rows satisfying `p` and returns their number:
afterwards no shard holds such a row, no other row is gone, and the result is their total number -/
theorem remove_filter (f : Fanout) (op : Cache → Cache × Out) (p : Row → Bool)
    (h : ∀ s ∈ f.shards, ∀ env, (op (prep s env)).1.rows = s.rows.filter (fun r => !p r) ∧
      (op (prep s env)).2 = .int ((s.rows.filter p).length : Int)) :
    (f.remove op).1.shards.map (·.rows) = f.shards.map (fun s => s.rows.filter (fun r => !p r)) ∧
    (f.remove op).2 = .int ((f.shards.map (fun s => ((s.rows.filter p).length : Int))).sum) := by
  refine ⟨each_map_state f op (·.rows) _ (fun s hs env => (h s hs env).1), ?_⟩
  show sumInts (f.each op).2 = _
  rw [each_map_out f op _ (fun s hs env => (h s hs env).2), ← sumInts_ints, List.map_map]
  rfl

/-- `expire()` over the shards: afterwards no shard holds an expired row, no other row is gone,
and the result is the total number of expired rows — every shard exactly once -/
theorem expire_all_shards (f : Fanout) (now : Int)
    (h : ∀ s ∈ f.shards, Cache.RowidsAsc s.rows ∧ 0 < s.cfg.page) :
    (f.expire now).1.shards.map (·.rows) = f.shards.map (fun s => s.rows.filter (fun r => !(Cache.expired now r))) ∧
    (f.expire now).2 = .int ((f.shards.map (fun s => ((s.rows.filter (Cache.expired now)).length : Int))).sum) :=
  remove_filter f (fun s => s.expire now) (Cache.expired now)
    (fun s hs env => Cache.expire_exact (prep s env) now (h s hs).1 (h s hs).2)

theorem evict_all_shards (f : Fanout) (tag : SqlVal)
    (h : ∀ s ∈ f.shards, Cache.RowidsAsc s.rows ∧ (∀ r ∈ s.rows, 0 < r.rowid) ∧ 0 < s.cfg.page) :
    (f.evict tag).1.shards.map (·.rows) = f.shards.map (fun s => s.rows.filter (fun r => !(r.tag.eqv tag))) ∧
    (f.evict tag).2 = .int ((f.shards.map (fun s => ((s.rows.filter (fun r => r.tag.eqv tag)).length : Int))).sum) :=
  remove_filter f (fun s => s.evict tag) (fun r => r.tag.eqv tag)
    (fun s hs env => Cache.evict_exact (prep s env) tag (h s hs).1 (h s hs).2.1 (h s hs).2.2)

/-- iteration is the concatenation of the shards' iterations in shard order; reversed iteration
takes the shards in reverse order -/
theorem iter_concat (f : Fanout) (E : Externals) :
    (f.iter E true).2 = .list ((f.each (fun s => s.iter E true)).2.flatMap outList) ∧
    (f.iter E false).2 = .list ((f.each (fun s => s.iter E false)).2.reverse.flatMap outList) := by
  exact ⟨rfl, rfl⟩

/-- a transaction block on the fanout opens one block on every shard -/
theorem tbegin_all (f : Fanout) :
    (f.tbegin).1.shards.map (·.depth) = f.shards.map (fun s => s.depth + 1) := by
  exact each_map_state f (fun s => (s.tbegin, .none)) (·.depth) (fun s => s.depth + 1)
    (fun s _ env => Cache.agg_tbegin_depth (prep s env))

/-- committing the outermost block of the fanout closes the block of every shard -/
theorem tend_all (f : Fanout) (h : ∀ s ∈ f.shards, s.depth = 1) :
    ∀ s ∈ (f.tend).1.shards, s.depth = 0 := by
  exact each_forall f (fun s => (s.tend, .none)) (fun s => s.depth = 0)
    (fun s hs env => Cache.agg_tend_depth (prep s env) (h s hs))

theorem stats_sum (f : Fanout) (enable reset : Bool) :
    ∃ hs ms : List Int, hs.length = f.shards.length ∧ ms.length = f.shards.length ∧
      (f.stats enable reset).2 = .tup [.int hs.sum, .int ms.sum] ∧
      ∀ i (hi : i < f.shards.length), ∃ env,
        (Cache.stats (prep f.shards[i] env) enable reset).2 = .tup [.int (hs[i]?.getD 0), .int (ms[i]?.getD 0)] := by
  have hout := each_map_out f (fun s => s.stats enable reset)
    (fun s => .tup [.int s.hits, .int s.misses]) (fun _ _ _ => rfl)
  refine ⟨f.shards.map (·.hits), f.shards.map (·.misses), List.length_map _, List.length_map _, ?_, ?_⟩
  · show Out.tup [.int (List.foldl _ 0 (f.each (fun s => s.stats enable reset)).2),
      .int (List.foldl _ 0 (f.each (fun s => s.stats enable reset)).2)] = _
    rw [hout]
    rw [foldl_add_sum _ _ (·.hits) (fun _ _ => rfl), foldl_add_sum _ _ (·.misses) (fun _ _ => rfl),
      Int.zero_add, Int.zero_add]
  · intro i hi
    refine ⟨[], ?_⟩
    rw [List.getElem?_map, List.getElem?_map, List.getElem?_eq_getElem hi]
    rfl

/-- non-vacuity: three shards, expire removes exactly the expired row of the middle shard -/
def exRowA : Row := { rowid := 1, key := .int 1, raw := true, storeT := 0, expT := some 5, accT := 0, accN := 0,
                      tag := .null, size := 0, mode := 1, file := none, val := .int 0 }
def exRowB : Row := { exRowA with rowid := 1, key := .int 2, expT := none }
def exFan : Fanout := { shards := [{ rows := [exRowB], count := 1 }, { rows := [exRowA], count := 1 }, {}] }

example : (match (exFan.expire 10).2 with | .int n => n | _ => -1) = 1 ∧
    (exFan.expire 10).1.shards.map (·.rows) = [[exRowB], [], []] := by
  decide +kernel

end DC.Fanout
