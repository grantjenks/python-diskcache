/-
C11 (continued) — the sequence operations of Deque that compare values:
extend / extendleft / +=, count, remove, and the six comparisons with another
sequence.  They are built on Python `==` and `<` of the stored values
(`pyEq`, `pyLt`, `pyLe` in DC.Model.Layers).
-/
import DC.Properties.C11
import DC.Proofs.SeqLemmas

namespace DC

theorem pyEq_symm (a b : PyVal) : pyEq a b = pyEq b a := by
  exact seq_pyEq_symm a b

/-- `==` is reflexive on everything but NaN -/
theorem pyEq_refl (a : PyVal) (h : ∀ f, a = .float f → floatIsNaN f = false) : pyEq a a = true := by
  rcases seq_pyEq_cases a a with ⟨x, y, hx, hy, he⟩ | ⟨hn, hi, -⟩ | ⟨-, -, -, -, he⟩
  · rw [he]; rw [hx] at hy; cases hy; simp
  · have hi' : pyIsNumber a = true := by cases hi <;> assumption
    obtain ⟨x, hx⟩ := seq_pyNum_of_notNaN a hi' h
    rw [hx] at hn; simp at hn
  · rw [he]; simp

/-- NaN equals nothing, itself included -/
theorem pyEq_nan (f : Nat) (h : floatIsNaN f = true) (b : PyVal) : pyEq (.float f) b = false := by
  simp [pyEq, pyNum, h, pyIsNumber]

theorem pyEq_trans (a b c : PyVal) (h1 : pyEq a b = true) (h2 : pyEq b c = true) : pyEq a c = true := by
  rcases seq_pyEq_cases a b with ⟨x, y, hx, hy, he⟩ | ⟨-, -, he⟩ | ⟨hia, hib, hna, hnb, he⟩
  · rcases seq_pyEq_cases b c with ⟨y', z, hy', hz, he'⟩ | ⟨-, -, he'⟩ | ⟨hib, -, -, -, -⟩
    · rcases seq_pyEq_cases a c with ⟨x', z', hx', hz', he''⟩ | ⟨hn, -, -⟩ | ⟨-, -, hn, -, -⟩
      · rw [he''] ; rw [he] at h1; rw [he'] at h2
        rw [hx] at hx'; rw [hy] at hy'; rw [hz] at hz'
        cases hx'; cases hy'; cases hz'
        simp only [beq_iff_eq] at h1 h2 ⊢
        exact h1.trans h2
      · rw [hx, hz] at hn; simp at hn
      · rw [hx] at hn; simp at hn
    · rw [he'] at h2; simp at h2
    · rw [seq_pyNum_some_isNumber hy] at hib; simp at hib
  · rw [he] at h1; simp at h1
  · rcases seq_pyEq_cases b c with ⟨y', z, hy', -, -⟩ | ⟨-, -, he'⟩ | ⟨-, hic, -, hnc, he'⟩
    · rw [hnb] at hy'; simp at hy'
    · rw [he'] at h2; simp at h2
    · rcases seq_pyEq_cases a c with ⟨x', z', hx', -, -⟩ | ⟨-, hi, -⟩ | ⟨-, -, -, -, he''⟩
      · rw [hna] at hx'; simp at hx'
      · rw [hia, hic] at hi; simp at hi
      · rw [he''] ; rw [he] at h1; rw [he'] at h2
        simp only [beq_iff_eq] at h1 h2 ⊢
        exact h1.trans h2

/-- an int and a float are equal exactly when they denote the same number -/
theorem pyEq_int_float (i : Int) (f : Nat) (h : floatIsNaN f = false) :
    pyEq (.int i) (.float f) = (intNum i == floatNum f) := by
  simp [pyEq, pyNum, h]

theorem pyEq_str_bytes (s : Str) (b : Bytes) : pyEq (.str s) (.bytes b) = false := by
  simp [pyEq, pyNum, pyIsNumber]

def allEq : List PyVal → List PyVal → Bool
  | [], [] => true
  | a :: as, b :: bs => pyEq a b && allEq as bs
  | _, _ => false

private theorem seq_cmpSeq_eq_gen (k : Nat) : ∀ (xs ys : List PyVal),
    cmpSeq .eq (k + xs.length) (k + ys.length) xs ys = some (allEq xs ys) ∧
    cmpSeq .ne (k + xs.length) (k + ys.length) xs ys = some (!allEq xs ys) := by
  intro xs
  induction xs generalizing k with
  | nil =>
    intro ys
    cases ys <;> simp [cmpSeq, allEq, CmpOp.onNats]
  | cons a as ih =>
    intro ys
    cases ys with
    | nil => simp [cmpSeq, allEq, CmpOp.onNats]
    | cons b bs =>
      simp only [cmpSeq, allEq, CmpOp.onVals, List.length_cons]
      cases hab : pyEq a b
      · simp
      · have := ih (k + 1) bs
        simp only [Nat.add_assoc, Nat.add_comm 1] at this
        simpa using this

/-- `==` of sequences: same length and pairwise equal — for ALL lists -/
theorem cmpSeq_eq (xs ys : List PyVal) :
    cmpSeq .eq xs.length ys.length xs ys = some (allEq xs ys) := by
  simpa using (seq_cmpSeq_eq_gen 0 xs ys).1

theorem cmpSeq_ne (xs ys : List PyVal) :
    cmpSeq .ne xs.length ys.length xs ys = some (!allEq xs ys) := by
  simpa using (seq_cmpSeq_eq_gen 0 xs ys).2

/-- `==` and `!=` never raise -/
theorem cmpSeq_eq_total (n m : Nat) (xs ys : List PyVal) :
    (cmpSeq .eq n m xs ys).isSome = true ∧ (cmpSeq .ne n m xs ys).isSome = true := by
  induction xs generalizing ys with
  | nil => simp [cmpSeq]
  | cons a as ih =>
    cases ys with
    | nil => simp [cmpSeq]
    | cons b bs =>
      simp only [cmpSeq, CmpOp.onVals]
      cases pyEq a b
      · simp
      · simpa using ih bs

/-- with different lengths `==` is False and `!=` True whatever the values are (the shortcut of
`_make_compare`) -/
theorem cmpSeq_len_ne (n k : Nat) (hne : n ≠ k) : ∀ (xs ys : List PyVal),
    cmpSeq .eq n k xs ys = some false ∧ cmpSeq .ne n k xs ys = some true
  | [], ys => by cases ys <;> simp [cmpSeq, CmpOp.onNats, hne]
  | a :: as, [] => by simp [cmpSeq, CmpOp.onNats, hne]
  | a :: as, b :: bs => by
    simp only [cmpSeq, CmpOp.onVals]
    cases hab : pyEq a b
    · simp
    · simpa using cmpSeq_len_ne n k hne as bs

theorem cmpSeq_swap (op op' : CmpOp) (hv : ∀ a b, op.onVals a b = op'.onVals b a)
    (hn : ∀ n m, op.onNats n m = op'.onNats m n) (n m : Nat) (xs ys : List PyVal) :
    cmpSeq op n m xs ys = cmpSeq op' m n ys xs := by
  induction xs generalizing ys with
  | nil => cases ys <;> simp only [cmpSeq, hn]
  | cons a as ih =>
    cases ys with
    | nil => simp only [cmpSeq, hn]
    | cons b bs => simp only [cmpSeq, hv, pyEq_symm b a, ih bs]

/-- `a > b` is `b < a`, `a >= b` is `b <= a` -/
theorem cmpSeq_gt_swap (n m : Nat) (xs ys : List PyVal) :
    cmpSeq .gt n m xs ys = cmpSeq .lt m n ys xs :=
  cmpSeq_swap .gt .lt (fun _ _ => rfl) (fun _ _ => rfl) n m xs ys

theorem cmpSeq_ge_swap (n m : Nat) (xs ys : List PyVal) :
    cmpSeq .ge n m xs ys = cmpSeq .le m n ys xs :=
  cmpSeq_swap .ge .le (fun _ _ => rfl) (fun _ _ => rfl) n m xs ys

/-- all six comparisons: when one sequence is (pairwise `==`) a prefix of the other, the lengths
decide -/
theorem cmpSeq_prefix (op : CmpOp) (n m : Nat) : ∀ (xs ys : List PyVal),
    allEq xs (ys.take xs.length) = true → cmpSeq op n m xs ys = some (op.onNats n m)
  | [], ys, _ => by cases ys <;> rfl
  | a :: as, [], h => by simp [allEq] at h
  | a :: as, b :: bs, h => by
    simp only [List.length_cons, List.take_succ_cons, allEq, Bool.and_eq_true] at h
    simp only [cmpSeq, h.1, Bool.not_true, Bool.false_eq_true, if_false]
    exact cmpSeq_prefix op n m as bs h.2

/-- … and otherwise the first differing pair does -/
theorem cmpSeq_first_diff (op : CmpOp) (n m : Nat) (a b : PyVal) (t1 t2 : List PyVal)
    (hab : pyEq a b = false) : ∀ (pre1 pre2 : List PyVal), allEq pre1 pre2 = true →
    cmpSeq op n m (pre1 ++ a :: t1) (pre2 ++ b :: t2) = op.onVals a b
  | [], [], _ => by simp [cmpSeq, hab]
  | [], _ :: _, hp => by simp [allEq] at hp
  | _ :: _, [], hp => by simp [allEq] at hp
  | p :: ps, q :: qs, hp => by
    simp only [allEq, Bool.and_eq_true] at hp
    simp only [List.cons_append, cmpSeq, hp.1, Bool.not_true, Bool.false_eq_true, if_false]
    exact cmpSeq_first_diff op n m a b t1 t2 hab ps qs hp.2

theorem cmpSeq_lt_prefix (xs ys : List PyVal) (h : allEq xs (ys.take xs.length) = true) (hl : xs.length < ys.length) :
    cmpSeq .lt xs.length ys.length xs ys = some true := by
  rw [cmpSeq_prefix .lt _ _ xs ys h]
  exact congrArg some (decide_eq_true hl)

theorem cmpSeq_lt_first_diff (pre1 pre2 : List PyVal) (a b : PyVal) (t1 t2 : List PyVal) (n m : Nat)
    (hp : allEq pre1 pre2 = true) (hab : pyEq a b = false) :
    cmpSeq .lt n m (pre1 ++ a :: t1) (pre2 ++ b :: t2) = pyLt a b :=
  cmpSeq_first_diff .lt n m a b t1 t2 hab pre1 pre2 hp

/-- on numbers, text and bytes `<=` is `<` or `==` (NaN aside) -/
theorem pyLe_iff (a b : PyVal) (ha : ∀ f, a = .float f → floatIsNaN f = false)
    (hb : ∀ f, b = .float f → floatIsNaN f = false) (x : Bool) (hx : pyLt a b = some x) :
    pyLe a b = some (x || pyEq a b) := by
  -- a pair of different kinds (numbers aside) has no order: `hx` is `none = some x`
  cases a <;> cases b <;> try contradiction
  all_goals simp [pyLt, pyIsNumber] at hx
  case int.int i j =>
    simp only [pyNum] at hx
    simp at hx
    subst hx; simp [pyLe, pyEq, pyNum, pyIsNumber]
  case int.float i f =>
    have hf := hb f rfl
    simp only [pyNum, hf] at hx
    simp at hx
    subst hx; simp [pyLe, pyEq, pyNum, pyIsNumber, hf]
  case float.int f i =>
    have hf := ha f rfl
    simp only [pyNum, hf] at hx
    simp at hx
    subst hx; simp [pyLe, pyEq, pyNum, pyIsNumber, hf]
  case float.float f g =>
    have hf := ha f rfl
    have hg := hb g rfl
    simp only [pyNum, hf, hg] at hx
    simp at hx
    subst hx; simp [pyLe, pyEq, pyNum, pyIsNumber, hf, hg]
  case str.str x y =>
    subst hx; simp [pyLe, pyEq, pyNum, pyIsNumber, seq_lexLt_trichotomy, seq_str_beq]
  case bytes.bytes x y =>
    subst hx; simp [pyLe, pyEq, pyNum, pyIsNumber, seq_lexLt_trichotomy, seq_bytes_beq]

namespace Deque

/-- the values `iter(deque)` yields -/
def vals (d : Deque) (E : Externals) (now : Int) : List PyVal :=
  outVals (Fanout.outList (d.iterVals E now false).2)

theorem compare_state (d : Deque) (E : Externals) (now : Int) (op : CmpOp) (that : List PyVal) :
    (d.compare E now op that).1 = d ∨ (d.compare E now op that).1 = (d.iterVals E now false).1 := by
  unfold compare
  simp only
  split
  · exact .inl rfl
  · split
    · exact .inl rfl
    · exact .inr (by split <;> rfl)

/-- the length shortcut of `_make_compare` (`==` / `!=` of sequences of different lengths, decided
without looking at the values) never changes the result: every comparison returns what `cmpSeq`
gives on the values iteration yields -/
theorem compare_out (d : Deque) (E : Externals) (now : Int) (op : CmpOp) (that : List PyVal) :
    (d.compare E now op that).2 =
      match cmpSeq op d.cache.count.toNat that.length (vals d E now) that with
      | some b => .bool b
      | none => .exc "TypeError" := by
  have hwalk : ∀ o : Option Bool,
      (match o with
        | some b => ((d.iterVals E now false).1, Out.bool b)
        | none => ((d.iterVals E now false).1, Out.exc "TypeError")).2 =
      (match o with | some b => Out.bool b | none => Out.exc "TypeError") := by
    intro o; cases o <;> rfl
  unfold compare vals
  by_cases hn : d.cache.count.toNat = that.length
  · simp only [hn, bne_self_eq_false, Bool.false_and, Bool.false_eq_true, if_false]
    exact hwalk _
  · have hne : (d.cache.count.toNat != that.length) = true := by simpa using hn
    obtain ⟨e1, e2⟩ := cmpSeq_len_ne _ _ hn (outVals (Fanout.outList (d.iterVals E now false).2)) that
    simp only [hne, Bool.true_and]
    by_cases h1 : op = .eq
    · subst h1
      rw [if_pos (beq_self_eq_true _), e1]
    · rw [if_neg (by simpa using h1)]
      by_cases h2 : op = .ne
      · subst h2
        rw [if_pos (beq_self_eq_true _), e2]
      · rw [if_neg (by simpa using h2)]
        exact hwalk _

/-- `deque == that`: true exactly when the deque's values and `that` are pairwise equal,
provided the row counter agrees with what iteration yields (it does for `Ok` deques: `len_exact`) -/
theorem compare_eq (d : Deque) (E : Externals) (now : Int) (that : List PyVal)
    (hc : d.cache.count.toNat = (vals d E now).length) :
    (d.compare E now .eq that).2 = .bool (allEq (vals d E now) that) := by
  rw [compare_out, hc, cmpSeq_eq]

theorem compare_ne (d : Deque) (E : Externals) (now : Int) (that : List PyVal)
    (hc : d.cache.count.toNat = (vals d E now).length) :
    (d.compare E now .ne that).2 = .bool (!allEq (vals d E now) that) := by
  rw [compare_out, hc, cmpSeq_ne]

/-- `count(v)` is the number of yielded values equal to `v` -/
theorem countOf_spec (d : Deque) (E : Externals) (now : Int) (v : PyVal) :
    (d.countOf E now v).2 = .int (((vals d E now).filter (pyEq v)).length) := by
  rfl

theorem countOf_le (d : Deque) (E : Externals) (now : Int) (v : PyVal) :
    ∃ n : Nat, (d.countOf E now v).2 = .int n ∧ n ≤ (vals d E now).length := by
  refine ⟨((vals d E now).filter (pyEq v)).length, countOf_spec d E now v, ?_⟩
  exact List.length_filter_le _ _

/-- `remove(v)` when no item equals `v`: ValueError, nothing changes -/
theorem remove_absent (d : Deque) (E : Externals) (now : Int) (v : PyVal)
    (h : ∀ r ∈ sortedRows d.cache, d.rowHolds E now v r = false) :
    d.remove E now v = (d, .exc "ValueError") := by
  unfold remove
  have : (sortedRows d.cache).find? (d.rowHolds E now v) = none := by
    rw [List.find?_eq_none]
    intro r hr; simp [h r hr]
  rw [this]

/-- `remove(v)` deletes through the key of the FIRST row (in deque order) that holds an equal value -/
theorem remove_first (d : Deque) (E : Externals) (now : Int) (v : PyVal) (pre post : List Row) (r : Row)
    (hs : sortedRows d.cache = pre ++ r :: post)
    (hpre : ∀ x ∈ pre, d.rowHolds E now v x = false) (hr : d.rowHolds E now v r = true) :
    d.remove E now v =
      ({ d with cache := (d.cache.delitem E now (keyOfRow E d.cache r)).1 }, .none) := by
  unfold remove
  have : (sortedRows d.cache).find? (d.rowHolds E now v) = some r := by
    rw [hs, List.find?_append]
    have : pre.find? (d.rowHolds E now v) = none := by
      rw [List.find?_eq_none]
      intro x hx; simp [hpre x hx]
    rw [this]; simp [hr]
  rw [this]

def _root_.DC.Out.isExc : Out → Bool
  | .exc _ => true
  | _ => false

/- `extend` is one `append` per value, left to right; `extendleft` likewise with `appendleft`
(so the values end up in reverse order at the front) -/
theorem extend_nil (d : Deque) (E : Externals) (now : Int) (left : Bool) :
    d.extend E now [] left = (d, .none) := by
  rfl

/- The unconditional equations
  `d.extend E now (v :: vs) left = (d.append E now v left).1.extend E now vs left`,
  `d.extend E now (vs ++ ws) left = (d.extend E now vs left).1.extend E now ws left`
are false when an `append` raises (`for value in iterable: self._append(value)` stops at the first
exception): `extend_cons_needs_ok`.  They hold in the success case (`extend_cons_ok`,
`extend_append_ok`); `extend_stops_at_error` and `extend_append_error` are the failing-case
counterparts. -/

/-- the unconditional equation is false: when the first `append` raises, `extend` returns the exception,
while continuing with the remaining values (here: none) would return `None` -/
theorem extend_cons_needs_ok :
    let d : Deque := { cache := { cfg := { policy := .none } } }
    (d.extend Cache.exE 0 [.str [0xD800]] false).2.isExc = true ∧
    ((d.append Cache.exE 0 (.str [0xD800]) false).1.extend Cache.exE 0 [] false).2.isExc = false := by
  decide +kernel

theorem extend_cons_ok (d : Deque) (E : Externals) (now : Int) (v : PyVal) (vs : List PyVal) (left : Bool)
    (hok : (d.append E now v left).2.isExc = false) :
    d.extend E now (v :: vs) left = (d.append E now v left).1.extend E now vs left := by
  rw [extend]
  cases h : d.append E now v left with
  | mk d1 o =>
    rw [h] at hok
    cases o <;> first | rfl | cases hok

/-- an `append` that raises ends `extend`: the values before it stay appended, the exception
propagates, the remaining values are not looked at -/
theorem extend_stops_at_error (d : Deque) (E : Externals) (now : Int) (v : PyVal) (vs : List PyVal)
    (left : Bool) (e : String) (herr : (d.append E now v left).2 = .exc e) :
    d.extend E now (v :: vs) left = ((d.append E now v left).1, .exc e) := by
  rw [extend]
  cases h : d.append E now v left with
  | mk d1 o =>
    rw [h] at herr
    simp only at herr
    subst herr
    rfl

theorem extend_cons_cases (d : Deque) (E : Externals) (now : Int) (v : PyVal) (vs : List PyVal) (left : Bool) :
    ((d.append E now v left).2.isExc = false ∧
      d.extend E now (v :: vs) left = (d.append E now v left).1.extend E now vs left) ∨
    (∃ e, (d.append E now v left).2 = .exc e ∧
      d.extend E now (v :: vs) left = ((d.append E now v left).1, .exc e)) := by
  cases ho : (d.append E now v left).2 with
  | exc e => exact .inr ⟨e, rfl, extend_stops_at_error d E now v vs left e ho⟩
  | _ => exact .inl ⟨rfl, extend_cons_ok d E now v vs left (by rw [ho]; rfl)⟩

/-- `extend` with a concatenation: the second part is appended unless the first part raised -/
theorem extend_append (d : Deque) (E : Externals) (now : Int) (vs ws : List PyVal) (left : Bool) :
    d.extend E now (vs ++ ws) left =
      if (d.extend E now vs left).2.isExc then d.extend E now vs left
      else (d.extend E now vs left).1.extend E now ws left := by
  induction vs generalizing d with
  | nil => rfl
  | cons v vs ih =>
    rcases extend_cons_cases d E now v vs left with ⟨h1, h2⟩ | ⟨e, h1, h2⟩
    · rw [List.cons_append, extend_cons_ok d E now v _ left h1, h2]
      exact ih _
    · rw [List.cons_append, extend_stops_at_error d E now v _ left e h1, h2]
      rfl

theorem extend_append_ok (d : Deque) (E : Externals) (now : Int) (vs ws : List PyVal) (left : Bool)
    (hok : (d.extend E now vs left).2.isExc = false) :
    d.extend E now (vs ++ ws) left = (d.extend E now vs left).1.extend E now ws left := by
  rw [extend_append, hok, if_neg Bool.false_ne_true]

theorem extend_append_error (d : Deque) (E : Externals) (now : Int) (vs ws : List PyVal) (left : Bool)
    (herr : (d.extend E now vs left).2.isExc = true) :
    d.extend E now (vs ++ ws) left = d.extend E now vs left := by
  rw [extend_append, if_pos herr]

theorem extend_maxlen (d : Deque) (E : Externals) (now : Int) (vs : List PyVal) (left : Bool) :
    (d.extend E now vs left).1.maxlen = d.maxlen := by
  induction vs generalizing d with
  | nil => rfl
  | cons v vs ih =>
    rcases extend_cons_cases d E now v vs left with ⟨-, h2⟩ | ⟨e, -, h2⟩
    · rw [h2, ih]
      exact append_maxlen d E now v left
    · rw [h2]
      exact append_maxlen d E now v left

end Deque

example : cmpSeq .lt 2 2 [.int 1, .str [97]] [.float 0x3FF0000000000000, .str [98]] = some true := by decide +kernel
example : cmpSeq .lt 1 1 [.int 1] [.str [98]] = none := by decide +kernel           -- TypeError
example : cmpSeq .eq 1 1 [.int 1] [.float 0x3FF0000000000000] = some true := by decide +kernel   -- 1 == 1.0
example : pyEq (.float 0x7FF8000000000000) (.float 0x7FF8000000000000) = false := by decide +kernel  -- NaN

/-- `deque.extend([1, '\ud800', 3])` on an empty deque: the first value is appended, the second
cannot be stored (text with a lone surrogate) — UnicodeEncodeError propagates, the third value is
never appended, no transaction is left open -/
theorem Deque.extend_propagates_error :
    let d : Deque := { cache := { cfg := { policy := .none } } }
    (match (d.extend Cache.exE 0 [.int 1, .str [0xD800], .int 3] false).2 with
      | .exc "UnicodeEncodeError" => true | _ => false) = true ∧
    (d.extend Cache.exE 0 [.int 1, .str [0xD800], .int 3] false).1.cache.rows.length = 1 ∧
    (d.extend Cache.exE 0 [.int 1, .str [0xD800], .int 3] false).1.cache.rows =
      (d.extend Cache.exE 0 [.int 1] false).1.cache.rows ∧
    (d.extend Cache.exE 0 [.int 1, .str [0xD800], .int 3] false).1.cache.depth = 0 ∧
    (match (d.extend Cache.exE 0 [.int 1, .int 2, .int 3] false).2 with | .none => true | _ => false) = true ∧
    (d.extend Cache.exE 0 [.int 1, .int 2, .int 3] false).1.cache.rows.length = 3 := by
  decide +kernel

/-- `deque[0] = '\ud800'` on a deque holding one item: `Cache.set` cannot store the value —
UnicodeEncodeError propagates and the item is unchanged; a storable value is assigned and the
result is `None`; an index out of range raises IndexError -/
theorem Deque.setitem_propagates_error :
    let d : Deque := (({ cache := { cfg := { policy := .none } } } : Deque).append Cache.exE 0 (.int 1) false).1
    (match (d.setitem Cache.exE 1 0 (.str [0xD800])).2 with
      | .exc "UnicodeEncodeError" => true | _ => false) = true ∧
    (d.setitem Cache.exE 1 0 (.str [0xD800])).1.cache.rows = d.cache.rows ∧
    (match (d.setitem Cache.exE 1 0 (.int 2)).2 with | .none => true | _ => false) = true ∧
    (d.setitem Cache.exE 1 0 (.int 2)).1.cache.rows.map (·.val) = [.int 2] ∧
    (match (d.setitem Cache.exE 1 5 (.int 2)).2 with | .exc "IndexError" => true | _ => false) = true := by
  decide +kernel

end DC
