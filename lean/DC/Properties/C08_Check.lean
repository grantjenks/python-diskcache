/-
C08 tied to C17 — the library's own consistency check is silent on every reachable cache.

`Observes c st`: `st` is a directory as `Cache.check` would observe it (`DC.Check.St`) for the
cache-model state `c`: the rows of `c` as (rowid, size, file id), the two counters, and exactly
the value files of `c`, each with the size of its content, each placed in SOME second-level
directory of the value tree.  The cache model names files by number, not by path, so the placement
into `xx/yy/` is not determined by it: every theorem here is for EVERY placement (and for every
set of further, possibly empty, directories).  The database's own files (`cache.db*`, which check
passes over) may be part of the observation.

Sizes.  The cache model keeps for each file its content (`Cache.files : List (Nat × Content)`); the
size on disk is `Content.size` = the number of bytes of `Content.bytes`.  The row records
`Row.size`, written by `store` as `c.size` of the content it has just written; the invariant
`FileInv.ref` (part of `Good`) says `ct.size = r.size` for the content `ct` of the row's file.
`Observes` takes `FsFile.size = Content.size`: nothing is assumed beyond the model's own contents.
-/
import DC.Properties.C08_Seq
import DC.Properties.C03_Refine
import DC.Properties.C06
import DC.Properties.C17_Top
import DC.Proofs.CheckObserve

namespace DC.Cache

open DC.Check (St FsFile CRow Warn Level)

/-- the row as `check` reads it: `SELECT rowid, size, filename` -/
def crow (r : Row) : CRow := ⟨r.rowid, r.size, r.file⟩

/-- `st` is what `check` would observe of the cache state `c`, for some placement of the value
files into the two-level tree -/
structure Observes (c : Cache) (st : St) : Prop where
  rows : st.rows = c.rows.map crow
  count : st.count = c.count
  size : st.size = c.size
  /-- every observed file is a value file of the cache, in the value tree, with the size of its
  content — or one of the database's own files in the cache directory, which check passes over -/
  fileOf : ∀ f ∈ st.files,
    (f.level = .leaf ∧ f.db = false ∧ ∃ p ∈ c.files, p.1 = f.id ∧ f.size = p.2.size) ∨
    (f.level = .top ∧ f.db = true)
  /-- every value file of the cache is observed, in the value tree, with the size of its content -/
  fileAll : ∀ p ∈ c.files, ∃ f ∈ st.files, f.id = p.1 ∧ f.size = p.2.size ∧ f.level = .leaf ∧ f.db = false
  fileIds : (st.files.map (·.id)).Nodup
  /-- the placement: a file system's shape -/
  fileDir : ∀ f ∈ st.files, f.level = .leaf → (f.d1, f.d2) ∈ st.dirs2
  dirDir : ∀ d ∈ st.dirs2, d.1 ∈ st.dirs1
  dirs1 : st.dirs1.Nodup
  dirs2 : st.dirs2.Nodup

/-- the placement leaves no directory empty -/
structure NoEmptyDirs (st : St) : Prop where
  noEmpty2 : ∀ d ∈ st.dirs2, ∃ ff ∈ st.files, ff.level = .leaf ∧ ff.d1 = d.1 ∧ ff.d2 = d.2
  noEmpty1 : ∀ d ∈ st.dirs1, ∃ d2 ∈ st.dirs2, d2.1 = d

theorem sumSizes_crow (rows : List Row) : Check.sumSizes (rows.map crow) = sumSizes rows := by
  simp [Check.sumSizes, sumSizes, crow, Function.comp_def]

theorem observes_wellShaped {c : Cache} {st : St} (hasc : RowidsAsc c.rows) (ho : Observes c st) :
    Check.WellShaped st := by
  refine ⟨ho.fileDir, ho.dirDir, ho.fileIds, ?_, ho.dirs1, ho.dirs2⟩
  rw [ho.rows, List.map_map]
  have : (c.rows.map (·.rowid)).Nodup := List.Pairwise.map _ (fun a b h => Nat.ne_of_lt h) hasc
  exact this

theorem observes_itemsClean {c : Cache} {st : St} (hc : Consistent c) (ho : Observes c st) :
    Check.ItemsClean st := by
  constructor
  · intro r' hr' f hf
    rw [ho.rows] at hr'
    obtain ⟨r, hr, rfl⟩ := List.mem_map.1 hr'
    obtain ⟨ct, hget, hsz⟩ := hc.ref r hr f hf
    obtain ⟨ff, hff, hid, hs, _, _⟩ := ho.fileAll (f, ct) (mem_of_fileGet hget)
    exact ⟨ff, hff, hid, by rw [hs]; exact hsz⟩
  · intro ff hff hdb
    rcases ho.fileOf ff hff with ⟨_, _, p, hm, hid, _⟩ | ⟨_, hdb'⟩
    · obtain ⟨r, hr, hrf⟩ := hc.noOrphan p hm
      exact ⟨crow r, by rw [ho.rows]; exact List.mem_map.2 ⟨r, hr, rfl⟩, by rw [← hid]; exact hrf⟩
    · rw [hdb] at hdb'; cases hdb'
  · rw [ho.count, hc.count, ho.rows, List.length_map]
  · rw [ho.size, hc.size, ho.rows, sumSizes_crow]

/-- the conclusion of C08, for a directory `st`: plain check reports nothing but empty
directories (nothing at all if the placement has none), and check(fix=True) reports nothing but
empty directories and changes nothing but removing exactly the directories it reports; what it
leaves is consistent (`Check.Clean`: a further check is silent) -/
structure CheckQuiet (st : St) : Prop where
  nofix : ∀ w ∈ (Check.check false st).2, w.isEmptyDir = true
  nofixSilent : NoEmptyDirs st → (Check.check false st).2 = []
  fix : ∀ w ∈ (Check.check true st).2, w.isEmptyDir = true
  fixSilent : NoEmptyDirs st → Check.check true st = (st, [])
  rows : (Check.check true st).1.rows = st.rows
  count : (Check.check true st).1.count = st.count
  size : (Check.check true st).1.size = st.size
  files : (Check.check true st).1.files = st.files
  dirs2 : ∀ d ∈ st.dirs2, d ∉ (Check.check true st).1.dirs2 ↔ Warn.emptyDir2 d.1 d.2 ∈ (Check.check true st).2
  dirs1 : ∀ d ∈ st.dirs1, d ∉ (Check.check true st).1.dirs1 ↔ Warn.emptyDir1 d ∈ (Check.check true st).2
  dirsSub : (∀ d ∈ (Check.check true st).1.dirs2, d ∈ st.dirs2) ∧ (∀ d ∈ (Check.check true st).1.dirs1, d ∈ st.dirs1)
  after : Check.Clean (Check.check true st).1

theorem dirPass_isEmptyDir (fix : Bool) (s : St) : ∀ w ∈ (Check.dirPass fix s).2, w.isEmptyDir = true := by
  intro w hw
  have := Check.dirPass_kind fix s w hw
  cases w <;> simp_all [Warn.isEmptyDir, Check.Warn.kind]

/-- bookkeeping that matches the content (`Consistent`, what C08 asks of the cache state) makes
the check model quiet on every directory that observes the state -/
theorem consistent_check_quiet (c : Cache) (st : St) (hc : Consistent c) (hasc : RowidsAsc c.rows)
    (ho : Observes c st) : CheckQuiet st := by
  have hw := observes_wellShaped hasc ho
  have hi := observes_itemsClean hc ho
  obtain ⟨e0, e1⟩ := Check.check_of_itemsClean st hw.rowIds hw.fileIds hi
  obtain ⟨r1, r2, r3, r4, r5, r6, r7, r8⟩ := Check.dirPass_true_removed st
  have clean : NoEmptyDirs st → Check.Clean st := fun hn =>
    ⟨hi.ref, hi.known, hn.noEmpty2, fun d hd => Or.inl (hn.noEmpty1 d hd), hi.count, hi.size⟩
  refine ⟨?_, ?_, ?_, ?_, ?_, ?_, ?_, ?_, ?_, ?_, ?_, Check.fix_clean st hw⟩
  · rw [e0]; exact dirPass_isEmptyDir false st
  · intro hn; exact (Check.check_silent_iff st hw).2 (clean hn)
  · rw [e1]; exact dirPass_isEmptyDir true st
  · intro hn; exact Check.fix_on_clean st hw (clean hn)
  · rw [e1]; exact r1
  · rw [e1]; exact r2
  · rw [e1]; exact r3
  · rw [e1]; exact r4
  · rw [e1]; exact r5
  · rw [e1]; exact r6
  · rw [e1]; exact ⟨r7, r8⟩

/-- C08 for one state: on a `Good` cache state (table and file invariants, no orphan file, no
open block) the consistency check finds nothing but — harmless — empty directories, whatever the
placement of the value files, and repairing removes those directories and nothing else -/
theorem good_check_quiet (c : Cache) (st : St) (hg : Good c) (ho : Observes c st) : CheckQuiet st :=
  consistent_check_quiet c st (good_consistent c hg) hg.tinv.tbl.asc ho

theorem step_good_flat (c : Cache) (op : Op) (hf : op.flat = true) (hg : Good c) : Good (c.step op).1 := by
  cases op with
  | set E now k v ttl read tag => exact set_good _ _ _ _ _ _ _ _ hg
  | add E now k v ttl read tag => exact add_good _ _ _ _ _ _ _ _ hg
  | touch E now k ttl => exact touch_good _ _ _ _ _ hg
  | incr E now k delta dflt => exact incr_good _ _ _ _ _ _ hg
  | get E now k read et tg => exact get_good _ _ _ _ _ _ _ hg
  | contains E now k => exact step_good c (.contains E now k) rfl hg
  | pop E now k et tg => exact pop_good _ _ _ _ _ _ hg
  | delitem E now k => exact delitem_good _ _ _ _ hg
  | delete E now k => exact delete_good _ _ _ _ hg
  | push E now v pfx back ttl read tag => exact push_good _ _ _ _ _ _ _ _ _ hg
  | pull E now pfx front et tg => exact pull_good _ _ _ _ _ _ _ hg
  | peek E now pfx front et tg => exact peek_good _ _ _ _ _ _ _ hg
  | peekitem E now last et tg => exact peekitem_good _ _ _ _ _ _ hg
  | clear => exact clear_good _ hg
  | evict tag => exact evict_good _ _ hg
  | expire now => exact expire_good _ _ hg
  | cull now => exact cull_good _ _ hg
  | iter E asc => exact good_of_core hg (iter_inv c E asc hg.tinv) (iter_core c E asc)
  | iterkeys E rev => exact good_of_core hg (iterkeys_inv c E rev hg.tinv) (iterkeys_core c E rev)
  | len => exact good_of_core hg (len_inv c hg.tinv) rfl
  | stats enable reset =>
    have ht := stats_inv c enable reset hg.tinv
    show Good (c.stats enable reset).1
    rw [stats_fst] at ht ⊢
    exact good_of_same hg ht rfl rfl rfl rfl rfl rfl rfl
  | tbegin => cases hf
  | tend => cases hf
  | traise n => cases hf
  | observe env =>
    exact good_of_same hg ⟨hg.tinv.tbl, hg.tinv.snap⟩ rfl rfl rfl rfl rfl rfl rfl

def Op.opens : Op → Bool
  | .tbegin => true
  | _ => false

/-- ... and so does a block-closing bracket met outside any block (it does nothing): every call
other than `tbegin` keeps `Good` -/
theorem step_good_unopened (c : Cache) (op : Op) (ho : op.opens = false) (hg : Good c) :
    Good (c.step op).1 := by
  cases hf : op.flat with
  | true => exact step_good_flat c op hf hg
  | false =>
    cases op <;> simp only [Op.flat, Bool.true_eq_false] at hf
    · cases ho
    · have ht := tend_inv c hg.tinv
      show Good c.tend
      rw [tend_idle c hg.depth] at ht ⊢
      exact good_of_same hg ht rfl rfl rfl hg.depth.symm rfl rfl rfl
    · rename_i n
      have ht := traise_inv c n hg.tinv
      show Good (c.traise n)
      rw [traise_idle c n hg.depth] at ht ⊢
      exact good_of_same hg ht rfl rfl rfl hg.depth.symm rfl rfl rfl

theorem run_good_unopened (c : Cache) (ops : List Op) (hf : ∀ op ∈ ops, op.opens = false) (hg : Good c) :
    Good (c.run ops) := by
  induction ops generalizing c with
  | nil => exact hg
  | cons op ops ih =>
    exact ih (c.step op).1 (fun o ho => hf o (List.mem_cons_of_mem _ ho))
      (step_good_unopened c op (hf op List.mem_cons_self) hg)

theorem run_good_flat (c : Cache) (ops : List Op) (hf : ∀ op ∈ ops, op.flat = true) (hg : Good c) :
    Good (c.run ops) := by
  induction ops generalizing c with
  | nil => exact hg
  | cons op ops ih =>
    exact ih (c.step op).1 (fun o ho => hf o (List.mem_cons_of_mem _ ho))
      (step_good_flat c op (hf op List.mem_cons_self) hg)

/-
The full statement of C08 for all single-client histories would be:

  theorem run_check_quiet (cfg : Cfg) (stat : Bool) (ops : List Op)
      (hclosed : (({ cfg := cfg, statistics := stat } : Cache).run ops).depth = 0)
      (st : St) (ho : Observes (({ cfg := cfg, statistics := stat } : Cache).run ops) st) : CheckQuiet st

with `tbegin` / `tend` / `traise` anywhere in `ops`.  Proved below for histories that never OPEN a
block (no `tbegin`; every call is then its own transaction; stray `tend` / `traise` do nothing):
all 24 other calls, every eviction policy, every configuration, clock trajectory and codec.
`Good`/`PI` and the `*_good` / `*_PI` lemmas are stated at depth 0 only.  Histories with whole flat
blocks, where files replaced or popped wait in `pending` and files written wait in `created`, are
the subject of C08_Blocks.lean, which also shows that the full statement is false.
-/

/-- C08 for every single-client history of calls outside transaction blocks: from the empty
cache, after ANY finite history that opens no block (any of the other calls, any arguments, clock
values, codecs and database-size observations, any configuration and eviction policy), for EVERY
directory that observes the final state, the consistency check finds nothing but empty
directories and repairs nothing but those -/
theorem run_check_quiet_partial (cfg : Cfg) (stat : Bool) (ops : List Op)
    (hno : ∀ op ∈ ops, op.opens = false)
    (st : St) (ho : Observes (({ cfg := cfg, statistics := stat } : Cache).run ops) st) : CheckQuiet st :=
  good_check_quiet _ st (run_good_unopened _ ops hno (good_init cfg stat)) ho

/-- the same from any `Good` state -/
theorem run_check_quiet_from (c : Cache) (hg : Good c) (ops : List Op) (hno : ∀ op ∈ ops, op.opens = false)
    (st : St) (ho : Observes (c.run ops) st) : CheckQuiet st :=
  good_check_quiet _ st (run_good_unopened c ops hno hg) ho

/-- a block that is entered and left at once, committed or aborted, is covered too (the two
bracketing steps keep `Good`: `tbegin_tend_good`, `tbegin_traise_good`) -/
theorem empty_block_check_quiet (c : Cache) (hg : Good c) (st : St) :
    (Observes c.tbegin.tend st → CheckQuiet st) ∧ (Observes (c.tbegin.traise 1) st → CheckQuiet st) :=
  ⟨good_check_quiet _ st (tbegin_tend_good c hg), good_check_quiet _ st (tbegin_traise_good c hg)⟩

/-! ### non-vacuity, and what fails without `Good` -/

/-- a history with file-backed values stored, replaced and deleted (values of 2 bytes or more go
to files): `a` -> file 0, `b` -> file 1, `c` inline, `a` replaced -> file 2 (file 0 removed),
`b` deleted (file 1 removed), `d` -> file 3 -/
def exHist : List Op :=
  [.set exE6 0 (.str [97]) (.bytes [1, 2, 3]) none false .null,
   .set exE6 0 (.str [98]) (.bytes [4, 5, 6, 7]) none false .null,
   .set exE6 1 (.str [99]) (.bytes [8]) none false .null,
   .set exE6 2 (.str [97]) (.bytes [9, 9, 9, 9, 9]) none false .null,
   .delete exE6 3 (.str [98]),
   .set exE6 4 (.str [100]) (.bytes [1, 1]) none false .null]

def exCfg : Cfg := { minFileSize := 2, cullLimit := 0 }

def exFinal : Cache := ({ cfg := exCfg } : Cache).run exHist

/-- a directory observing `exFinal`: the two surviving value files in `1/1/` and `2/1/`, the
database file in the cache directory, and empty directories `5/1/`, `5/` left behind (the cache
model does not track directories; `Disk.remove` tries to remove emptied ones but suppresses errors) -/
def exSt : St :=
  { rows := [⟨1, 5, some 2⟩, ⟨3, 0, none⟩, ⟨4, 2, some 3⟩], count := 3, size := 7,
    files := [⟨100, 0, 0, 4096, .top, true⟩, ⟨2, 1, 1, 5, .leaf, false⟩, ⟨3, 2, 1, 2, .leaf, false⟩],
    dirs1 := [1, 2, 5], dirs2 := [(1, 1), (2, 1), (5, 1)] }

theorem exSt_observes : Observes exFinal exSt :=
  ⟨by decide +kernel, by decide +kernel, by decide +kernel, by decide +kernel, by decide +kernel,
   by decide +kernel, by decide +kernel, by decide +kernel, by decide +kernel, by decide +kernel⟩

/-- `run_check_quiet_partial` applies to it ... -/
theorem exSt_quiet : CheckQuiet exSt :=
  run_check_quiet_partial exCfg false exHist (by decide) exSt exSt_observes

/-- ... and this is what the check model computes on it: the empty second-level directory is
reported; repairing removes it and then its parent, and nothing else -/
example : (Check.check false exSt).2 = [.emptyDir2 5 1] ∧
    Check.check true exSt = ({ exSt with dirs1 := [1, 2], dirs2 := [(1, 1), (2, 1)] }, [.emptyDir2 5 1, .emptyDir1 5]) := by
  decide +kernel

/-- the same without the empty directories: silent, and check(fix=True) is the identity -/
def exStTight : St := { exSt with dirs1 := [1, 2], dirs2 := [(1, 1), (2, 1)] }

theorem exStTight_silent : Observes exFinal exStTight ∧ NoEmptyDirs exStTight ∧
    (Check.check false exStTight).2 = [] ∧ Check.check true exStTight = (exStTight, []) := by
  have ho : Observes exFinal exStTight :=
    ⟨by decide +kernel, by decide +kernel, by decide +kernel, by decide +kernel, by decide +kernel,
     by decide +kernel, by decide +kernel, by decide +kernel, by decide +kernel, by decide +kernel⟩
  have hn : NoEmptyDirs exStTight := ⟨by decide +kernel, by decide +kernel⟩
  have hq := run_check_quiet_partial exCfg false exHist (by decide) exStTight ho
  exact ⟨ho, hn, hq.nofixSilent hn, hq.fixSilent hn⟩

/-- `good_check_quiet` needs `Good`: a state with a leaked value file (file 7, which no row
refers to: `NoOrphan` fails) is observed by a directory on which check reports an unknown file -/
def exLeaky : Cache := { exFinal with files := exFinal.files ++ [(7, .bin [1, 2, 3])], nfile := 8 }

def exStLeaky : St := { exStTight with files := exStTight.files ++ [⟨7, 2, 1, 3, .leaf, false⟩] }

theorem good_check_quiet_needs_good :
    Observes exLeaky exStLeaky ∧ ¬ Good exLeaky ∧ ¬ CheckQuiet exStLeaky ∧
    (Check.check false exStLeaky).2 = [.unknown 7] := by
  have ho : Observes exLeaky exStLeaky :=
    ⟨by decide +kernel, by decide +kernel, by decide +kernel, by decide +kernel, by decide +kernel,
     by decide +kernel, by decide +kernel, by decide +kernel, by decide +kernel, by decide +kernel⟩
  have hw : (Check.check false exStLeaky).2 = [.unknown 7] := by decide +kernel
  have hnq : ¬ CheckQuiet exStLeaky := by
    intro hq
    have := hq.nofix (.unknown 7) (by rw [hw]; simp)
    simp [Warn.isEmptyDir] at this
  exact ⟨ho, fun hg => hnq (good_check_quiet _ _ hg ho), hnq, hw⟩

/-- ... and it needs the counters too: a state whose `Settings.count` is off by one -/
theorem good_check_quiet_needs_count :
    Observes { exFinal with count := 4 } { exStTight with count := 4 } ∧
    (Check.check false { exStTight with count := 4 }).2 = [.count 4 3] := by
  refine ⟨⟨by decide +kernel, by decide +kernel, by decide +kernel, by decide +kernel, by decide +kernel,
     by decide +kernel, by decide +kernel, by decide +kernel, by decide +kernel, by decide +kernel⟩, ?_⟩
  decide +kernel

/-- "once no operation is in flight" is needed: INSIDE an open block the file of a replaced value
is still on disk (its removal waits for the outermost commit), so a check run at that moment by
another observer of the directory would report it as unknown; after the commit (`tend`) only
the directory the file has left empty is reported.  (The rows shown are those of the uncommitted
transaction, which is what the thread that owns the block reads.) -/
def exOpen : Cache := exFinal.tbegin.run [.set exE6 5 (.str [97]) (.bytes [7, 7, 7]) none false .null]

def exStOpen : St :=
  { rows := [⟨1, 3, some 4⟩, ⟨3, 0, none⟩, ⟨4, 2, some 3⟩], count := 3, size := 5,
    files := [⟨2, 1, 1, 5, .leaf, false⟩, ⟨3, 2, 1, 2, .leaf, false⟩, ⟨4, 3, 1, 3, .leaf, false⟩],
    dirs1 := [1, 2, 3], dirs2 := [(1, 1), (2, 1), (3, 1)] }

theorem check_quiet_needs_closed_block :
    exOpen.depth = 1 ∧ Observes exOpen exStOpen ∧ (Check.check false exStOpen).2 = [.unknown 2] ∧
    Observes exOpen.tend { exStOpen with files := exStOpen.files.tail } ∧
    (Check.check false { exStOpen with files := exStOpen.files.tail }).2 = [.emptyDir2 1 1] := by
  refine ⟨by decide +kernel, ?_, by decide +kernel, ?_, by decide +kernel⟩
  · exact ⟨by decide +kernel, by decide +kernel, by decide +kernel, by decide +kernel, by decide +kernel,
      by decide +kernel, by decide +kernel, by decide +kernel, by decide +kernel, by decide +kernel⟩
  · exact ⟨by decide +kernel, by decide +kernel, by decide +kernel, by decide +kernel, by decide +kernel,
      by decide +kernel, by decide +kernel, by decide +kernel, by decide +kernel, by decide +kernel⟩

end DC.Cache
