/-
C10 — push/pull/peek form FIFO queues per prefix (sequential part).

`queueRows s p` is the abstract queue of prefix `p`: the rows whose key lies in
the key range of `p` (and, for a text prefix, has the queue's key length), in
key order.  The theorems say push appends at the chosen end with a key that
identifies the item, pull removes the chosen end and returns it, peek returns
what pull would without removing, and different prefixes (including prefixes
that extend one another — finding D6) and ordinary keys do not interfere.

`Quiet` is the side condition "the lazy cull of this write removes nothing"
(always true for Deque/Index: policy 'none' and no expiry).
-/
import DC.Proofs.Queue

namespace DC.Cache

/-- the lazy cull of a write at `now` removes nothing: cull_limit is 0, or the policy is
'none' (Deque, Index) and no stored row is expired -/
def Quiet (s : Cache) (now : Int) : Prop :=
  s.cfg.cullLimit = 0 ∨ (s.cfg.policy = .none ∧ ∀ r ∈ s.rows, expired now r = false)

/-- the pushed item itself is not already expired -/
def TtlOk (ttl : Option Int) : Prop := ∀ t, ttl = some t → 0 ≤ t

/-- the first queue number lies inside the queue key range -/
def OriginOk (s : Cache) : Prop := 1 ≤ s.cfg.qorigin ∧ s.cfg.qorigin ≤ 999999999999998

/-- there is room on both sides of the queue -/
def Room (s : Cache) (p : Option Str) : Prop :=
  ∀ r ∈ s.queueRows p, ∀ n, queueNum r.key = some n → 2 ≤ n ∧ n ≤ 999999999999997

/-- the keys of queue `p` are well formed: they decode to a number that re-encodes to the key,
and leave room on both sides -/
def QueueOk (s : Cache) (p : Option Str) : Prop :=
  ∀ r ∈ s.queueRows p, ∃ n : Int, queueNum r.key = some n ∧ queueKey p n = r.key ∧ 1 ≤ n ∧ n ≤ 999999999999998

/-- where `store` puts the value: the columns of the new row -/
def colsOf (c : Cols) (ttl : Option Int) (now : Int) (tag : SqlVal) : Cols :=
  { c with expT := ttl.map (now + ·), tag := tag }

/-- a row stored with a non-negative ttl is not expired at the time of the write -/
theorem colsOf_live (c : Cols) {ttl : Option Int} (now : Int) (tag : SqlVal) (httl : TtlOk ttl) :
    ∀ e, (colsOf c ttl now tag).expT = some e → ¬ e < now := by
  intro e he
  cases ht : ttl with
  | none => rw [ht] at he; cases he
  | some d =>
    have := httl d ht
    rw [ht] at he
    simp only [colsOf, Option.map_some, Option.some.injEq] at he
    omega

/-- push at either end: the queue grows by exactly one row there, carrying the stored value; the
returned key is that row's key -/
theorem push_end (s : Cache) (E : Externals) (now : Int) (v : PyVal) (p : Option Str) (back : Bool)
    (ttl : Option Int) (tag : SqlVal) (hinv : TableInv s) (hq : QueueOk s p)
    (s1 : Cache) (c : Cols) (hst : s.store E v false = .ok (s1, c))
    (hb : (colsOf c ttl now tag).bindable = true) (hnc : Quiet s now) (httl : TtlOk ttl)
    (hor : OriginOk s) (hroom : Room s p) (hp : ∀ q, p = some q → (utf8enc q).isSome = true) :
    ∃ r : Row, (s.push E now v p back ttl false tag).1.queueRows p =
        (if back then s.queueRows p ++ [r] else r :: s.queueRows p) ∧
      (s.push E now v p back ttl false tag).2 = .val (column r.key) ∧
      r.mode = c.mode ∧ r.val = c.val ∧ r.file = c.file ∧ r.expT = ttl.map (now + ·) ∧ r.tag = tag := by
  obtain ⟨num, hnum, hfit, hrm, hord⟩ := pushNum_spec s p back hinv hq hor
  obtain ⟨hn1, hn2⟩ := hrm hroom
  have hsel := selKey_new_none s p num hn1 hn2 back hord
  have hbk := bindable_queueKey p num hfit hp
  obtain ⟨t, ht1, ht2, hrows, hout⟩ := push_ok s E now v p back ttl tag hst hnum hsel hb hbk
  have hcull := insRow_cullW_quiet ht1 ht2 now (queueKey p num) (colsOf c ttl now tag) hnc
    (colsOf_live c now tag httl)
  have hinv' := insRow_inv (queueKey p num) true now (colsOf c ttl now tag) hinv hsel
    (queueKey_ne_null p num)
  refine ⟨mkRow s.rows (queueKey p num) now (colsOf c ttl now tag), ?_, hout, rfl, rfl, rfl, rfl, rfl⟩
  rw [queueRows_eq, hrows]
  show qrows ((t.insRow (queueKey p num) true now (colsOf c ttl now tag)).cullW now).1.rows p = _
  rw [hcull, queueRows_eq]
  have hin : qfilter p (mkRow s.rows (queueKey p num) now (colsOf c ttl now tag)) = true :=
    qfilter_iff.2 ⟨kfilter_queueKey p num hn1 hn2, rfl⟩
  cases back with
  | true =>
    exact qrows_append_back (rows := s.rows) _ hinv'.tbl.uniq hinv'.tbl.nonnull p hin
      fun x hx => hord x (by rwa [queueRows_eq])
  | false =>
    exact qrows_append_front (rows := s.rows) _ hinv'.tbl.uniq hinv'.tbl.nonnull p hin
      fun x hx => hord x (by rwa [queueRows_eq])

set_option linter.unusedVariables false in  -- some hypotheses of the statement are not needed
/-- push to the back appends: the queue grows by exactly one row at its end, carrying the
stored value; the returned key is that row's key -/
theorem push_back (s : Cache) (E : Externals) (now : Int) (v : PyVal) (p : Option Str)
    (ttl : Option Int) (tag : SqlVal) (hinv : TableInv s) (hq : QueueOk s p) (hd : s.depth = 0)
    (s1 : Cache) (c : Cols) (hst : s.store E v false = .ok (s1, c))
    (hb : (colsOf c ttl now tag).bindable = true) (hnc : Quiet s now) (httl : TtlOk ttl)
    (hor : OriginOk s) (hroom : Room s p)
    -- the prefix can be bound (no lone surrogate); otherwise push raises UnicodeEncodeError (`exE` below)
    (hp : ∀ q, p = some q → (utf8enc q).isSome = true) :
    ∃ r : Row, ((s.push E now v p true ttl false tag).1.queueRows p) = s.queueRows p ++ [r] ∧
      (s.push E now v p true ttl false tag).2 = .val (column r.key) ∧
      r.mode = c.mode ∧ r.val = c.val ∧ r.file = c.file ∧ r.expT = ttl.map (now + ·) ∧ r.tag = tag :=
  push_end s E now v p true ttl tag hinv hq s1 c hst hb hnc httl hor hroom hp

set_option linter.unusedVariables false in  -- some hypotheses of the statement are not needed
/-- push to the front prepends -/
theorem push_front (s : Cache) (E : Externals) (now : Int) (v : PyVal) (p : Option Str)
    (ttl : Option Int) (tag : SqlVal) (hinv : TableInv s) (hq : QueueOk s p) (hd : s.depth = 0)
    (s1 : Cache) (c : Cols) (hst : s.store E v false = .ok (s1, c))
    (hb : (colsOf c ttl now tag).bindable = true) (hnc : Quiet s now) (httl : TtlOk ttl)
    (hor : OriginOk s) (hroom : Room s p)
    -- the prefix can be bound (no lone surrogate); otherwise push raises UnicodeEncodeError (`exE` below)
    (hp : ∀ q, p = some q → (utf8enc q).isSome = true) :
    ∃ r : Row, ((s.push E now v p false ttl false tag).1.queueRows p) = r :: s.queueRows p ∧
      (s.push E now v p false ttl false tag).2 = .val (column r.key) ∧
      r.mode = c.mode ∧ r.val = c.val ∧ r.file = c.file := by
  obtain ⟨r, h1, h2, h3, h4, h5, -⟩ :=
    push_end s E now v p false ttl tag hinv hq s1 c hst hb hnc httl hor hroom hp
  exact ⟨r, h1, h2, h3, h4, h5⟩

/-- the queue stays well formed under push (so the theorems compose over histories) -/
theorem push_queueOk (s : Cache) (E : Externals) (now : Int) (v : PyVal) (p : Option Str) (back : Bool)
    (ttl : Option Int) (tag : SqlVal) (hinv : TableInv s) (hq : QueueOk s p) (hor : OriginOk s)
    (hroom : Room s p) :
    QueueOk (s.push E now v p back ttl false tag).1 p := by
  intro r hr
  rcases push_cases s E now v p back ttl tag with
    h | ⟨s1, c, num, t, hst, hnum, hsel, ht1, ht2, hrows, -⟩
  · rw [queueRows_eq, h, ← queueRows_eq] at hr; exact hq r hr
  · obtain ⟨num', hnum', hfit, hrm, -⟩ := pushNum_spec s p back hinv hq hor
    rw [hnum] at hnum'; cases hnum'
    obtain ⟨hn1, hn2⟩ := hrm hroom
    rw [queueRows_eq, hrows] at hr
    obtain ⟨hr1, hr2⟩ := mem_qrows.1 hr
    have hasc := insRow_asc t (queueKey p num) true now (colsOf c ttl now tag)
      (by rw [ht1]; exact hinv.tbl.asc)
    rcases insRow_mem _ _ _ _ ((cullW_sublist _ now hasc).subset hr1) with ⟨hk, -⟩ | hmem
    · exact ⟨num, by rw [hk]; exact queueNum_queueKey p num hfit, hk.symm, hn1, hn2⟩
    · rw [ht1] at hmem
      exact hq r (by rw [queueRows_eq]; exact mem_qrows.2 ⟨hmem, hr2⟩)

/-- pull at either end when the row there is live and readable: it is returned and deleted -/
theorem pull_live (s : Cache) (E : Externals) (now : Int) (p : Option Str) (front : Bool) (r : Row)
    (hh : qhead s p front = some r) (hlive : expired now r = false)
    (hfile : (s.fetchRow E r false).2 ≠ .ioerror) :
    (s.pull E now p front false false).2 =
      .tup [.val (column r.key), fetchedOut (s.fetchRow E r false).2] ∧
    (s.pull E now p front false false).1.rows = s.rows.filter (·.rowid != r.rowid) := by
  unfold pull
  rw [pullLoop_succ]
  simp only [hh, hlive, Bool.false_eq_true, if_false]
  rw [pullDel_fetch s E r]
  split
  · contradiction
  · exact ⟨by simp [withFlags], pullTake_rows s E r⟩

/-- pull from the front removes and returns the first unexpired item; expired heads are
dropped on the way -/
theorem pull_front (s : Cache) (E : Externals) (now : Int) (p : Option Str) (hinv : TableInv s)
    (r : Row) (rest : List Row) (hq : s.queueRows p = r :: rest) (hlive : expired now r = false)
    (hfile : (s.fetchRow E r false).2 ≠ .ioerror) :
    (s.pull E now p true false false).2 = .tup [.val (column r.key), fetchedOut (s.fetchRow E r false).2] ∧
    (s.pull E now p true false false).1.queueRows p = rest := by
  have hh : qhead s p true = some r := by unfold qhead; rw [hq]; rfl
  obtain ⟨h1, h2⟩ := pull_live s E now p true r hh hlive hfile
  exact ⟨h1, queue_del_head hinv hq h2⟩

/-- pull from the back removes and returns the last item -/
theorem pull_back (s : Cache) (E : Externals) (now : Int) (p : Option Str) (hinv : TableInv s)
    (r : Row) (front : List Row) (hq : s.queueRows p = front ++ [r]) (hlive : expired now r = false)
    (hfile : (s.fetchRow E r false).2 ≠ .ioerror) :
    (s.pull E now p false false false).2 = .tup [.val (column r.key), fetchedOut (s.fetchRow E r false).2] ∧
    (s.pull E now p false false false).1.queueRows p = front := by
  have hh : qhead s p false = some r := by unfold qhead lastRow?; rw [hq]; simp
  obtain ⟨h1, h2⟩ := pull_live s E now p false r hh hlive hfile
  exact ⟨h1, queue_del_last hinv hq h2⟩

/-- pull on an empty queue returns the default and changes nothing -/
theorem pull_empty (s : Cache) (E : Externals) (now : Int) (p : Option Str) (front et tg : Bool)
    (hq : s.queueRows p = []) :
    (s.pull E now p front et tg).2 = defaultFlags et tg ∧ (s.pull E now p front et tg).1.rows = s.rows := by
  have hh : qhead s p front = none := by unfold qhead; rw [hq]; cases front <;> rfl
  unfold pull
  rw [pullLoop_succ]
  simp only [hh]
  exact ⟨trivial, (pullSel_spec s).1⟩

set_option linter.unusedVariables false in  -- some hypotheses of the statement are not needed
/-- peek returns what the next pull from that side would return, and removes nothing
when the head is not expired -/
theorem peek_is_next_pull (s : Cache) (E : Externals) (now : Int) (p : Option Str) (front : Bool)
    (hinv : TableInv s) (r : Row)
    (hhead : (if front then (s.queueRows p).head? else (s.queueRows p).getLast?) = some r)
    (hlive : expired now r = false) (hfile : (s.fetchRow E r false).2 ≠ .ioerror) :
    (s.peek E now p front false false).2 = (s.pull E now p front false false).2 ∧
    (s.peek E now p front false false).1.rows = s.rows := by
  have hh : qhead s p front = some r := by
    unfold qhead lastRow?; cases front <;> simpa using hhead
  unfold peek pull
  rw [peekLoop_succ, pullLoop_succ]
  simp only [hh, hlive, Bool.false_eq_true, if_false]
  rw [pullDel_fetch s E r, pullSel_fetch s E r]
  split
  · contradiction
  · exact ⟨rfl, by rw [fetchRow_rows, (pullSel_spec s).1]⟩

/-- queues with different prefixes do not interfere: a push on `p` leaves the queue of every
other prefix `q` unchanged — also when one prefix extends the other ('a' and 'a-5') -/
theorem prefix_isolation_push (s : Cache) (E : Externals) (now : Int) (v : PyVal) (p q : Option Str)
    (back : Bool) (ttl : Option Int) (tag : SqlVal) (hinv : TableInv s) (hpq : p ≠ q)
    (hq : QueueOk s p) (hnc : Quiet s now) (httl : TtlOk ttl) (hor : OriginOk s) :
    (s.push E now v p back ttl false tag).1.queueRows q = s.queueRows q := by
  rcases push_cases s E now v p back ttl tag with
    h | ⟨s1, c, num, t, hst, hnum, hsel, ht1, ht2, hrows, -⟩
  · rw [queueRows_eq, h, ← queueRows_eq]
  · obtain ⟨num', hnum', hfit, -, -⟩ := pushNum_spec s p back hinv hq hor
    rw [hnum] at hnum'; cases hnum'
    have hcull := insRow_cullW_quiet ht1 ht2 now (queueKey p num) (colsOf c ttl now tag) hnc
      (colsOf_live c now tag httl)
    rw [queueRows_eq, hrows]
    show qrows ((t.insRow (queueKey p num) true now (colsOf c ttl now tag)).cullW now).1.rows q = _
    rw [hcull, queueRows_eq]
    exact qrows_append_notin _ _ _ (qfilter_other hpq num hfit _ rfl)

set_option linter.unusedVariables false in  -- some hypotheses of the statement are not needed
/-- ... and a pull on `p` leaves every other queue unchanged -/
theorem prefix_isolation_pull (s : Cache) (E : Externals) (now : Int) (p q : Option Str)
    (front et tg : Bool) (hinv : TableInv s) (hpq : p ≠ q) (hq : QueueOk s p) (hq' : QueueOk s q) :
    (s.pull E now p front et tg).1.queueRows q = s.queueRows q := by
  obtain ⟨f, hf1, hf2⟩ := pullLoop_rows E now p front et tg (s.rows.length + 1) s hinv.tbl.asc
  unfold pull
  rw [queueRows_eq, hf1, queueRows_eq]
  apply qrows_filter_id hinv.tbl.uniq hinv.tbl.nonnull
  intro x hx
  apply hf2 x (mem_qrows.1 hx).1
  intro hxp
  rw [queueRows_eq] at hxp
  exact qrows_disjoint hpq hxp hx

/-- ordinary keys outside the queue key range are untouched by pull: every row that is not a
member of queue `p` survives a pull on `p` -/
theorem pull_ordinary_untouched (s : Cache) (E : Externals) (now : Int) (p : Option Str)
    (front et tg : Bool) (hinv : TableInv s) :
    ∀ r ∈ s.rows, r ∉ s.queueRows p → r ∈ (s.pull E now p front et tg).1.rows := by
  obtain ⟨f, hf1, hf2⟩ := pullLoop_rows E now p front et tg (s.rows.length + 1) s hinv.tbl.asc
  intro r hr hnq
  unfold pull
  rw [hf1]
  exact List.mem_filter.2 ⟨hr, hf2 r hr hnq⟩

/-- non-vacuity: two queues whose prefixes extend one another, and an ordinary key -/
def exQRow (i : Nat) (k : SqlVal) (v : Int) : Row :=
  { rowid := i, key := k, raw := true, storeT := 0, expT := none, accT := 0, accN := 0,
    tag := .null, size := 0, mode := 1, file := none, val := .int v }

def qk (p : Str) (n : Nat) : SqlVal := queueKey (some p) n

def exQ : Cache :=
  { rows := [exQRow 1 (qk [97] 500000000000000) 10, exQRow 2 (qk [97, 45, 53] 500000000000000) 20,
             exQRow 3 (.text [97, 45, 49]) 30, exQRow 4 (qk [97] 500000000000001) 11], count := 4,
    cfg := { policy := .none } }

example : (exQ.queueRows (some [97])).map (·.rowid) = [1, 4] ∧
    (exQ.queueRows (some [97, 45, 53])).map (·.rowid) = [2] := by decide +kernel

/-- why `push_back` / `push_front` need `hp`: with a lone surrogate in the prefix the key cannot
be bound, push raises UnicodeEncodeError and the (empty, well-formed) queue stays empty, although
the value itself is storable and every other hypothesis holds -/
def exE : Externals :=
  { dumpsK := fun _ => [], dumpsV := fun _ => [], loads := fun _ => .none, jsonz := fun _ => [],
    unjsonz := fun _ => .none }

example : let s : Cache := { cfg := { policy := .none } }
    (s.store exE (.int 1) false).toOption.isSome = true ∧ s.queueRows (some [0xD800]) = [] ∧
    (s.push exE 0 (.int 1) (some [0xD800]) true none false .null).1.queueRows (some [0xD800]) = [] ∧
    (s.push exE 0 (.int 1) (some [0xD800]) false none false .null).1.queueRows (some [0xD800]) = [] := by
  decide +kernel

end DC.Cache
