/-
C18 — data and settings persist and are shared by every handle on the directory.

In the model a `Cache` value is "directory + handle": the directory is the table,
the Settings counters and settings, and the value files; the handle adds only
ghost and transaction-local fields (the micro-step trace, the observation list,
the state of an open transaction block).  `handle_independent` says that what a
call returns and what it leaves in the directory depend on the directory alone:
a second handle, a reopened or unpickled object, another thread or process see
and do exactly the same.  The on-disk format is the pair of codecs proved
inverse in C01/C02 (`get_put`, `fetch_store*`) and the routing function proved
pure in C13; the check replays the model on reference directories written by
the pinned version.
-/
import DC.Proofs.DirLemmas

namespace DC.Cache

/-- what persists in the directory -/
structure Dir where
  rows : List Row
  count : Int
  size : Int
  hits : Int
  misses : Int
  statistics : Bool
  files : List (Nat × Content)
  nfile : Nat
  cfg : Cfg

def dirOf (s : Cache) : Dir :=
  { rows := s.rows, count := s.count, size := s.size, hits := s.hits, misses := s.misses,
    statistics := s.statistics, files := s.files, nfile := s.nfile, cfg := s.cfg }

/-- a handle with no transaction block open -/
def Idle (s : Cache) : Prop := s.depth = 0

/-- opening the directory again (close + reopen, unpickling, a second handle, another process):
a fresh handle on the same directory -/
def reopen (s : Cache) : Cache :=
  { rows := s.rows, count := s.count, size := s.size, hits := s.hits, misses := s.misses,
    statistics := s.statistics, files := s.files, nfile := s.nfile, cfg := s.cfg }

/-- reopening never loses or alters items, counters, files or settings -/
theorem reopen_dir (s : Cache) : dirOf (reopen s) = dirOf s ∧ Idle (reopen s) :=
  ⟨rfl, rfl⟩

private theorem sim_iff (s t : Cache) :
    Sim s t ↔ dirOf s = dirOf t ∧ Idle s ∧ Idle t ∧ s.env = t.env := by
  simp only [dirOf, Dir.mk.injEq, Idle]
  constructor
  · intro h
    exact ⟨⟨h.rows, h.count, h.size, h.hits, h.misses, h.statistics, h.files, h.nfile, h.cfg⟩,
      h.ds, h.dt, h.env⟩
  · rintro ⟨⟨h1, h2, h3, h4, h5, h6, h7, h8, h9⟩, hs, ht, he⟩
    exact ⟨h1, h2, h3, h4, h5, h6, h7, h8, h9, he, hs, ht⟩

/-- for every call (outside a block), two handles on the same directory
that receive the same observations return the same result and leave the same directory -/
theorem handle_independent (s t : Cache) (op : Op) (hd : dirOf s = dirOf t) (hs : Idle s) (ht : Idle t)
    (henv : s.env = t.env) (hf : op.flat = true) :
    (s.step op).2 = (t.step op).2 ∧ dirOf (s.step op).1 = dirOf (t.step op).1 ∧
    Idle (s.step op).1 ∧ Idle (t.step op).1 ∧ (s.step op).1.env = (t.step op).1.env := by
  have h := step_sim ((sim_iff s t).2 ⟨hd, hs, ht, henv⟩) op hf
  obtain ⟨h1, h2, h3, h4⟩ := (sim_iff _ _).1 h.1
  exact ⟨h.2, h1, h2, h3, h4⟩

/-- a reopen / pickle / second-handle event before a call (the fresh handle receiving the
observations `s.env` still to come) changes neither the call's result nor the directory it leaves;
with `handle_independent`, call by call, the same holds anywhere in a history of calls -/
theorem reopen_anywhere (s : Cache) (op : Op) (hs : Idle s) (hf : op.flat = true) :
    ((reopen s |>.step (.observe s.env)).1.step op).2 = (s.step op).2 ∧
    dirOf ((reopen s |>.step (.observe s.env)).1.step op).1 = dirOf (s.step op).1 := by
  have h0 : Sim (reopen s |>.step (.observe s.env)).1 s :=
    (sim_iff _ _).2 ⟨rfl, rfl, hs, rfl⟩
  have h := step_sim h0 op hf
  exact ⟨h.2, ((sim_iff _ _).1 h.1).1⟩

end DC.Cache
