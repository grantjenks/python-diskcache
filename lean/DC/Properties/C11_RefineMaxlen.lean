/-
C11 (refinement, continued) — the `maxlen` setter: the bound is set and, inside one
transaction block, items are popped from the front while the deque is longer than the bound.
-/
import DC.Properties.C11_RefineBase

namespace DC.Deque
open DC.Cache DC.Spec DC.DSpec

theorem trimLoop_zero (E : Externals) (now : Int) (m : Nat) (X : Cache) : trimLoop E now m 0 X = X := rfl

theorem trimLoop_succ (E : Externals) (now : Int) (m : Nat) (fuel : Nat) (X : Cache) :
    trimLoop E now m (fuel + 1) X =
      if X.count > (m : Int) then trimLoop E now m fuel (X.pull E now none true false false).1 else X := rfl

/-- the trimming loop inside the block: the queue keeps its last `m` rows -/
theorem trimLoop_all (E : Externals) (now : Int) (m : Nat) : ∀ (fuel : Nat) (X : Cache), drf_BI X →
    (∀ a ∈ X.rows, drf_Readable (rf_ent X a)) → (∀ a ∈ X.rows, a.expT = none) →
    (∀ a ∈ X.rows, qfilter none a = true) → X.rows.length ≤ fuel + m →
    drf_BI (trimLoop E now m fuel X) ∧
    (trimLoop E now m fuel X).queueRows none =
      (X.queueRows none).drop ((X.queueRows none).length - m) ∧
    drf_Sub X (trimLoop E now m fuel X) := by
  intro fuel
  induction fuel with
  | zero =>
    intro X hBI _ _ hq hlen
    have hql : (X.queueRows none).length = X.rows.length := queueRows_length_all hq
    rw [trimLoop_zero]
    refine ⟨hBI, ?_, .refl X⟩
    rw [show (X.queueRows none).length - m = 0 by omega]; rfl
  | succ fuel ih =>
    intro X hBI hrd hexp hq hlen
    have hql : (X.queueRows none).length = X.rows.length := queueRows_length_all hq
    have hcount : X.count = (X.rows.length : Int) := hBI.tinv.tbl.count
    rw [trimLoop_succ]
    by_cases hgt : X.count > (m : Int)
    · rw [if_pos hgt]
      have hlt : m < X.rows.length := by rw [hcount] at hgt; omega
      cases hQ : X.queueRows none with
      | nil => rw [hQ] at hql; simp only [List.length_nil] at hql; omega
      | cons r0 T =>
        obtain ⟨hBI2, hp2, hsub⟩ := drf_stage_pull_end X E now true hBI hrd hexp
          (by rw [hQ]; exact List.cons_ne_nil _ _)
        rw [hQ] at hp2
        simp only [if_true, List.tail_cons] at hp2
        generalize (X.pull E now none true false false).1 = Y at hBI2 hsub hp2 ⊢
        have hqY : ∀ a ∈ Y.rows, qfilter none a = true := fun a ha => hq a (hsub.rows a ha)
        have hqlY : (Y.queueRows none).length = Y.rows.length := queueRows_length_all hqY
        have hlenY : Y.rows.length ≤ fuel + m := by
          rw [← hqlY, hp2]
          rw [hQ] at hql
          simp only [List.length_cons] at hql
          omega
        obtain ⟨g1, g2, g3⟩ := ih Y hBI2
          (fun a ha => by rw [hsub.entries a ha]; exact hrd a (hsub.rows a ha))
          (fun a ha => hexp a (hsub.rows a ha)) hqY hlenY
        refine ⟨g1, ?_, hsub.trans g3⟩
        rw [g2, hp2]
        rw [hQ] at hql
        simp only [List.length_cons] at hql ⊢
        rw [show T.length + 1 - m = (T.length - m) + 1 by omega]
        rfl
    · rw [if_neg hgt]
      refine ⟨hBI, ?_, .refl X⟩
      have : X.rows.length ≤ m := by rw [hcount] at hgt; omega
      rw [show (X.queueRows none).length - m = 0 by omega]; rfl

theorem setMaxlen_eq (d : Deque) (E : Externals) (now : Int) (k : Nat) :
    d.setMaxlen E now k =
      ({ cache := (trimLoop E now k (d.cache.tbegin.rows.length + 1) d.cache.tbegin).tend, maxlen := some k },
        .none) := rfl

theorem setMaxlen_state (d : Deque) (n : Nat) (E : Externals) (now : Int) (k : Nat) (hok : OkN d n) :
    let d' := (d.setMaxlen E now k).1
    Cache.Good d'.cache ∧ d'.cache.cfg = d.cache.cfg ∧ d'.cache.statistics = d.cache.statistics ∧
    d'.maxlen = some k ∧
    items d' = (items d).drop ((items d).length - k) ∧
    (∀ a ∈ d'.cache.rows, a ∈ d.cache.rows ∧ rf_ent d'.cache a = rf_ent d.cache a) := by
  intro d'
  obtain ⟨hBI0, -⟩ := drf_BI_tbegin d.cache hok.good
  obtain ⟨hcore0, -, -⟩ := drf_tbegin_core d.cache hok.good
  have hrows0 : d.cache.tbegin.rows = d.cache.rows := congrArg Core.rows hcore0
  have hsub0 : drf_Sub d.cache d.cache.tbegin :=
    ⟨congrArg Core.cfg hcore0, congrArg Core.statistics hcore0, fun a ha => hrows0 ▸ ha,
      fun a _ => drf_ent_files (congrArg Core.files hcore0) a⟩
  obtain ⟨g1, g2, g3⟩ := trimLoop_all E now k (d.cache.tbegin.rows.length + 1) d.cache.tbegin hBI0
    (fun a ha => by rw [hsub0.entries a ha]; exact hok.readable a (hsub0.rows a ha))
    (fun a ha => hok.noexp a (hsub0.rows a ha))
    (fun a ha => (mem_qrows.1 (hok.allq' a (hsub0.rows a ha))).2)
    (by omega)
  have hd' : d'.cache = (trimLoop E now k (d.cache.tbegin.rows.length + 1) d.cache.tbegin).tend := rfl
  generalize trimLoop E now k (d.cache.tbegin.rows.length + 1) d.cache.tbegin = Y at g1 g2 g3 hd'
  obtain ⟨hg', hq', hsub'⟩ := drf_stage_tend Y g1
  rw [← hd'] at hg' hq' hsub'
  have hsub := (hsub0.trans g3).trans hsub'
  refine ⟨hg', hsub.cfg, hsub.statistics, rfl, ?_, fun a ha => ⟨hsub.rows a ha, hsub.entries a ha⟩⟩
  show d'.cache.queueRows none = _
  rw [hq', g2, tbegin_queueRows]
  rfl

theorem setMaxlen_drefines (d : Deque) (m : DList) (n : Nat) (E : Externals) (now : Int) (k : Nat)
    (hok : OkN d n) (hr : DRefines d m) :
    (d.setMaxlen E now k).2 = (DSpec.setMaxlen m k).2 ∧
    DRefines (d.setMaxlen E now k).1 (DSpec.setMaxlen m k).1 := by
  obtain ⟨-, -, -, hml, hitems, hent⟩ := setMaxlen_state d n E now k hok
  refine ⟨rfl, ?_, hml⟩
  show (items (d.setMaxlen E now k).1).map (entryOfRow (d.setMaxlen E now k).1.cache) =
    m.items.drop (m.items.length - k)
  rw [map_entries_congr (fun a ha => (hent a ha).2), hitems, List.map_drop, hr.1, ← hr.1, List.length_map]

theorem setMaxlen_okN (d : Deque) (n : Nat) (E : Externals) (now : Int) (k : Nat) (hok : OkN d n) :
    OkN (d.setMaxlen E now k).1 n := by
  obtain ⟨hg, hcfg, hst, hml, hitems, hent⟩ := setMaxlen_state d n E now k hok
  have h1 : OkN { cache := (d.setMaxlen E now k).1.cache, maxlen := d.maxlen } n :=
    hok.shrink hg hcfg hst rfl (fun a ha => (hent a ha).1) (fun a ha => (hent a ha).2)
      (by
        show (items (d.setMaxlen E now k).1).length ≤ _
        rw [hitems, List.length_drop]; omega)
  exact { h1 with
    bounded := by
      intro j hj
      rw [hml] at hj
      cases hj
      rw [hitems, List.length_drop]
      omega }

theorem setMaxlen_cfg (d : Deque) (n : Nat) (E : Externals) (now : Int) (k : Nat) (hok : OkN d n) :
    (d.setMaxlen E now k).1.cache.cfg = d.cache.cfg := (setMaxlen_state d n E now k hok).2.1

end DC.Deque
