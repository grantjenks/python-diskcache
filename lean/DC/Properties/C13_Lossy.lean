/-
C13 (refinement under an eviction policy) — a sharded cache is observably ONE cache that may
lose items: for EVERY eviction policy FanoutCache refines the *lossy* reference dictionary
(`Spec.runLossy`, DC/Proofs/LossyDefs.lean: the dictionary of DC/Model/Spec.lean from which, after each call, the keys of the rows
that call evicted are dropped), for every history of key-addressed calls and bulk removals,
whatever the number of shards.  This is the case that matters to users: FanoutCache (and
DjangoCache) run with the DEFAULT policy least-recently-stored and the size limit DIVIDED among
the shards (fanout.py: `size_limit / shards`; `C13.limit_divided`), which `frun_refines`
(C13_Refine, policy `none`) excludes.

Built from `Cache.step_refines_lossy` (C03_Refine) per shard — nothing about `_cull` is re-proved.

What is true, and what is NOT:
 * **Eviction is per shard, not global.**  `FEvicted f op LL` lists the evicted rows SHARD BY
   SHARD, and each list is a `Cache.Evicted` fact about that shard alone: a key-addressed call
   evicts only on the shard of its key (`fevicted_untouched`); that shard evicts only when ITS
   volume reached ITS limit — the total limit divided by the number of shards
   (`fevicted_below_limit`) —, at most `cull_limit` rows per write (`fevicted_write_bound`), and
   in the policy's order AMONG ITS OWN ROWS (`fevicted_order`).  `cull()` runs on every shard, so
   its drops can come from several shards (no bound).
 * Consequently a sharded cache can evict an item that ONE cache with the total limit would have
   kept, and can evict a newer item while an older one survives in another shard:
   `fanout_evicts_what_one_cache_keeps`, `fanout_eviction_not_global_order`.
 * `hpl : FPlacedOn V f` — every stored row sits in the shard its key is routed to
   (true of `Fanout.init`: `fplaced_init`; kept by every call: part of `fstep_refines_lossy`).
   Without eviction a row in a foreign shard is unobservable (C13_Refine says so); with
   eviction it is not: `fstep_refines_lossy_needs_placed`.
 * The routing hypothesis `RouteOK` (finding D11: `1` and `1.0`) is as in C13_Refine.
 * As in C03_Lossy / C13_Refine the integer results of clear / evict / expire / cull are masked.
-/
import DC.Proofs.FLossyKeyed

namespace DC.Fanout
open DC.Cache DC.Spec

/-! ### one call -/

theorem flz_getD_single (L : List Row) (n i j : Nat) (hi : i < n) :
    ((List.replicate n ([] : List Row)).set i L).getD j [] = if j = i then L else [] := by
  rw [List.getD_eq_getElem?_getD, List.getElem?_set]
  by_cases hji : j = i
  · subst hji; simp [hi]
  · rw [if_neg (Ne.symm hji), if_neg hji]
    by_cases hj : j < n
    · simp [hj]
    · rw [List.getElem?_eq_none (by simp; omega)]; rfl

theorem flz_getD_mem {LL : List (List Row)} {L : List Row} (h : L ∈ LL) : ∃ i, i < LL.length ∧ LL.getD i [] = L := by
  obtain ⟨i, hi, rfl⟩ := List.getElem_of_mem h
  exact ⟨i, hi, flz_getD_lt _ hi⟩

theorem flz_flatten_one : ∀ (LL : List (List Row)) (i : Nat), (∀ j, j ≠ i → LL.getD j [] = []) →
    LL.flatten = LL.getD i []
  | [], _, _ => rfl
  | L :: LL, 0, h => by
    have ht : LL.flatten = [] := List.flatten_eq_nil_iff.2 (fun L' hL' => by
      obtain ⟨j, hj, rfl⟩ := flz_getD_mem hL'
      exact h (j + 1) (Nat.succ_ne_zero j))
    rw [List.flatten_cons, ht, List.append_nil]
    rfl
  | L :: LL, i + 1, h => by
    have h0 : L = [] := h 0 (Nat.succ_ne_zero i).symm
    rw [List.flatten_cons, h0, List.nil_append]
    exact flz_flatten_one LL i (fun j hj => h (j + 1) (fun e => hj (Nat.succ.inj e)))

theorem flz_bulk_opKey {op : Cache.Op} (h : frf_isBulk op = true) : frf_opKey op = none := by
  cases op <;> simp only [frf_isBulk, Bool.false_eq_true] at h <;> rfl

theorem flz_keyed_not_bulk {op : Cache.Op} {E : Externals} {k : PyVal}
    (h : frf_opKey op = some (E, k)) : frf_isBulk op = false := by
  cases hb : frf_isBulk op with
  | false => rfl
  | true => rw [flz_bulk_opKey hb] at h; cases h

theorem flz_step_fgoodAny (f : Fanout) (op : Cache.Op) (hg : FGoodAny f) (hk : Keyed op = true) :
    FGoodAny (f.step op).1 ∧ fcfg (f.step op).1 = fcfg f ∧
      (f.step op).1.shards.length = f.shards.length := by
  have hshard : ∀ s ∈ f.shards, ∀ env,
      Good ((prep s env).step op).1 ∧ ((prep s env).step op).1.cfg = fcfg f := fun s hs env =>
    ⟨Cache.step_good _ op hk (frf_prep_good (hg.good s hs) env),
      (rf_step_cfg_gen (prep s env) op hk).trans (hg.cfg s hs)⟩
  rcases frf_keyed_cases op hk with ⟨E, k, hkey⟩ | hb
  · rw [(frf_step_keyed f op E k hkey).1]
    exact flz_fgood_of_all hg (onShard_length f _ _)
      (onShard_forall f _ _ _ (fun s hs => ⟨hg.good s hs, hg.cfg s hs⟩) (fun s hs => hshard s hs f.env))
  · rw [(frf_step_bulk f op hb).1]
    exact flz_fgood_of_all hg (each_pointwise f _).2.1 (each_forall f _ _ hshard)

/-- **one call, every policy**: its result is the dictionary's result; there is a family `LL` of
evicted rows, one list per shard (`FEvicted`: only where and what C09 allows, shard by shard),
such that the state after the call represents the dictionary after the call minus the keys of
those rows, each of which held an unexpired entry; invariant, placement, configuration and number
of shards are kept. -/
theorem fstep_refines_lossy (V : Spec.Key → Prop) (f : Fanout) (m : Spec.Dict) (clock : Int)
    (op : Cache.Op)
    (hg : FGoodAny f) (hpl : FPlacedOn V f) (hr : FRefinesOn V f m clock) (hk : Keyed op = true)
    (hm : ∀ n, opClock op = some n → clock ≤ n)
    (hV : ∀ E k, frf_opKey op = some (E, k) → V (keyOf E (fcfg f) k))
    (hroute : ∀ E k, frf_opKey op = some (E, k) → ∀ b, V b →
      sameKey (keyOf E (fcfg f) k) b = true → routeK f b = routeK f (keyOf E (fcfg f) k)) :
    (if Determined op then (f.step op).2 else .none) = (Spec.step m (fcfg f) op).2 ∧
    (∃ LL, FLossyOn V (f.step op).1 (Spec.step m (fcfg f) op).1 ((opClock op).getD clock) LL ∧
      FEvicted f op LL) ∧
    FGoodAny (f.step op).1 ∧ FPlacedOn V (f.step op).1 ∧ fcfg (f.step op).1 = fcfg f ∧
      (f.step op).1.shards.length = f.shards.length := by
  have h2 := flz_step_fgoodAny f op hg hk
  -- the Cache call on a shard, with the shard's configuration written as the fanout's
  have hstep := fun (c : Cache) (m' : Spec.Dict) (hc : Good c) (hcfg : c.cfg = fcfg f)
      (hr' : Refines c m' clock) =>
    hcfg ▸ Cache.step_refines_lossy c m' clock op hc (hcfg ▸ hg.page) hr' hk hm
  rcases frf_keyed_cases op hk with ⟨E, k, hkey⟩ | hb
  · obtain ⟨hst, hdet⟩ := frf_step_keyed f op E k hkey
    obtain ⟨h1, s, L, hs, hsh, hE, hR, hW, hP⟩ :=
      keyed_frefines_lossy V f m clock ((opClock op).getD clock) E k (fun s => s.step op)
        (fun m => Spec.step m (fcfg f) op) (fun c L => Evicted c op L) hg hpl hr
        (frf_clock_le clock op hm) (hV E k hkey) (hroute E k hkey)
        (fun c m' hc hcfg hr' => by
          have := hstep c m' hc hcfg hr'
          rw [hdet, if_pos rfl] at this
          exact ⟨this.1, Cache.step_good c op hk hc, this.2⟩)
        (frf_step_local (fcfg f) op E k hkey)
    have hlt : f.route E k < f.shards.length := route_lt f E k hg.nonempty
    rw [hst] at h2 ⊢
    rw [hdet, if_pos rfl]
    refine ⟨h1, ⟨(List.replicate f.shards.length []).set (f.route E k) L, ⟨?_, ?_⟩, ?_, ?_⟩, h2.1, hP, h2.2⟩
    · unfold fdrops
      rw [flz_flatten_one _ (f.route E k) (fun j hj => by rw [flz_getD_single L _ _ j hlt, if_neg hj]),
        flz_getD_single L _ _ _ hlt, if_pos rfl]
      exact hR
    · intro L' hL' r hrL hVr
      rcases List.mem_or_eq_of_mem_set hL' with h | h
      · rw [(List.mem_replicate.1 h).2] at hrL; cases hrL
      · subst h; exact hW r hrL hVr
    · simp
    · intro i s' hs'
      rw [flz_getD_single L _ _ _ hlt]
      simp only [touches, hkey]
      refine ⟨fun hi => ?_, fun hi => if_neg hi⟩
      subst hi
      rw [hs] at hs'
      rw [← Option.some.inj hs', if_pos rfl]
      refine ⟨f.env, fun _ => rfl, ?_, hE⟩
      rw [hst]; exact hsh
  · obtain ⟨hst, hdet, hout⟩ := frf_step_bulk f op hb
    obtain ⟨LL, hlen, hE, hR, hW, hP⟩ :=
      each_frefines_lossy V f m clock ((opClock op).getD clock) (fun s => s.step op)
        (fun m => Spec.step m (fcfg f) op) (fun c L => Evicted c op L) hg hpl hr
        (frf_clock_le clock op hm)
        (fun c m' hc hcfg hr' => ⟨Cache.step_good c op hk hc, (hstep c m' hc hcfg hr').2⟩)
        (flz_step_pointwise (fcfg f) op _ hb)
    rw [hst] at h2 ⊢
    rw [hdet, hout]
    refine ⟨by simp, ⟨LL, ⟨hR, hW⟩, hlen, ?_⟩, h2.1, hP, h2.2⟩
    intro i s' hs'
    simp only [touches, flz_bulk_opKey hb, not_true_eq_false, false_imp_iff, and_true, true_imp_iff]
    obtain ⟨env, hsh, hEv⟩ := hE i s' hs'
    refine ⟨env, fun h => (by rw [hb] at h; cases h), ?_, hEv⟩
    rw [hst]; exact hsh

/-! ### what may be dropped, shard by shard (C09 through the shards) -/

theorem fevicted_shard {f : Fanout} {op : Cache.Op} {LL : List (List Row)} (h : FEvicted f op LL)
    {i : Nat} (hne : LL.getD i [] ≠ []) :
    ∃ s env, f.shards[i]? = some s ∧ touches f op i ∧ (frf_isBulk op = false → env = f.env) ∧
      (f.step op).1.shards[i]? = some ((prep s env).step op).1 ∧
      Evicted (prep s env) op (LL.getD i []) := by
  have hi : i < f.shards.length := by
    rw [← h.1]
    apply Classical.byContradiction
    intro hge
    exact hne (flz_getD_ge _ (by omega))
  obtain ⟨h1, h2⟩ := h.2 i _ (List.getElem?_eq_getElem hi)
  by_cases ht : touches f op i
  · obtain ⟨env, e1, e2, e3⟩ := h1 ht
    exact ⟨_, env, List.getElem?_eq_getElem hi, ht, e1, e2, e3⟩
  · exact absurd (h2 ht) hne

/-- **a key-addressed call evicts only on the shard of its key** -/
theorem fevicted_untouched {f : Fanout} {op : Cache.Op} {LL : List (List Row)} (h : FEvicted f op LL)
    {E : Externals} {k : PyVal} (hkey : frf_opKey op = some (E, k)) (i : Nat) (hi : i ≠ f.route E k) :
    LL.getD i [] = [] := by
  apply Classical.byContradiction
  intro hne
  obtain ⟨s, env, -, ht, -⟩ := fevicted_shard h hne
  simp only [touches, hkey] at ht
  exact hi ht

/-- (a) only `set`, `add`, `incr` and `cull` evict -/
theorem fevicted_other {f : Fanout} {op : Cache.Op} {LL : List (List Row)} (h : FEvicted f op LL)
    (hop : evicts op = false) : ∀ L ∈ LL, L = [] := by
  intro L hL
  obtain ⟨i, -, rfl⟩ := flz_getD_mem hL
  apply Classical.byContradiction
  intro hne
  obtain ⟨s, env, -, -, -, -, hE⟩ := fevicted_shard h hne
  exact hne (evicted_other hE hop)

/-- (a) policy `none` never evicts: `frun_refines` (C13_Refine) is the special case -/
theorem fevicted_policy_none {f : Fanout} {op : Cache.Op} {LL : List (List Row)} (hg : FGoodAny f)
    (h : FEvicted f op LL) (hp : (fcfg f).policy = .none) : ∀ L ∈ LL, L = [] := by
  intro L hL
  obtain ⟨i, -, rfl⟩ := flz_getD_mem hL
  apply Classical.byContradiction
  intro hne
  obtain ⟨s, env, hs, -, -, -, hE⟩ := fevicted_shard h hne
  refine hne (evicted_policy_none hE ?_)
  show s.cfg.policy = .none
  rw [hg.cfg s (List.mem_of_getElem? hs)]; exact hp

theorem fdrops_keyed {f : Fanout} {op : Cache.Op} {LL : List (List Row)} (h : FEvicted f op LL)
    {E : Externals} {k : PyVal} (hkey : frf_opKey op = some (E, k)) :
    fdrops LL = (LL.getD (f.route E k) []).map rowKey := by
  unfold fdrops
  rw [flz_flatten_one LL (f.route E k) (fun j hj => fevicted_untouched h hkey j hj)]

theorem flz_writeKey_opKey {cfg : Cfg} {op : Cache.Op} {K : Spec.Key} (h : writeKey cfg op = some K) :
    ∃ E k, frf_opKey op = some (E, k) ∧ K = keyOf E cfg k := by
  cases op <;> simp only [writeKey, Option.some.injEq, reduceCtorEq] at h <;> exact ⟨_, _, rfl, h.symm⟩

/-- (b) **one write evicts at most `cull_limit` rows in all** (it evicts on one shard only);
`cull()` is not bounded: it runs the eviction loop on every shard -/
theorem fevicted_write_bound {f : Fanout} {op : Cache.Op} {LL : List (List Row)} (hg : FGoodAny f)
    (h : FEvicted f op LL) {K : Spec.Key} (hK : writeKey (fcfg f) op = some K) :
    (fdrops LL).length ≤ (fcfg f).cullLimit := by
  obtain ⟨E, k, hkey, -⟩ := flz_writeKey_opKey hK
  rw [fdrops_keyed h hkey, List.length_map]
  by_cases hne : LL.getD (f.route E k) [] = []
  · rw [hne]; exact Nat.zero_le _
  · obtain ⟨s, env, hs, -, -, -, hE⟩ := fevicted_shard h hne
    have hc : (prep s env).cfg = fcfg f := hg.cfg s (List.mem_of_getElem? hs)
    exact hc ▸ (evicted_bound hE (K := K) (hc ▸ hK)).1

/-- (a) **a write evicts nothing when the volume of THE SHARD OF ITS KEY is below THAT SHARD's
limit**: database pages of that shard as observed (`pb`) + its size counter + the size of the
value file written, against `fcfg f` — the configuration of a shard, whose limit is the total
limit divided by the number of shards (`C13.limit_divided`, `fcfg_init`).  The other shards, and
the total, play no role. -/
theorem fevicted_below_limit {f : Fanout} {op : Cache.Op} {LL : List (List Row)} (hg : FGoodAny f)
    (h : FEvicted f op LL) {E : Externals} {k : PyVal} (hkey : frf_opKey op = some (E, k))
    {K : Spec.Key} (hK : writeKey (fcfg f) op = some K)
    (s : Cache) (hs : f.shards[f.route E k]? = some s) (pb : Nat) (rest : List Nat)
    (henv : f.env = pb :: rest)
    (hb : belowLimit (fcfg f) ((pb : Int) + s.size + opWriteSize (fcfg f) op) = true) :
    ∀ L ∈ LL, L = [] := by
  have hall : LL.getD (f.route E k) [] = [] := by
    apply Classical.byContradiction
    intro hne
    obtain ⟨s', env, hs', -, henv', -, hE⟩ := fevicted_shard h hne
    rw [hs] at hs'
    have hs'' := Option.some.inj hs'
    subst hs''
    rw [henv' (flz_keyed_not_bulk hkey)] at hE
    have hc : (prep s f.env).cfg = fcfg f := hg.cfg s (List.mem_of_getElem? hs)
    exact hne (evicted_below_limit_simple hE (K := K) (hc ▸ hK) pb rest henv (hc ▸ hb))
  intro L hL
  obtain ⟨i, -, rfl⟩ := flz_getD_mem hL
  by_cases hi : i = f.route E k
  · rw [hi]; exact hall
  · exact fevicted_untouched h hkey i hi

/-- (c) **eviction follows the policy order WITHIN EACH SHARD**: a row evicted on shard `i` never
has a larger policy key (store time / access time / access count) than a row that survives ON
SHARD `i`.  Nothing is claimed across shards, and nothing holds: `fanout_eviction_not_global_order`. -/
theorem fevicted_order {f : Fanout} {op : Cache.Op} {LL : List (List Row)} (hg : FGoodAny f)
    (h : FEvicted f op LL) (i : Nat) (s' : Cache) (hs' : (f.step op).1.shards[i]? = some s') :
    ∀ r ∈ LL.getD i [], ∀ w ∈ s'.rows,
      policyKey (fcfg f).policy r ≤ policyKey (fcfg f).policy w := by
  intro r hr w hw
  have hne : LL.getD i [] ≠ [] := fun h0 => by rw [h0] at hr; cases hr
  obtain ⟨s, env, hs, -, -, hsh, hE⟩ := fevicted_shard h hne
  rw [hsh] at hs'
  rw [← Option.some.inj hs'] at hw
  have hc : (prep s env).cfg = fcfg f := hg.cfg s (List.mem_of_getElem? hs)
  exact hc ▸ evicted_order hE r hr w hw

/-! ### histories -/

/-- the history theorem on a set of keys `V`, with everything the induction carries -/
theorem frun_refines_lossy_strong (V : Spec.Key → Prop) (f : Fanout) (m : Spec.Dict) (clock : Int)
    (ops : List Cache.Op)
    (hg : FGoodAny f) (hpl : FPlacedOn V f) (hr : FRefinesOn V f m clock)
    (hk : ∀ op ∈ ops, Keyed op = true) (hm : Monotone clock ops)
    (hV : ∀ K, histKeys (fcfg f) ops K → V K)
    (hroute : RouteOK f (histKeys (fcfg f) ops) V) :
    ∃ LLs : List (List (List Row)), FEvictedRun f ops LLs ∧
      outs f ops = Spec.outsLossy m (fcfg f) ops (LLs.map fdrops) ∧
      FRefinesOn V (f.run ops) (Spec.runLossy m (fcfg f) ops (LLs.map fdrops)) (lastClock clock ops) ∧
      FGoodAny (f.run ops) ∧ FPlacedOn V (f.run ops) ∧ fcfg (f.run ops) = fcfg f ∧
      (f.run ops).shards.length = f.shards.length := by
  induction ops generalizing f m clock with
  | nil => exact ⟨[], rfl, rfl, hr, hg, hpl, rfl, rfl⟩
  | cons op ops ih =>
    have hkop := hk op List.mem_cons_self
    obtain ⟨hm1, hm'⟩ := (monotone_cons clock op ops).1 hm
    have hHop : ∀ E k, frf_opKey op = some (E, k) → histKeys (fcfg f) (op :: ops) (keyOf E (fcfg f) k) :=
      fun E k h => ⟨op, List.mem_cons_self, E, k, h, rfl⟩
    obtain ⟨h1, ⟨LL, hL, hE⟩, h3, hp3, h4, h5⟩ := fstep_refines_lossy V f m clock op hg hpl hr hkop hm1
      (fun E k h => hV _ (hHop E k h))
      (fun E k h b hb hs => (hroute _ b (hHop E k h) hb hs).symm)
    obtain ⟨LLs, i0, i1, i2, i3, ip, i4, i5⟩ := ih (f.step op).1
      (dropKeys (Spec.step m (fcfg f) op).1 (fdrops LL))
      ((opClock op).getD clock) h3 hp3 hL.refines (fun o ho => hk o (List.mem_cons_of_mem _ ho)) hm'
      (by rw [h4]; exact fun K hK => hV K (frf_histKeys_cons hK))
      (by
        rw [h4]
        intro a b ha hb hs
        rw [frf_routeK_length h5, frf_routeK_length h5]
        exact hroute a b (frf_histKeys_cons ha) hb hs)
    rw [h4] at i1 i2
    refine ⟨LL :: LLs, ⟨hE, i0⟩, ?_, ?_, i3, ip, i4.trans h4, i5.trans h5⟩
    · show _ :: _ = _ :: _
      rw [h1, i1]; rfl
    · rw [frf_run_cons]; exact i2

/-- **the history theorem for every eviction policy, relative to a set of keys** `V` containing
the keys of the history -/
theorem frun_refines_lossy_on (V : Spec.Key → Prop) (f : Fanout) (m : Spec.Dict) (clock : Int)
    (ops : List Cache.Op)
    (hg : FGoodAny f) (hpl : FPlacedOn V f) (hr : FRefinesOn V f m clock)
    (hk : ∀ op ∈ ops, Keyed op = true) (hm : Monotone clock ops)
    (hV : ∀ K, histKeys (fcfg f) ops K → V K)
    (hroute : RouteOK f (histKeys (fcfg f) ops) V) :
    ∃ LLs : List (List (List Row)), FEvictedRun f ops LLs ∧
      outs f ops = Spec.outsLossy m (fcfg f) ops (LLs.map fdrops) ∧
      ∃ clock', FRefinesOn V (f.run ops) (Spec.runLossy m (fcfg f) ops (LLs.map fdrops)) clock' := by
  obtain ⟨LLs, h0, h1, h2, -⟩ := frun_refines_lossy_strong V f m clock ops hg hpl hr hk hm hV hroute
  exact ⟨LLs, h0, h1, _, h2⟩

/-- **the history theorem for every eviction policy**: "a sharded cache is observably ONE cache" —
one that may lose items.  For every history of key-addressed calls and bulk removals with a
non-decreasing clock there is, per call, a family of evicted rows — one list PER SHARD
(`FEvictedRun` / `FEvicted`: a key-addressed call evicts on the shard of its key only, and only
where and what C09 allows for THAT shard: its volume against its share of the size limit, at most
`cull_limit` rows, unexpired, in the policy's order among the rows of that shard; `cull` may evict
on every shard) — such that every call returns what the ONE reference dictionary returns when the
keys of those rows are dropped after each call, and the final states correspond.
Eviction order is per shard, NOT global (`fanout_eviction_not_global_order`).
`hroute`: as in `frun_refines` (finding D11); `hpl`: every row sits in the shard of its key. -/
theorem frun_refines_lossy (f : Fanout) (m : Spec.Dict) (clock : Int) (ops : List Cache.Op)
    (hg : FGoodAny f) (hpl : FPlaced f) (hr : FRefines f m clock)
    (hk : ∀ op ∈ ops, Keyed op = true) (hm : Monotone clock ops)
    (hroute : RouteOK f (histKeys (fcfg f) ops) (fun _ => True)) :
    ∃ LLs : List (List (List Row)), FEvictedRun f ops LLs ∧
      outs f ops = Spec.outsLossy m (fcfg f) ops (LLs.map fdrops) ∧
      ∃ clock', FRefines (f.run ops) (Spec.runLossy m (fcfg f) ops (LLs.map fdrops)) clock' :=
  frun_refines_lossy_on (fun _ => True) f m clock ops hg hpl hr hk hm (fun _ _ => trivial) hroute

/-- **histories without numeric keys**: no routing hypothesis is left -/
theorem frun_refines_lossy_nonnumeric (f : Fanout) (m : Spec.Dict) (clock : Int) (ops : List Cache.Op)
    (hg : FGoodAny f) (hpl : FPlaced f) (hr : FRefines f m clock)
    (hk : ∀ op ∈ ops, Keyed op = true) (hm : Monotone clock ops)
    (hkeys : histPyAll (fun k => !pyIsNumber k) ops = true) :
    ∃ LLs : List (List (List Row)), FEvictedRun f ops LLs ∧
      outs f ops = Spec.outsLossy m (fcfg f) ops (LLs.map fdrops) ∧
      ∃ clock', FRefines (f.run ops) (Spec.runLossy m (fcfg f) ops (LLs.map fdrops)) clock' :=
  frun_refines_lossy f m clock ops hg hpl hr hk hm
    (routeOK_of_nonnumeric f ops _ (fun op hop E k hkey => by
      simpa using frf_histPyAll hkeys op hop E k hkey))

/-- **histories without float keys**: the relation on the keys that are not floats is kept -/
theorem frun_refines_lossy_no_float (f : Fanout) (m : Spec.Dict) (clock : Int) (ops : List Cache.Op)
    (hg : FGoodAny f) (hpl : FPlacedOn (fun k => notReal k = true) f)
    (hr : FRefinesOn (fun k => notReal k = true) f m clock)
    (hk : ∀ op ∈ ops, Keyed op = true) (hm : Monotone clock ops)
    (hkeys : histKeyAll (fcfg f) notReal ops = true) :
    ∃ LLs : List (List (List Row)), FEvictedRun f ops LLs ∧
      outs f ops = Spec.outsLossy m (fcfg f) ops (LLs.map fdrops) ∧
      ∃ clock', FRefinesOn (fun k => notReal k = true) (f.run ops)
        (Spec.runLossy m (fcfg f) ops (LLs.map fdrops)) clock' :=
  frun_refines_lossy_on _ f m clock ops hg hpl hr hk hm (frf_histKeyAll hkeys)
    (routeOK_of_no_real f _ _ (fun a ha => frf_notReal (frf_histKeyAll hkeys a ha))
      (fun _ hb => frf_notReal hb))

theorem fevictedRun_policy_none (f : Fanout) (ops : List Cache.Op) (LLs : List (List (List Row)))
    (hg : FGoodAny f) (hk : ∀ op ∈ ops, Keyed op = true) (hp : (fcfg f).policy = .none)
    (h : FEvictedRun f ops LLs) : ∀ LL ∈ LLs, fdrops LL = [] := by
  induction ops generalizing f LLs with
  | nil => intro LL hL; rw [show LLs = [] from h] at hL; exact absurd hL List.not_mem_nil
  | cons op ops ih =>
    cases LLs with
    | nil => exact absurd h id
    | cons LL0 LLs =>
      obtain ⟨hgood, hcfg, -⟩ := flz_step_fgoodAny f op hg (hk op List.mem_cons_self)
      intro LL hL
      rcases List.mem_cons.1 hL with rfl | hL
      · unfold fdrops
        rw [List.flatten_eq_nil_iff.2 (fevicted_policy_none hg h.1 hp)]; rfl
      · exact ih (f.step op).1 LLs hgood (fun o ho => hk o (List.mem_cons_of_mem _ ho))
          (by rw [hcfg]; exact hp) h.2 LL hL

/-- `frun_refines` (C13_Refine) re-derived from the lossy history theorem for a fanout whose rows
sit in their shards: without an eviction policy every drop list is empty and the lossy dictionary
is the dictionary.  (`frun_refines` itself does not need `FPlaced`: without eviction a row in a
foreign shard is unobservable.) -/
theorem frun_refines_from_lossy (f : Fanout) (m : Spec.Dict) (clock : Int) (ops : List Cache.Op)
    (hg : FGood f) (hpl : FPlaced f) (hr : FRefines f m clock) (hk : ∀ op ∈ ops, Keyed op = true)
    (hm : Monotone clock ops)
    (hroute : RouteOK f (histKeys (fcfg f) ops) (fun _ => True)) :
    outs f ops = Spec.outs m (fcfg f) ops ∧
    ∃ clock', FRefines (f.run ops) (Spec.run m (fcfg f) ops) clock' := by
  obtain ⟨LLs, h0, h1, clock', h2⟩ := frun_refines_lossy f m clock ops hg.toAny hpl hr hk hm hroute
  have hnil : ∀ d ∈ LLs.map fdrops, d = [] := by
    intro d hd
    obtain ⟨LL, hL, rfl⟩ := List.mem_map.1 hd
    exact fevictedRun_policy_none f ops LLs hg.toAny hk hg.policy h0 LL hL
  obtain ⟨e1, e2⟩ := runLossy_nils m (fcfg f) ops _ hnil
  rw [e2] at h1
  rw [e1] at h2
  exact ⟨h1, clock', h2⟩

/-! ### the empty fanout, with observations -/

theorem fgoodAny_init (n : Nat) (cf : Cfg) (st : Bool) (hn : 1 ≤ n) (hpg : 0 < cf.page) :
    FGoodAny (Fanout.init n cf st) := by
  refine ⟨frf_init_nonempty n cf st hn, ?_, ?_, ?_⟩
  · intro s hs
    rw [frf_init_mem hs]
    exact good_init _ _
  · intro s hs
    rw [fcfg_init n cf st hn, frf_init_mem hs]
  · rw [fcfg_init n cf st hn]; exact hpg

theorem fplaced_init (n : Nat) (cf : Cfg) (st : Bool) (V : Spec.Key → Prop) :
    FPlacedOn V (Fanout.init n cf st) := by
  intro i s hs r hr
  rw [frf_init_mem (List.mem_of_getElem? hs)] at hr
  cases hr

theorem fgoodAny_env {f : Fanout} (h : FGoodAny f) (env : List Nat) : FGoodAny { f with env := env } :=
  ⟨h.nonempty, h.good, h.cfg, h.page⟩

theorem fplaced_env {V : Spec.Key → Prop} {f : Fanout} (h : FPlacedOn V f) (env : List Nat) :
    FPlacedOn V { f with env := env } := h

theorem frefines_env {V : Spec.Key → Prop} {f : Fanout} {m : Spec.Dict} {clock : Int}
    (h : FRefinesOn V f m clock) (env : List Nat) : FRefinesOn V { f with env := env } m clock := h

/-! ### what a user sees -/

theorem flz_run_append (f : Fanout) (a b : List Cache.Op) : f.run (a ++ b) = (f.run a).run b := by
  unfold run; rw [List.foldl_append]

theorem flz_histKeys_append_left {cfg : Cfg} {a b : List Cache.Op} {K : Spec.Key}
    (h : histKeys cfg a K) : histKeys cfg (a ++ b) K := by
  obtain ⟨o, ho, r⟩ := h
  exact ⟨o, List.mem_append_left _ ho, r⟩

/-- **what a user sees, every policy**: after any history of key-addressed calls with a
non-decreasing clock on a fresh sharded cache (any number of shards, any policy, any
database-size observations), `get` returns exactly what `get` on the lossy dictionary built by that
history returns: the value *last stored* under the key (with its expiry time / tag) if the key was
stored and since then neither removed, nor expired at `now`, nor evicted (by a write to ITS shard
that found THAT shard at its share of the size limit, or by `cull`) — never a stale or foreign
value —, the default otherwise.  `hroute`: finding D11 (automatic for non-numeric keys:
`routeOK_of_nonnumeric`). -/
theorem get_after_history_lossy (n : Nat) (cf : Cfg) (st : Bool) (env : List Nat) (ops : List Cache.Op)
    (E : Externals) (now : Int) (k : PyVal) (read et tg : Bool)
    (hn : 1 ≤ n) (hpg : 0 < cf.page)
    (hk : ∀ op ∈ ops, Keyed op = true)
    (hm : Monotone 0 (ops ++ [.get E now k read et tg]))
    (hroute : RouteOK (Fanout.init n cf st)
      (histKeys (fcfg (Fanout.init n cf st)) (ops ++ [.get E now k read et tg])) (fun _ => True)) :
    ∃ LLs : List (List (List Row)),
      FEvictedRun { Fanout.init n cf st with env := env } ops LLs ∧
      ((({ Fanout.init n cf st with env := env } : Fanout).run ops).keyed E k
          (fun s => s.get E now k read et tg)).2 =
        (Spec.get (Spec.runLossy [] { cf with limD := cf.limD * n } ops (LLs.map fdrops)) E
          { cf with limD := cf.limD * n } now k read et tg).2 := by
  obtain ⟨hm1, hm2⟩ := monotone_append 0 ops _ hm
  have hcfg : fcfg ({ Fanout.init n cf st with env := env } : Fanout) = { cf with limD := cf.limD * n } :=
    fcfg_init n cf st hn
  obtain ⟨LLs, h0, -, h2, h3, hp3, h4, h5⟩ := frun_refines_lossy_strong (fun _ => True)
    ({ Fanout.init n cf st with env := env } : Fanout) [] 0 ops
    (fgoodAny_env (fgoodAny_init n cf st hn hpg) env)
    (fplaced_env (fplaced_init n cf st _) env) (frefines_env (frefines_init n cf st hn 0) env) hk hm1
    (fun _ _ => trivial)
    (fun a b ha hb hs => hroute a b (flz_histKeys_append_left ha) hb hs)
  refine ⟨LLs, h0, ?_⟩
  have hstep := (fstep_refines_lossy (fun _ => True) _ _ _ (.get E now k read et tg) h3 hp3 h2 rfl hm2
    (fun _ _ _ => trivial)
    (fun E' k' hkey b hb hs => by
      rw [frf_routeK_length h5, frf_routeK_length h5, h4]
      refine (hroute _ b ⟨_, List.mem_append_right _ (List.mem_singleton.2 rfl), E', k', hkey, ?_⟩ hb
        (by rw [h4] at hs; exact hs)).symm
      rfl)).1
  rw [h4, hcfg] at hstep
  exact hstep

/-! ### non-vacuity: a real eviction in one shard; eviction is per shard, not global -/

/-- least-recently-stored, total size limit 100 bytes, `cull_limit = 1` -/
def cfgL : Cfg := { policy := .lrs, limN := 100, cullLimit := 1 }

/-- two shards (50 bytes each); the database file of the shard written to is observed at 10, 30
and 60 bytes by the three writes -/
def exL2 : Fanout := { Fanout.init 2 cfgL false with env := [10, 30, 60] }

/-- the keys `a`, `c` live on shard 0, the key `b` on shard 1 -/
example : [PyVal.str [97], .str [98], .str [99]].map (fun k => exL2.route toyV k) = [0, 1, 0] := by
  decide +kernel

/-- `b` (shard 1) is stored at time 1, `a` (shard 0) at time 2, `c` (shard 0) at time 3; then all
three are read -/
def exL2Ops : List Cache.Op :=
  [ .set toyV 1 (.str [98]) (.int 1) none false .null,
    .set toyV 2 (.str [97]) (.int 2) none false .null,
    .set toyV 3 (.str [99]) (.int 3) none false .null,
    .get toyV 4 (.str [97]) false false false,
    .get toyV 4 (.str [98]) false false false,
    .get toyV 4 (.str [99]) false false false ]

theorem exL2_good : FGoodAny exL2 ∧ FPlaced exL2 ∧ FRefines exL2 [] 0 :=
  ⟨fgoodAny_env (fgoodAny_init 2 cfgL false (by decide) (by decide)) _,
    fplaced_env (fplaced_init 2 cfgL false _) _,
    frefines_env (frefines_init 2 cfgL false (by decide) 0) _⟩

/-- the history theorem applies (policy least-recently-stored, a real eviction in shard 0) -/
example : ∃ LLs : List (List (List Row)), FEvictedRun exL2 exL2Ops LLs ∧
    outs exL2 exL2Ops = Spec.outsLossy [] (fcfg exL2) exL2Ops (LLs.map fdrops) ∧
    ∃ clock', FRefines (exL2.run exL2Ops) (Spec.runLossy [] (fcfg exL2) exL2Ops (LLs.map fdrops)) clock' :=
  frun_refines_lossy_nonnumeric exL2 [] 0 exL2Ops exL2_good.1 exL2_good.2.1 exL2_good.2.2
    (by decide) (by decide +kernel) (by decide +kernel)

/-- what the sharded cache returns: the third write finds shard 0 at 60 ≥ 50 bytes and evicts the
least recently stored row OF SHARD 0, which is `a` -/
theorem exL2_outs : outs exL2 exL2Ops =
    [.bool true, .bool true, .bool true, .default, .val (.int 1), .val (.int 3)] := by rfl

/-- … which is what the ONE lossy dictionary returns when `a` is dropped after the third call (and
not what the plain dictionary returns: it still holds `a`) -/
example : Spec.outsLossy [] (fcfg exL2) exL2Ops [[], [], [(.text [97], true)], [], [], []] =
    [.bool true, .bool true, .bool true, .default, .val (.int 1), .val (.int 3)] := by rfl

example : Spec.outs [] (fcfg exL2) exL2Ops =
    [.bool true, .bool true, .bool true, .val (.int 2), .val (.int 1), .val (.int 3)] := by rfl

/-- ONE cache with the same total limit (100 bytes) making the same observations -/
def exOne : Cache := { cfg := cfgL, env := [10, 30, 60] }

/-- **the total size limit is divided among the shards**: the two-shard cache evicts `a` although
the volume (60 bytes) is well below the configured `size_limit` (100 bytes) — ONE cache with that
limit, the same history and the same observations keeps everything.  A FanoutCache with `n` shards
starts evicting as soon as ONE shard reaches `size_limit / n`. -/
theorem fanout_evicts_what_one_cache_keeps :
    outs exL2 exL2Ops = [.bool true, .bool true, .bool true, .default, .val (.int 1), .val (.int 3)] ∧
    Cache.outs exOne exL2Ops =
      [.bool true, .bool true, .bool true, .val (.int 2), .val (.int 1), .val (.int 3)] :=
  ⟨exL2_outs, by rfl⟩

/-- ONE cache over its limit at the third write (observation 120 ≥ 100) -/
def exOneOver : Cache := { cfg := cfgL, env := [10, 30, 120] }

/-- **eviction order is per shard, not global**: the sharded cache evicts `a` (stored at time 2)
while `b`, stored EARLIER (time 1), survives in the other shard; ONE least-recently-stored cache
that has to evict evicts `b`, the globally oldest item, and keeps `a`.  `fevicted_order` is
therefore stated shard by shard, and no global statement holds. -/
theorem fanout_eviction_not_global_order :
    outs exL2 exL2Ops = [.bool true, .bool true, .bool true, .default, .val (.int 1), .val (.int 3)] ∧
    Cache.outs exOneOver exL2Ops =
      [.bool true, .bool true, .bool true, .val (.int 2), .default, .val (.int 3)] :=
  ⟨exL2_outs, by rfl⟩

/-- `get_after_history_lossy` on that history: what `get('a')` returns after the three writes is
what the lossy dictionary returns — the default, `a` having been dropped -/
example : ∃ LLs : List (List (List Row)), FEvictedRun exL2 (exL2Ops.take 3) LLs ∧
    ((exL2.run (exL2Ops.take 3)).keyed toyV (.str [97]) (fun s => s.get toyV 4 (.str [97]) false false false)).2 =
      (Spec.get (Spec.runLossy [] { cfgL with limD := cfgL.limD * 2 } (exL2Ops.take 3) (LLs.map fdrops))
        toyV { cfgL with limD := cfgL.limD * 2 } 4 (.str [97]) false false false).2 :=
  get_after_history_lossy 2 cfgL false [10, 30, 60] (exL2Ops.take 3) toyV 4 (.str [97]) false false false
    (by decide) (by decide) (by decide) (by decide +kernel)
    (routeOK_of_nonnumeric _ _ _ (fun op hop E k hkey => by
      have := frf_histPyAll (P := fun k => !pyIsNumber k)
        (ops := exL2Ops.take 3 ++ [.get toyV 4 (.str [97]) false false false]) (by decide +kernel)
        op hop E k hkey
      simpa using this))

/-- `cull()` runs the eviction loop on EVERY shard: with both shards observed far above their
limit, one `cull()` evicts on both (no `cull_limit` bound applies) -/
def exC : Fanout := { Fanout.init 2 cfgL false with env := [10, 10, 1000, 1000, 1000, 1000, 1000, 1000] }

def exCOps : List Cache.Op :=
  [ .set toyV 1 (.str [98]) (.int 1) none false .null,
    .set toyV 2 (.str [97]) (.int 2) none false .null,
    .cull 3,
    .get toyV 4 (.str [97]) false false false,
    .get toyV 4 (.str [98]) false false false ]

theorem exC_outs : outs exC exCOps = [.bool true, .bool true, .none, .default, .default] ∧
    Spec.outsLossy [] (fcfg exC) exCOps [[], [], [(.text [97], true), (.text [98], true)], [], []] =
      [.bool true, .bool true, .none, .default, .default] := ⟨by rfl, by rfl⟩

example : ∃ LLs : List (List (List Row)), FEvictedRun exC exCOps LLs ∧
    outs exC exCOps = Spec.outsLossy [] (fcfg exC) exCOps (LLs.map fdrops) ∧
    ∃ clock', FRefines (exC.run exCOps) (Spec.runLossy [] (fcfg exC) exCOps (LLs.map fdrops)) clock' :=
  frun_refines_lossy_nonnumeric exC [] 0 exCOps
    (fgoodAny_env (fgoodAny_init 2 cfgL false (by decide) (by decide)) _)
    (fplaced_env (fplaced_init 2 cfgL false _) _)
    (frefines_env (frefines_init 2 cfgL false (by decide) 0) _)
    (by decide) (by decide +kernel) (by decide +kernel)

/-! ### the placement hypothesis is necessary -/

/-- the configuration of one of two shards -/
def cfgS : Cfg := { cfgL with limD := 2 }

/-- shard 0 holds `a ↦ 1` -/
def exS0 : Cache :=
  (({ cfg := cfgS, env := [0] } : Cache).set toyV 1 (.str [97]) (.int 1) none false .null).1

/-- shard 1 holds a row for `a` too — but `a` is routed to shard 0: a row in a foreign shard -/
def exS1 : Cache :=
  (({ cfg := cfgS, env := [0] } : Cache).set toyV 1 (.str [97]) (.int 9) none false .null).1

/-- two shards; `cull()` will observe shard 0 at 0 bytes and shard 1 at 1000 bytes -/
def exBad : Fanout := { shards := [exS0, exS1], env := [0, 1000, 1000, 1000] }

/-- the dictionary `{a: 1}` -/
def exBadM : Spec.Dict := (Spec.set [] toyV cfgS 1 (.str [97]) (.int 1) none false .null).1

def exBadK : Spec.Key := (.text [97], true)

/-- a `cull()` that leaves a shard without expired rows with fewer rows has evicted one: the number
of removed rows is the result (`cull_count`), and `CullLoss.counted` splits it into expired and
evicted rows -/
theorem flz_cull_evicts {s : Cache} {env : List Nat} {now : Int} {L : List Row}
    (hasc : RowidsAsc s.rows) (hpg : 0 < s.cfg.page)
    (hexp : (s.rows.filter (expired now)).length = 0)
    (hlt : ((prep s env).cull now).1.rows.length < s.rows.length)
    (hE : Evicted (prep s env) (.cull now) L) : L ≠ [] := by
  have hcounted : ((prep s env).cull now).2 = _ := hE.counted
  rw [cull_count (prep s env) now hasc hpg] at hcounted
  have hcounted := Out.int.inj hcounted
  rw [show (prep s env).rows = s.rows from rfl, hexp] at hcounted
  intro hL
  rw [hL] at hcounted
  simp only [List.length_nil, Nat.add_zero, Int.natCast_zero] at hcounted
  omega

/-- **the placement hypothesis is needed**: a fanout that satisfies every other hypothesis of
`fstep_refines_lossy` (invariant, relation on all keys, routing) but holds a row for `a` in the
shard `a` is NOT routed to.  `cull()` finds that shard above its limit and evicts the row
(`CullLoss.counted` gives the number of evicted rows, `FLossyOn.was` their key); the shard of `a`
still holds `a ↦ 1`, so the fanout does not represent the dictionary without `a`: no family of
evicted rows satisfies the conclusion. -/
theorem fstep_refines_lossy_needs_placed :
    ∃ (f : Fanout) (m : Spec.Dict) (clock : Int) (op : Cache.Op),
      FGoodAny f ∧ FRefines f m clock ∧ Keyed op = true ∧ (∀ n, opClock op = some n → clock ≤ n) ∧
      frf_opKey op = none ∧ ¬ FPlaced f ∧
      ¬ ∃ LL, FLossyOn (fun _ => True) (f.step op).1 (Spec.step m (fcfg f) op).1
          ((opClock op).getD clock) LL ∧ FEvicted f op LL := by
  have hg0 : Good exS0 := set_good _ _ _ _ _ _ _ _ (good_init_env cfgS false [0])
  have hg1 : Good exS1 := set_good _ _ _ _ _ _ _ _ (good_init_env cfgS false [0])
  -- a shard represents the dictionary it denotes: `{a: 1}` for shard 0
  have hr0 : Refines exS0 exBadM 1 :=
    (show frf_abs exS0 = exBadM by rfl) ▸ frf_abs_refines exS0 hg0.tinv.tbl.uniq 1
  have hr1 := frf_abs_refines exS1 hg1.tinv.tbl.uniq 1
  have hcfg : ∀ v, (({ cfg := cfgS, env := [0] } : Cache).set toyV 1 (.str [97]) v none false .null).1.cfg =
      cfgS := fun v => rf_step_cfg_gen _ (.set toyV 1 (.str [97]) v none false .null) rfl
  have hfcfg : fcfg exBad = cfgS := hcfg (.int 1)
  have hgood : FGoodAny exBad := by
    refine ⟨by decide, ?_, ?_, by rw [hfcfg]; decide⟩ <;> intro s hs <;>
      rcases List.mem_cons.1 hs with rfl | hs
    · exact hg0
    · rw [List.mem_singleton.1 hs]; exact hg1
    · exact (hcfg _).trans hfcfg.symm
    · rw [List.mem_singleton.1 hs]; exact (hcfg _).trans hfcfg.symm
  have hK0 : routeK exBad exBadK = 0 := by decide +kernel
  -- a key the table treats as equal to `a` is `a`
  have hsame : ∀ k : Spec.Key, sameKey exBadK k = true → k = exBadK := by
    intro k hk
    simp only [sameKey, exBadK, Bool.and_eq_true, beq_iff_eq] at hk
    obtain ⟨k1, k2⟩ := k
    simp only at hk
    rw [frf_eqv_text hk.1, ← hk.2]
    rfl
  have hget : ∀ (mm : Spec.Dict) (e : Entry) (k : Spec.Key), mm = [(exBadK, e)] →
      sameKey exBadK k = false → mm.get k = none := by
    intro mm e k hmm hk
    subst hmm
    simp [Dict.get, hk]
  refine ⟨exBad, exBadM, 1, .cull 5, hgood, ⟨hr0.1, fun k _ => ?_⟩, rfl, fun n hn => ?_, rfl, ?_, ?_⟩
  · -- the relation on all keys
    have hlt : routeK exBad k < 2 := Nat.mod_lt _ (by decide)
    by_cases hk0 : routeK exBad k = 0
    · rw [hk0]
      exact ⟨exS0, rfl, hr0.2 k⟩
    · have hk1 : routeK exBad k = 1 := by omega
      rw [hk1]
      refine ⟨exS1, rfl, ?_⟩
      have hne : sameKey exBadK k = false := by
        cases h : sameKey exBadK k with
        | false => rfl
        | true => rw [hsame k h] at hk0; exact absurd hK0 hk0
      have h1 := hr1.2 k
      have e1 : (frf_abs exS1).get k = none := hget _ _ k rfl hne
      have e0 : exBadM.get k = none := hget _ _ k rfl hne
      rw [e1] at h1
      show frf_RefinesAt exS1 exBadM 1 k
      unfold frf_RefinesAt
      rw [e0]
      exact h1
  · cases hn; decide
  · intro hpl
    have hrow : ∃ r ∈ exS1.rows, rowKey r = exBadK := by
      have : exS1.rows.map rowKey = [exBadK] := by decide +kernel
      have hm : exBadK ∈ exS1.rows.map rowKey := by rw [this]; exact List.mem_singleton.2 rfl
      obtain ⟨r, hr, hk⟩ := List.mem_map.1 hm
      exact ⟨r, hr, hk⟩
    obtain ⟨r, hr, hk⟩ := hrow
    have := hpl 1 exS1 rfl r hr exBadK trivial (by rw [hk]; decide)
    rw [hK0] at this
    cases this
  · rintro ⟨LL, hL, hE⟩
    obtain ⟨env, -, hstate, hEv⟩ := (hE.2 1 exS1 rfl).1 trivial
    have hrows' : ((prep exS1 env).cull 5).1.rows = [] := by
      have h1 : ((exBad.step (.cull 5)).1.shards[1]?.map (·.rows)) = some [] := by decide +kernel
      rw [hstate] at h1
      exact Option.some.inj h1
    obtain ⟨r, hr1⟩ := List.exists_mem_of_ne_nil _ (flz_cull_evicts (s := exS1) hg1.tinv.tbl.asc
      (by decide +kernel) (by decide +kernel) (by rw [hrows']; decide +kernel) hEv)
    have hmemLL : LL.getD 1 [] ∈ LL := by
      have h1 : 1 < LL.length := by rw [hE.1]; decide
      rw [flz_getD_lt _ h1]; exact List.getElem_mem h1
    obtain ⟨e, he, -, -⟩ := hL.was _ hmemLL r hr1 trivial
    have hm' : (Spec.step exBadM (fcfg exBad) (.cull 5)).1 = exBadM := by decide +kernel
    rw [hm'] at he
    have hsk : sameKey exBadK (rowKey r) = true := by
      cases h : sameKey exBadK (rowKey r) with
      | true => rfl
      | false => rw [hget exBadM _ _ rfl h] at he; cases he
    have hrk : rowKey r = exBadK := hsame _ hsk
    have hany : (fdrops LL).any (fun l => sameKey l exBadK) = true := by
      rw [List.any_eq_true]
      refine ⟨rowKey r, ?_, by rw [hrk]; decide⟩
      unfold fdrops
      exact List.mem_map.2 ⟨r, List.mem_flatten.2 ⟨_, hmemLL, hr1⟩, rfl⟩
    obtain ⟨s, hs, hat⟩ := hL.refines.2 exBadK trivial
    unfold frf_RefinesAt at hat
    rw [rf_get_dropKeys, hany] at hat
    simp only [if_true] at hat
    have h2 : (((exBad.step (.cull 5)).1.shards[routeK (exBad.step (.cull 5)).1 exBadK]?).bind
        (fun s => s.selKey exBadK.1 exBadK.2)).isSome = true := by decide +kernel
    rw [hs] at h2
    simp only [Option.bind_some] at h2
    rw [hat] at h2
    cases h2

end DC.Fanout
