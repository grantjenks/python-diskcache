/-
C10 — what a user of push / pull / peek sees, as consequences of the history
theorem `qrun_refines` (DC/Properties/C10_Refine.lean) and of pure facts about the
reference (DC/Proofs/QSpecLemmas.lean): pushed at the back and pulled from the front the values
come in push order, pulled from the back in reverse order; pulled from any sides every pushed item
is returned by exactly one pull; and calls on other prefixes and on ordinary keys neither change
the queue of a prefix nor the results of the calls on it.

The theorems on push and pull order (`fifo_after_history`, `lifo_same_side`,
`exactly_once_sequential`) are stated for values that can be stored (`DSpec.storable`:
`Disk.store` can write the value and `sqlite3` can bind the cell), a prefix that can be bound (no
lone surrogate), no expiry time, and at most 499999999999999 pushes (the key budget of `qok_init`).
The pushed items are `mkItems origin entries`: numbered consecutively from the origin
(500000000000000); a push returns `queueKey p number` (the number itself for `prefix=None`,
`"<prefix>-<15 digits>"` otherwise), a pull returns `QSpec.result …` = `(that key, the stored
value read back)`.
-/
import DC.Properties.C10_Refine

namespace DC.Cache
open DC.Spec DC.QSpec

/-- `vs` pushed at the back of prefix `p` at time `t1`, then pulls from the sides `fs` (`true` =
front) at time `t2` -/
def pushPulls (E : Externals) (t1 t2 : Int) (p : Option Str) (vs : List PyVal) (fs : List Bool) : List Op :=
  vs.map (fun v => .push E t1 v p true none false .null) ++ fs.map (fun f => .pull E t2 p f false false)

theorem monotone_const (ops : List Op) (t T : Int) (h : t ≤ T) (hc : ∀ op ∈ ops, opClock op = some T) :
    Monotone t ops := by
  induction ops generalizing t with
  | nil => rfl
  | cons op ops ih =>
    rw [monotone_cons, hc op List.mem_cons_self]
    exact ⟨fun n hn => by cases hn; exact h,
      ih T (Int.le_refl _) (fun o ho => hc o (List.mem_cons_of_mem _ ho))⟩

theorem monotone_two (a b : List Op) (t T1 T2 : Int) (h1 : t ≤ T1) (h2 : T1 ≤ T2)
    (ha : ∀ op ∈ a, opClock op = some T1) (hb : ∀ op ∈ b, opClock op = some T2) :
    Monotone t (a ++ b) := by
  induction a generalizing t with
  | nil => exact monotone_const b t T2 (Int.le_trans h1 h2) hb
  | cons op a ih =>
    rw [List.cons_append, monotone_cons, ha op List.mem_cons_self]
    exact ⟨fun n hn => by cases hn; exact h1,
      ih T1 (Int.le_refl _) (fun o ho => ha o (List.mem_cons_of_mem _ ho))⟩

theorem pushCosts_append (a b : List Op) : pushCosts (a ++ b) = pushCosts a + pushCosts b := by
  simp [pushCosts]

theorem pushPulls_ok (cf : Cfg) (E : Externals) (t1 t2 : Int) (p : Option Str) (vs : List PyVal)
    (fs : List Bool) (h0 : 0 ≤ t1) (h12 : t1 ≤ t2) :
    (∀ op ∈ pushPulls E t1 t2 p vs fs, QSpec.Covered op = true) ∧
    (∀ op ∈ pushPulls E t1 t2 p vs fs, QSpec.Ordinary cf op = true) ∧
    (∀ op ∈ pushPulls E t1 t2 p vs fs, PushNoTtl op = true) ∧
    Monotone 0 (pushPulls E t1 t2 p vs fs) ∧ pushCosts (pushPulls E t1 t2 p vs fs) = vs.length := by
  have hmem : ∀ op ∈ pushPulls E t1 t2 p vs fs,
      (∃ v, op = .push E t1 v p true none false .null) ∨ (∃ f, op = .pull E t2 p f false false) := by
    intro op hop
    rcases List.mem_append.1 hop with h | h
    · obtain ⟨v, -, rfl⟩ := List.mem_map.1 h; exact .inl ⟨v, rfl⟩
    · obtain ⟨f, -, rfl⟩ := List.mem_map.1 h; exact .inr ⟨f, rfl⟩
  refine ⟨?_, ?_, ?_, ?_, ?_⟩
  · intro op hop; rcases hmem op hop with ⟨v, rfl⟩ | ⟨f, rfl⟩ <;> rfl
  · intro op hop; rcases hmem op hop with ⟨v, rfl⟩ | ⟨f, rfl⟩ <;> rfl
  · intro op hop; rcases hmem op hop with ⟨v, rfl⟩ | ⟨f, rfl⟩ <;> rfl
  · apply monotone_two _ _ 0 t1 t2 h0 h12
    · intro op hop; obtain ⟨v, -, rfl⟩ := List.mem_map.1 hop; rfl
    · intro op hop; obtain ⟨f, -, rfl⟩ := List.mem_map.1 hop; rfl
  · unfold pushPulls
    rw [pushCosts_append]
    have h1 : ∀ l : List PyVal, pushCosts (l.map (fun v => Op.push E t1 v p true none false .null)) = l.length := by
      intro l; induction l with
      | nil => rfl
      | cons a l ih => simp only [pushCosts, List.map_cons, List.sum_cons, List.length_cons] at ih ⊢; rw [ih]; simp [pushCost]; omega
    have h2 : ∀ l : List Bool, pushCosts (l.map (fun f => Op.pull E t2 p f false false)) = 0 := by
      intro l; induction l with
      | nil => rfl
      | cons a l ih => simp only [pushCosts, List.map_cons, List.sum_cons] at ih ⊢; rw [ih]; rfl
    rw [h1, h2]; rfl

/-- the general form: the pushes return the keys of consecutively numbered items, the pulls
return every item exactly once (`picked` is a permutation of the items pushed) and then the
default; pulled from the front only the order is the push order, from the back only its reverse -/
theorem push_pull_history (cf : Cfg) (st : Bool) (E : Externals) (t1 t2 : Int) (p : Option Str)
    (vs : List PyVal) (fs : List Bool)
    (hp : cf.policy = .none) (hpg : 0 < cf.page) (hor : cf.qorigin = 500000000000000)
    (h0 : 0 ≤ t1) (h12 : t1 ≤ t2) (hn : vs.length ≤ 499999999999999) (hk : vs.length ≤ fs.length)
    (hs : ∀ v ∈ vs, DSpec.storable E cf v = true)
    (hpre : ∀ s, p = some s → (utf8enc s).isSome = true) :
    ∃ picked : List Item, picked.Perm (mkItems cf.qorigin (vs.map (storedAs E cf))) ∧
      outs ({ cfg := cf, statistics := st } : Cache) (pushPulls E t1 t2 p vs fs) =
        (mkItems cf.qorigin (vs.map (storedAs E cf))).map (fun it => .val (column (queueKey p it.num))) ++
        (picked.map (QSpec.result E cf p false false) ++ List.replicate (fs.length - vs.length) .default) ∧
      ((∀ f ∈ fs, f = true) → picked = mkItems cf.qorigin (vs.map (storedAs E cf))) ∧
      ((∀ f ∈ fs, f = false) → picked = (mkItems cf.qorigin (vs.map (storedAs E cf))).reverse) := by
  obtain ⟨c1, c2, c3, c4, c5⟩ := pushPulls_ok cf E t1 t2 p vs fs h0 h12
  have hrun := queues_after_history_covered cf st (pushPulls E t1 t2 p vs fs) hp hpg hor
    (by rw [c5]; exact hn) c1 c2 (.inr c3) c4
  have hbind : ∀ k : Nat, k < ([] : List Spec.Entry).length + vs.length →
      bindable (queueKey p (cf.qorigin + k)) = true := by
    intro k hk'
    simp only [List.length_nil, Nat.zero_add] at hk'
    apply bindable_queueKey p _ _ hpre
    unfold Fits
    rw [hor]
    constructor <;> omega
  obtain ⟨g1, g2⟩ := pushes_spec E cf t1 p vs [] {} hbind hs rfl
  simp only [List.nil_append, List.length_nil] at g1 g2
  have hz : (cf.qorigin : Int) + ((0 : Nat) : Int) = cf.qorigin := by omega
  rw [hz] at g2
  have hne : NoExp (mkItems cf.qorigin (vs.map (storedAs E cf))) := by
    apply mkItems_noExp
    intro e he
    obtain ⟨v, hv, rfl⟩ := List.mem_map.1 he
    exact entryFor_expT (storedAs_spec (hs v hv))
  have hlen : (mkItems (cf.qorigin : Int) (vs.map (storedAs E cf))).length = vs.length := by
    rw [mkItems_length, List.length_map]
  obtain ⟨picked, p1, p2, p3, p4, -⟩ := pulls_spec E cf t2 p false false fs _ _ g1 hne (by rw [hlen]; exact hk)
  refine ⟨picked, p1, ?_, p3, p4⟩
  rw [hrun]
  unfold pushPulls
  rw [outs_append, g2, p2, hlen]
  rfl

/-- **FIFO**: `n` pushes at the back of one prefix on a fresh cache, then `n` pulls from the front,
return the values in push order, and a further pull returns the default -/
theorem fifo_after_history (cf : Cfg) (st : Bool) (E : Externals) (t1 t2 : Int) (p : Option Str)
    (vs : List PyVal)
    (hp : cf.policy = .none) (hpg : 0 < cf.page) (hor : cf.qorigin = 500000000000000)
    (h0 : 0 ≤ t1) (h12 : t1 ≤ t2) (hn : vs.length ≤ 499999999999999)
    (hs : ∀ v ∈ vs, DSpec.storable E cf v = true)
    (hpre : ∀ s, p = some s → (utf8enc s).isSome = true) :
    outs ({ cfg := cf, statistics := st } : Cache)
        (pushPulls E t1 t2 p vs (List.replicate (vs.length + 1) true)) =
      (mkItems cf.qorigin (vs.map (storedAs E cf))).map (fun it => .val (column (queueKey p it.num))) ++
      ((mkItems cf.qorigin (vs.map (storedAs E cf))).map (QSpec.result E cf p false false) ++ [.default]) := by
  obtain ⟨picked, -, h2, h3, -⟩ := push_pull_history cf st E t1 t2 p vs (List.replicate (vs.length + 1) true)
    hp hpg hor h0 h12 hn (by simp) hs hpre
  rw [h2, h3 (fun f hf => (List.mem_replicate.1 hf).2)]
  simp

/-- non-vacuity: three values (an integer, a text, bytes) through the queue of prefix `"u"` -/
example : outs exQCache (pushPulls toyV 1 2 (some [117]) [.int 1, .str [97], .bytes [0, 1]]
      (List.replicate 4 true)) =
    (mkItems 500000000000000 ([.int 1, .str [97], .bytes [0, 1]].map (storedAs toyV exQCache.cfg))).map
      (fun it => .val (column (queueKey (some [117]) it.num))) ++
    ((mkItems 500000000000000 ([.int 1, .str [97], .bytes [0, 1]].map (storedAs toyV exQCache.cfg))).map
      (QSpec.result toyV exQCache.cfg (some [117]) false false) ++ [.default]) :=
  fifo_after_history exQCache.cfg false toyV 1 2 (some [117]) [.int 1, .str [97], .bytes [0, 1]]
    rfl (by decide) rfl (by decide) (by decide) (by decide) (by decide +kernel)
    (by intro s h; cases h; decide)

/-- **LIFO on one side**: pushed at the back and pulled from the back, the values come in reverse
push order; a further pull returns the default -/
theorem lifo_same_side (cf : Cfg) (st : Bool) (E : Externals) (t1 t2 : Int) (p : Option Str)
    (vs : List PyVal)
    (hp : cf.policy = .none) (hpg : 0 < cf.page) (hor : cf.qorigin = 500000000000000)
    (h0 : 0 ≤ t1) (h12 : t1 ≤ t2) (hn : vs.length ≤ 499999999999999)
    (hs : ∀ v ∈ vs, DSpec.storable E cf v = true)
    (hpre : ∀ s, p = some s → (utf8enc s).isSome = true) :
    outs ({ cfg := cf, statistics := st } : Cache)
        (pushPulls E t1 t2 p vs (List.replicate (vs.length + 1) false)) =
      (mkItems cf.qorigin (vs.map (storedAs E cf))).map (fun it => .val (column (queueKey p it.num))) ++
      ((mkItems cf.qorigin (vs.map (storedAs E cf))).reverse.map (QSpec.result E cf p false false) ++
        [.default]) := by
  obtain ⟨picked, -, h2, -, h4⟩ := push_pull_history cf st E t1 t2 p vs (List.replicate (vs.length + 1) false)
    hp hpg hor h0 h12 hn (by simp) hs hpre
  rw [h2, h4 (fun f hf => (List.mem_replicate.1 hf).2)]
  simp

/-- **exactly once** (sequentially): if at least as many pulls as pushes follow on that prefix —
from whichever sides —, every pushed (never-expiring) item is returned by exactly one pull: the
items returned, in pull order, are a permutation of the items pushed, and all remaining pulls
return the default -/
theorem exactly_once_sequential (cf : Cfg) (st : Bool) (E : Externals) (t1 t2 : Int) (p : Option Str)
    (vs : List PyVal) (fs : List Bool)
    (hp : cf.policy = .none) (hpg : 0 < cf.page) (hor : cf.qorigin = 500000000000000)
    (h0 : 0 ≤ t1) (h12 : t1 ≤ t2) (hn : vs.length ≤ 499999999999999) (hk : vs.length ≤ fs.length)
    (hs : ∀ v ∈ vs, DSpec.storable E cf v = true)
    (hpre : ∀ s, p = some s → (utf8enc s).isSome = true) :
    ∃ picked : List Item, picked.Perm (mkItems cf.qorigin (vs.map (storedAs E cf))) ∧
      outs ({ cfg := cf, statistics := st } : Cache) (pushPulls E t1 t2 p vs fs) =
        (mkItems cf.qorigin (vs.map (storedAs E cf))).map (fun it => .val (column (queueKey p it.num))) ++
        (picked.map (QSpec.result E cf p false false) ++ List.replicate (fs.length - vs.length) .default) := by
  obtain ⟨picked, h1, h2, -⟩ := push_pull_history cf st E t1 t2 p vs fs hp hpg hor h0 h12 hn hk hs hpre
  exact ⟨picked, h1, h2⟩

/-- the items pushed have pairwise different numbers (so the keys returned by the pushes identify
them, and "a permutation of the items" is "each item once") -/
theorem mkItems_nums_nodup (a : Int) (es : List Spec.Entry) : ((mkItems a es).map (·.num)).Nodup := by
  have key : ∀ (es : List Spec.Entry) (a : Int), (∀ it ∈ mkItems a es, a ≤ it.num) ∧
      ((mkItems a es).map (·.num)).Nodup := by
    intro es
    induction es with
    | nil => intro a; exact ⟨(fun _ h => by cases h), List.nodup_nil⟩
    | cons e es ih =>
      intro a
      obtain ⟨h1, h2⟩ := ih (a + 1)
      constructor
      · intro it hit
        rcases List.mem_cons.1 hit with rfl | hit
        · exact Int.le_refl _
        · have := h1 it hit; omega
      · simp only [mkItems, List.map_cons, List.nodup_cons]
        refine ⟨?_, h2⟩
        intro hmem
        obtain ⟨it, hit, he⟩ := List.mem_map.1 hmem
        have := h1 it hit
        omega
  exact (key es a).2

/-- a whole history of calls that do not touch prefix `p` — push / pull / peek on other
prefixes, key-addressed calls on ordinary keys — leaves the queue of `p` exactly as it is -/
theorem untouched_history (c : Cache) (q : QSpec.State) (n : Nat) (clock : Int) (ops : List Op)
    (p : Option Str)
    (hok : QOk c (n + pushCosts ops)) (hr : QRefines c q clock)
    (hk : ∀ op ∈ ops, QSpec.Covered op = true) (ho : ∀ op ∈ ops, QSpec.Ordinary c.cfg op = true)
    (hq : c.cfg.cullLimit = 0 ∨ ∀ op ∈ ops, PushNoTtl op = true) (hm : Monotone clock ops)
    (ht : ∀ op ∈ ops, QSpec.touches p op = false) :
    absQueue (c.run ops) p = absQueue c p := by
  obtain ⟨-, h2, -⟩ := qrun_refines_covered_strong c q n clock ops hok hr hk ho hq hm
  rw [h2.queues p, run_untouched c.cfg p ops q ht, hr.queues p]

theorem monotone_le {t t' : Int} (h : t' ≤ t) (ops : List Op) (hm : Monotone t ops) : Monotone t' ops := by
  induction ops generalizing t t' with
  | nil => rfl
  | cons op ops ih =>
    rw [monotone_cons] at hm ⊢
    cases hc : opClock op with
    | none =>
      rw [hc] at hm
      exact ⟨(fun n hn => by cases hn), ih h hm.2⟩
    | some m =>
      rw [hc] at hm
      exact ⟨fun n hn => by cases hn; exact Int.le_trans h (hm.1 m rfl), hm.2⟩

theorem monotone_filter (f : Op → Bool) (t : Int) (ops : List Op) (hm : Monotone t ops) :
    Monotone t (ops.filter f) := by
  induction ops generalizing t with
  | nil => rfl
  | cons op ops ih =>
    rw [monotone_cons] at hm
    rw [List.filter_cons]
    split
    · rw [monotone_cons]
      exact ⟨hm.1, ih _ hm.2⟩
    · cases hc : opClock op with
      | none => rw [hc] at hm; exact ih _ hm.2
      | some m =>
        rw [hc] at hm
        exact monotone_le (hm.1 m rfl) _ (ih _ hm.2)

theorem pushCosts_filter_le (f : Op → Bool) (ops : List Op) : pushCosts (ops.filter f) ≤ pushCosts ops := by
  induction ops with
  | nil => exact Nat.le_refl _
  | cons op ops ih =>
    rw [List.filter_cons]
    split
    · simp only [pushCosts, List.map_cons, List.sum_cons] at ih ⊢; omega
    · simp only [pushCosts, List.map_cons, List.sum_cons] at ih ⊢; omega

/-- **prefix isolation**: in any history covered by `qrun_refines`, the results of the calls on
prefix `p` (push / pull / peek on `p`, and the bulk removals, which act on every queue) are
exactly the results of those calls in the history projected to them — whatever the history does
on other prefixes and on ordinary keys in between -/
theorem prefix_isolation_history (c : Cache) (q : QSpec.State) (n : Nat) (clock : Int) (ops : List Op)
    (p : Option Str)
    (hok : QOk c (n + pushCosts ops)) (hr : QRefines c q clock)
    (hk : ∀ op ∈ ops, QSpec.Covered op = true) (ho : ∀ op ∈ ops, QSpec.Ordinary c.cfg op = true)
    (hq : c.cfg.cullLimit = 0 ∨ ∀ op ∈ ops, PushNoTtl op = true) (hm : Monotone clock ops) :
    QSpec.pick p ops (outs c ops) = outs c (ops.filter (QSpec.touches p)) := by
  have hsub : ∀ op ∈ ops.filter (QSpec.touches p), op ∈ ops := fun op h => (List.mem_filter.1 h).1
  have h1 := (qrun_refines c q n clock ops hok hr hk ho hq hm).1
  have h2 := (qrun_refines c q n clock (ops.filter (QSpec.touches p))
    (hok.le (by have := pushCosts_filter_le (QSpec.touches p) ops; omega)) hr
    (fun op h => hk op (hsub op h)) (fun op h => ho op (hsub op h))
    (by rcases hq with h | h
        · exact .inl h
        · exact .inr (fun op h' => h op (hsub op h')))
    (monotone_filter _ _ _ hm)).1
  rw [h1, h2]
  exact outs_project c.cfg p ops q q rfl

end DC.Cache
