/-
C16 — memoized functions return what the function returns and never share entries.
-/
import DC.Proofs.MemoLemmas

namespace DC.Memo

/-- keyword names are distinct (kwargs is a dict) -/
def NamesDistinct (kw : Kwargs) : Prop := (kw.map (·.1)).Nodup

/-- no positional argument is `None` (the separator token) -/
def NoNoneArg (args : List Arg) : Prop := ∀ a ∈ args, a.tok ≠ Tok.none

/-- base tokens are ordinary values (the function's name), never the separator -/
def BaseOk (base : List Tok) : Prop := ∀ t ∈ base, t ≠ Tok.none

/-- Full-strength injectivity FAILS (known finding D14): two different calls share a key.
Witness: f(1, None, 'a') and f(1, a=None). -/
theorem key_injective_fails :
    ¬ (∀ (base : List Tok) (a₁ a₂ : List Arg) (k₁ k₂ : Kwargs), NamesDistinct k₁ → NamesDistinct k₂ →
        argsToKey base a₁ k₁ false [] [] = argsToKey base a₂ k₂ false [] [] →
        a₁.map (·.tok) = a₂.map (·.tok) ∧ (keepKw k₁ []).map (fun p => (p.1, p.2.tok)) = (keepKw k₂ []).map (fun p => (p.1, p.2.tok))) := by
  intro h
  have := h [.val 9] [⟨.val 1, 1⟩, ⟨.none, 0⟩, ⟨.val 3, 3⟩] [⟨.val 1, 1⟩] [] [(3, ⟨.none, 0⟩)]
    (by simp [NamesDistinct]) (by simp [NamesDistinct]) (by decide +kernel)
  exact absurd this.1 (by decide +kernel)

/-- ... and holds whenever no positional argument is None: calls with different positional
values, different keyword names or values, or positional versus keyword, never share a key -/
theorem key_injective_partial (base : List Tok) (a₁ a₂ : List Arg) (k₁ k₂ : Kwargs) (typed : Bool)
    (hb : BaseOk base) (h₁ : NoNoneArg a₁) (h₂ : NoNoneArg a₂)
    (h : argsToKey base a₁ k₁ typed [] [] = argsToKey base a₂ k₂ typed [] []) :
    a₁.map (·.tok) = a₂.map (·.tok) ∧
    (keepKw k₁ []).map (fun p => (p.1, p.2.tok)) = (keepKw k₂ []).map (fun p => (p.1, p.2.tok)) := by
  have := key_parts base a₁ a₂ k₁ k₂ typed hb h₁ h₂ h
  exact ⟨this.1, this.2.1⟩

/-- with `typed`, arguments that differ only in type get different keys (f(3) vs f(3.0)) -/
theorem typed_separates (base : List Tok) (a₁ a₂ : List Arg) (k₁ k₂ : Kwargs)
    (hb : BaseOk base) (h₁ : NoNoneArg a₁) (h₂ : NoNoneArg a₂)
    (h : argsToKey base a₁ k₁ true [] [] = argsToKey base a₂ k₂ true [] []) :
    a₁.map (·.ty) = a₂.map (·.ty) ∧ (keepKw k₁ []).map (fun p => p.2.ty) = (keepKw k₂ []).map (fun p => p.2.ty) := by
  exact (key_parts base a₁ a₂ k₁ k₂ true hb h₁ h₂ h).2.2 rfl

/-- ignored arguments do not influence the key, and only they: the key with an ignore set is
the key of the call with those arguments removed -/
theorem ignore_exact (base : List Tok) (args : List Arg) (kw : Kwargs) (typed : Bool)
    (ignPos ignKw : List Nat) :
    argsToKey base args kw typed ignPos ignKw =
      argsToKey base (keepArgs args ignPos) (kw.filter (fun p => !ignKw.contains p.1)) typed [] [] := by
  simp only [argsToKey, keepArgs_nil, keepKw_filter]

/-- the order in which keyword arguments are written does not matter -/
theorem kwargs_order_irrelevant (base : List Tok) (args : List Arg) (k₁ k₂ : Kwargs) (typed : Bool)
    (h₁ : NamesDistinct k₁) (hp : k₁.Perm k₂) :
    argsToKey base args k₁ typed [] [] = argsToKey base args k₂ typed [] [] := by
  have : keepKw k₁ [] = keepKw k₂ [] := by
    rw [keepKw_nil, keepKw_nil]
    exact isort_kw_perm k₁ k₂ h₁ hp
  simp only [argsToKey, this]

/-- a cache is coherent for `f` when every live entry under the key of a call holds `f` of
that call -/
def Coherent {R} (f : List Arg → Kwargs → R) (base : List Tok) (typed : Bool) (ignPos ignKw : List Nat)
    (dom : List (List Arg × Kwargs)) (c : Store R) : Prop :=
  ∀ p ∈ dom, ∀ now r, c.get (argsToKey base p.1 p.2 typed ignPos ignKw) now = some r → r = f p.1 p.2

/-- the wrapper returns exactly what the function returns, for every call in a domain on which
keys do not collide, and keeps the cache coherent (so this holds along whole call histories) -/
theorem wrapper_correct {R} (f : List Arg → Kwargs → R) (base : List Tok) (typed : Bool)
    (ignPos ignKw : List Nat) (dom : List (List Arg × Kwargs))
    (hinj : ∀ p ∈ dom, ∀ q ∈ dom, argsToKey base p.1 p.2 typed ignPos ignKw = argsToKey base q.1 q.2 typed ignPos ignKw →
      f p.1 p.2 = f q.1 q.2)
    (expire : Option Int) (now : Int) (c : Store R) (hc : Coherent f base typed ignPos ignKw dom c)
    (args : List Arg) (kw : Kwargs) (hd : (args, kw) ∈ dom) :
    (call f base typed ignPos ignKw expire now c args kw).1 = f args kw ∧
    Coherent f base typed ignPos ignKw dom (call f base typed ignPos ignKw expire now c args kw).2.1 := by
  simp only [call]
  cases hg : c.get (argsToKey base args kw typed ignPos ignKw) now with
  | some r =>
    exact ⟨hc (args, kw) hd now r hg, hc⟩
  | none =>
    have hset : ∀ e, Coherent f base typed ignPos ignKw dom
        (c.set (argsToKey base args kw typed ignPos ignKw) (f args kw) e) := by
      intro e p hp now' r' hr'
      rcases get_set_some _ _ _ _ _ _ _ hr' with ⟨hk, rfl⟩ | ⟨_, hr⟩
      · exact (hinj p hp (args, kw) hd hk).symm
      · exact hc p hp now' r' hr
    cases expire with
    | none => exact ⟨rfl, hset _⟩
    | some e =>
      simp only
      split
      · exact ⟨rfl, hset _⟩
      · exact ⟨rfl, hc⟩

/-- a repeated call within the expiry time is served from the cache: the function does not run -/
theorem repeat_is_hit {R} (f : List Arg → Kwargs → R) (base : List Tok) (typed : Bool)
    (ignPos ignKw : List Nat) (expire : Option Int) (now now' : Int) (c : Store R)
    (args : List Arg) (kw : Kwargs)
    (hexp : ∀ e, expire = some e → 0 < e ∧ now' < now + e) :
    let c' := (call f base typed ignPos ignKw expire now c args kw).2.1
    (call f base typed ignPos ignKw expire now' c' args kw).2.2 = false ∨
    (call f base typed ignPos ignKw expire now c args kw).2.2 = false := by
  intro c'
  cases hg : c.get (argsToKey base args kw typed ignPos ignKw) now with
  | some r => right; simp [call, hg]
  | none =>
    left
    cases expire with
    | none =>
      have hc' : c' = c.set (argsToKey base args kw typed ignPos ignKw) (f args kw) none := by
        simp [c', call, hg]
      simp only [call, hc', get_set_self]
    | some e =>
      obtain ⟨he, hlt⟩ := hexp e rfl
      have hc' : c' = c.set (argsToKey base args kw typed ignPos ignKw) (f args kw) (some (now + e)) := by
        simp [c', call, hg, he]
      have : now + e > now' := hlt
      simp only [call, hc', get_set_self, this, if_true]

/-- an expiry of zero (or less) stores nothing -/
theorem expire_zero_stores_nothing {R} (f : List Arg → Kwargs → R) (base : List Tok) (typed : Bool)
    (ignPos ignKw : List Nat) (e : Int) (he : e ≤ 0) (now : Int) (c : Store R) (args : List Arg) (kw : Kwargs) :
    (call f base typed ignPos ignKw (some e) now c args kw).2.1 = c := by
  simp only [call]
  cases c.get (argsToKey base args kw typed ignPos ignKw) now with
  | some r => rfl
  | none =>
    have : ¬ e > 0 := by omega
    simp [this]

/-- non-vacuity: the D14 witness evaluated -/
example : argsToKey [.val 9] [⟨.val 1, 1⟩, ⟨.none, 0⟩, ⟨.val 3, 3⟩] [] false [] [] =
    argsToKey [.val 9] [⟨.val 1, 1⟩] [(3, ⟨.none, 0⟩)] false [] [] := by decide +kernel

end DC.Memo
