/-
C20 — Averager counts every add once; throttle never exceeds its rate.
-/
import DC.Properties.C20_Rational

namespace DC.Recipes

/-- the adds after the last pop -/
def sincePop : List AvgEv → List Int
  | [] => []
  | .add v :: rest => if rest.any (· == .pop) then sincePop rest else v :: sincePop rest
  | .pop :: rest => sincePop rest

/-- generalisation of `averager_exact` to an arbitrary start state -/
theorem averager_run (evs : List AvgEv) (s : AvgSt) :
    AvgSt.run s evs = if evs.any (· == .pop) then ⟨(sincePop evs).sum, (sincePop evs).length⟩
      else ⟨s.total + (sincePop evs).sum, s.count + (sincePop evs).length⟩ := by
  induction evs generalizing s with
  | nil => simp [AvgSt.run, sincePop]
  | cons e es ih =>
    rw [AvgSt.run_cons, ih]
    cases e with
    | add v =>
      have hany : ((AvgEv.add v :: es).any (· == .pop)) = es.any (· == .pop) := rfl
      rw [hany]
      by_cases hp : es.any (· == .pop) = true
      · simp only [hp, if_true, sincePop]
      · simp only [hp, if_false, sincePop, AvgSt.step, List.sum_cons, List.length_cons,
          Bool.false_eq_true]
        rw [Int.add_assoc, Nat.add_assoc, Nat.add_comm 1]
    | pop =>
      have hany : ((AvgEv.pop :: es).any (· == .pop)) = true := rfl
      rw [hany]
      by_cases hp : es.any (· == .pop) = true
      · simp only [hp, if_true, sincePop]
      · simp [hp, sincePop, AvgSt.step]

/-- after ANY sequence of completed adds and pops (each one atomic, in any
interleaving of any number of threads and processes), total and count are exactly the sum and
the number of the adds since the last pop — so the reported mean is total / count -/
theorem averager_exact (evs : List AvgEv) :
    (AvgSt.run {} evs).total = (sincePop evs).sum ∧ (AvgSt.run {} evs).count = (sincePop evs).length := by
  rw [averager_run]
  split <;> simp

/-! ### token bucket with a whole-number count

`Bucket` is the rational bucket with q = 1 (`qbucket_of_nat`), so each theorem below is read off
its `q` version in DC/Properties/C20_Rational.lean through the embedding `QBucket.ofBucket`. -/

theorem init_ok (count seconds : Nat) (now : Int) (hc : 0 < count) (hs : 0 < seconds) :
    (Bucket.init count seconds now).Ok := by
  refine ⟨?_, Int.le_refl _, hc, hs⟩
  exact Int.mul_nonneg (Int.natCast_nonneg _) (Int.natCast_nonneg _)

/-- the two invariants agree on the embedded whole-number bucket (count > 0: burst = cap) -/
theorem ofBucket_ok (b : Bucket) (hc : 0 < b.count) :
    (QBucket.ofBucket b).Ok ↔ 0 ≤ b.tally ∧ b.tally ≤ (b.count : Int) * b.seconds := by
  unfold QBucket.Ok
  rw [QBucket.ofBucket_burst b hc, QBucket.ofBucket_cap, Int.sub_self]
  exact Iff.rfl

/-- the invariant (the tally never exceeds the full bucket) is kept by every attempt at a later instant -/
theorem attempt_ok (b : Bucket) (now : Int) (h : b.Ok) (hn : b.last ≤ now) :
    (b.attempt now).1.Ok ∧ b.last ≤ (b.attempt now).1.last ∧ (b.attempt now).1.count = b.count ∧
    (b.attempt now).1.seconds = b.seconds := by
  obtain ⟨h0, h1, hc, hs⟩ := h
  obtain ⟨hl, hcnt, _, hsec⟩ := qattempt_last (.ofBucket b) now hn
  have hok := qattempt_ok (.ofBucket b) now ((ofBucket_ok b hc).2 ⟨h0, h1⟩)
  rw [qbucket_of_nat] at hl hcnt hsec hok
  have hc' : 0 < (b.attempt now).1.count := Nat.lt_of_lt_of_eq hc hcnt.symm
  obtain ⟨g0, g1⟩ := (ofBucket_ok _ hc').1 hok
  exact ⟨⟨g0, g1, hc', Nat.lt_of_lt_of_eq hs hsec.symm⟩, hl, hcnt, hsec⟩

/-- after sleeping the delay it was told, a caller that nobody overtook
is let through -/
theorem single_sleep_suffices (b : Bucket) (now d : Int) (h : b.Ok) (hn : b.last ≤ now)
    (hd : (b.attempt now).2 = some d) :
    0 < d ∧ ((b.attempt now).1.attempt (now + d)).2 = none := by
  have _ := h; have _ := hn  -- not needed: the delay is exact whatever the state and the elapsed time
  simpa only [qbucket_of_nat] using
    qsingle_sleep_suffices (.ofBucket b) now d (by rw [qbucket_of_nat]; exact hd)

/-- `window_bound` below, by induction on the attempts: for every arrival pattern (attempt instants in nondecreasing order, by any
number of callers sharing the cache), the calls let through in ANY time window of width w ticks
number at most count + rate·w: in integers, passes·seconds ≤ count·seconds + w.
Stated for the window that starts at the first pass considered and ends at the last. -/
theorem window_bound_aux (times : List Int) : ∀ (b : Bucket), b.Ok → times.Pairwise (· ≤ ·) →
    (∀ t ∈ times, b.last ≤ t) → ∀ (p : Int) (ps : List Int) (l : Int),
    b.passes times = p :: ps → (p :: ps).getLast? = some l →
    ((ps.length : Int) + 1) * b.seconds ≤ b.tally + (l - b.last) ∧
    ((ps.length : Int) + 1) * b.seconds ≤ (b.count : Int) * b.seconds + (l - p) := by
  intro b hok _ _ p ps l hp hl
  have := qwindow_bound_aux times (.ofBucket b) p ps [] l
    (by rw [qbucket_of_nat_passes, hp, List.append_nil]) hl
  rw [QBucket.ofBucket_burst b hok.2.2.1, QBucket.ofBucket_cap, QBucket.ofBucket_token,
    Int.sub_self, Int.add_zero] at this
  exact this

theorem window_bound (b : Bucket) (times : List Int) (h : b.Ok) (hsorted : times.Pairwise (· ≤ ·))
    (hfirst : ∀ t ∈ times, b.last ≤ t) (first last : Int)
    (hf : (b.passes times).head? = some first) (hl : (b.passes times).getLast? = some last) :
    ((b.passes times).length : Int) * b.seconds ≤ (b.count : Int) * b.seconds + (last - first) :=
  window_bound_from_q b times h hsorted hfirst first last hf hl

/-- every sub-window too: dropping attempts before some instant leaves a run of the same bucket
from a later state that still satisfies the invariant (so `window_bound` applies to it) -/
theorem passes_suffix_ok (b : Bucket) (now : Int) (rest : List Int) (h : b.Ok) (hn : b.last ≤ now) :
    (b.attempt now).1.Ok ∧
    b.passes (now :: rest) = (if (b.attempt now).2 = none then [now] else []) ++ (b.attempt now).1.passes rest :=
  ⟨(attempt_ok b now h hn).1, Bucket.passes_cons b now rest⟩

/-- non-vacuity: a burst of 4, then the steady rate -/
example : (Bucket.init 4 2 0).passes [0, 0, 0, 0, 0, 1, 2, 2, 3, 4, 8] = [0, 0, 0, 0, 2, 4, 8] := by decide +kernel

end DC.Recipes
