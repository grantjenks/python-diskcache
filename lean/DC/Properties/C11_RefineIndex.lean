/-
C11 (refinement, continued) — `deque[i] = v` and `del deque[i]`: IndexError out of range,
otherwise the item at the position Python indexing denotes is replaced / removed.
Both look the item up again by its key, hence the hypothesis `d.cache.cfg.disk = .pickle`, as for
`deque[i]` (`exDqJson_getitem` in DC/Properties/C11.lean, finding D17).
-/
import DC.Properties.C11_RefineBase

namespace DC.Deque
open DC.Cache DC.Spec DC.DSpec

theorem DRefines.length {d : Deque} {m : DList} (h : DRefines d m) : m.items.length = (items d).length := by
  rw [← h.1, List.length_map]

theorem OkN.irf {d : Deque} {n : Nat} (h : OkN d n) : irf_Inv d.cache := ⟨h.good, h.pol, h.noexp⟩

theorem items_entries (d : Deque) :
    (items d).map (entryOfRow d.cache) = (drf_Q (irf_abs d.cache)).map (·.2) := by
  rw [← drf_items_abs, List.map_map]; rfl

theorem items_keys (d : Deque) :
    (items d).map (fun r => (irf_key r, rf_ent d.cache r)) = drf_Q (irf_abs d.cache) := drf_items_abs d.cache

theorem key_roundtrip (d : Deque) (n : Nat) (E : Externals) (r : Row) (hok : OkN d n)
    (hdisk : d.cache.cfg.disk = .pickle) (hr : r ∈ d.cache.rows) :
    keyOf E d.cache.cfg (keyOfRow E d.cache r) = irf_key r := by
  obtain ⟨k, hk, hraw, hi⟩ := item_key hok.qok hok.allq' hr
  unfold keyOf keyOfRow irf_key
  rw [hdisk, hk, hraw]
  show Disk.put E (.int k) = _
  unfold Disk.put; simp [hi]

theorem key_bindable (d : Deque) (n : Nat) (r : Row) (hok : OkN d n) (hr : r ∈ d.cache.rows) :
    bindable (irf_key r).1 = true := by
  obtain ⟨k, hk, -, hi⟩ := item_key hok.qok hok.allq' hr
  unfold irf_key
  rw [hk]
  exact hi

theorem abs_pairwise (d : Deque) (n : Nat) (hok : OkN d n) :
    (drf_Q (irf_abs d.cache)).Pairwise (fun a b => sameKey a.1 b.1 = false) ∧
    ∀ p ∈ drf_Q (irf_abs d.cache), sameKey p.1 p.1 = true := by
  obtain ⟨h1, h2⟩ := irf_abs_wf hok.good.tinv
  unfold drf_Q
  constructor
  · refine (List.Perm.pairwise_iff ?_ (isort_perm _ _)).2 (List.Pairwise.filter _ h1)
    intro a b hab
    rw [rf_sameKey_comm]; exact hab
  · intro p hp
    rw [mem_isort] at hp
    exact h2 p (List.mem_filter.1 hp).1

theorem rowAt_cases (d : Deque) (n : Nat) (i : Int) (hok : OkN d n) :
    (position (items d).length i = none ∧ d.rowAt i = none) ∨
    ∃ p r, position (items d).length i = some p ∧ (items d)[p]? = some r ∧ d.rowAt i = some r := by
  have hidx := rowAt_index d n i hok
  cases hpos : position (items d).length i with
  | none => exact .inl ⟨rfl, by rw [hidx, position_none_index _ i hpos]⟩
  | some p =>
    obtain ⟨r, hp, hix⟩ := position_some_index _ i p hpos
    exact .inr ⟨p, r, rfl, hp, by rw [hidx, hix]⟩

theorem setitem_none (d : Deque) (E : Externals) (now : Int) (i : Int) (v : PyVal) (h : d.rowAt i = none) :
    d.setitem E now i v = (d, .exc "IndexError") := by
  unfold setitem; rw [h]

theorem setitem_some (d : Deque) (E : Externals) (now : Int) (i : Int) (v : PyVal) (r : Row)
    (h : d.rowAt i = some r) :
    d.setitem E now i v =
      ({ d with cache := (d.cache.set E now (keyOfRow E d.cache r) v none false .null).1 },
        match (d.cache.set E now (keyOfRow E d.cache r) v none false .null).2 with
        | .exc e => .exc e | _ => .none) := by
  unfold setitem; rw [h]
  rfl

theorem setitem_state (d : Deque) (n : Nat) (E : Externals) (now : Int) (v : PyVal) (r : Row) (p : Nat)
    (hok : OkN d n) (hdisk : d.cache.cfg.disk = .pickle) (hp : (items d)[p]? = some r) :
    let c' := (d.cache.set E now (keyOfRow E d.cache r) v none false .null).1
    let o := (match (d.cache.set E now (keyOfRow E d.cache r) v none false .null).2 with
        | .exc e => Out.exc e | _ => .none)
    c'.cfg = d.cache.cfg ∧ irf_Inv c' ∧
    ((entryFor E d.cache.cfg v = none ∧ o = .exc "UnicodeEncodeError" ∧ irf_abs c' = irf_abs d.cache) ∨
     (∃ e, entryFor E d.cache.cfg v = some e ∧ o = .none ∧ Readable e ∧
        irf_abs c' = (irf_abs d.cache).map (fun q => if sameKey q.1 (irf_key r) then (q.1, e) else q))) := by
  intro c' o
  have hrm : r ∈ d.cache.rows := Ok.mem_rows (List.mem_of_getElem? hp)
  have hK := key_roundtrip d n E r hok hdisk hrm
  obtain ⟨habs, hcfg, hinv⟩ := irf_set d.cache E now (keyOfRow E d.cache r) v hok.irf
  have hout := irf_set_out d.cache E now (keyOfRow E d.cache r) v hok.irf
  refine ⟨hcfg, hinv, ?_⟩
  have hhas : (irf_abs d.cache).has (irf_key r) = true := by
    rw [irf_abs_has, List.any_eq_true]
    refine ⟨r, hrm, ?_⟩
    have := (irf_abs_wf hok.good.tinv).2 (irf_key r, rf_ent d.cache r)
      (List.mem_map.2 ⟨r, hrm, rfl⟩)
    exact this
  have hb := key_bindable d n r hok hrm
  unfold OSpec.setitem at habs hout
  rw [hK] at habs hout
  unfold entryFor
  cases hpl : place E d.cache.cfg.disk d.cache.cfg.minFileSize v false with
  | error e =>
    rw [hpl] at habs hout
    exact .inl ⟨rfl, hout, habs⟩
  | ok pl =>
    rw [hpl] at habs hout
    simp only [hb, Bool.true_and] at habs hout ⊢
    cases hbv : bindable (entryOf pl none .null).val with
    | false =>
      rw [hbv] at habs hout
      simp only [Bool.false_eq_true, if_false] at habs hout ⊢
      exact .inl ⟨trivial, hout, habs⟩
    | true =>
      rw [hbv] at habs hout
      simp only [if_true] at habs hout ⊢
      refine .inr ⟨_, rfl, hout, drf_place_readable E _ _ v pl hpl none .null, ?_⟩
      rw [habs]
      unfold ODict.set
      rw [hhas]; rfl

theorem setitem_drefines (d : Deque) (m : DList) (n : Nat) (E : Externals) (now : Int) (i : Int) (v : PyVal)
    (hok : OkN d n) (hr : DRefines d m)
    (hdisk : d.cache.cfg.disk = .pickle) -- the key of the item is read back by the pickle `Disk`
    : (d.setitem E now i v).2 = (DSpec.setitem m E d.cache.cfg i v).2 ∧
    DRefines (d.setitem E now i v).1 (DSpec.setitem m E d.cache.cfg i v).1 := by
  unfold DSpec.setitem
  rw [hr.length]
  rcases rowAt_cases d n i hok with ⟨hpos, hidx⟩ | ⟨p, r, hpos, hp, hidx⟩
  · rw [hpos, setitem_none d E now i v hidx]
    exact ⟨rfl, hr⟩
  · rw [hpos, setitem_some d E now i v r hidx]
    obtain ⟨hcfg, hinv, hcase⟩ := setitem_state d n E now v r p hok hdisk hp
    simp only
    rcases hcase with ⟨hef, ho, habs⟩ | ⟨e, hef, ho, -, habs⟩
    · rw [hef]
      refine ⟨ho, ?_, hr.2⟩
      show (items _).map (entryOfRow _) = _
      rw [items_entries]
      show (drf_Q (irf_abs (d.cache.set E now (keyOfRow E d.cache r) v none false .null).1)).map (·.2) = _
      rw [habs, ← items_entries, hr.1]
    · rw [hef]
      refine ⟨ho, ?_, hr.2⟩
      show (items _).map (entryOfRow _) = _
      rw [items_entries]
      show (drf_Q (irf_abs (d.cache.set E now (keyOfRow E d.cache r) v none false .null).1)).map (·.2) = m.items.set p e
      rw [habs, drf_Q_map _ (fun q => by split <;> rfl)]
      obtain ⟨hpw, hself⟩ := abs_pairwise d n hok
      have hL : (drf_Q (irf_abs d.cache))[p]? = some (irf_key r, rf_ent d.cache r) := by
        rw [← items_keys, List.getElem?_map, hp]; rfl
      rw [drf_map_replace e _ p _ _ hpw hself hL, ← items_entries, hr.1]

theorem setitem_okN (d : Deque) (n : Nat) (E : Externals) (now : Int) (i : Int) (v : PyVal)
    (hok : OkN d n) (hdisk : d.cache.cfg.disk = .pickle) : OkN (d.setitem E now i v).1 n := by
  rcases rowAt_cases d n i hok with ⟨-, hidx⟩ | ⟨p, r, -, hp, hidx⟩
  · rw [setitem_none d E now i v hidx]
    exact hok
  · rw [setitem_some d E now i v r hidx]
    obtain ⟨hcfg, hinv, hcase⟩ := setitem_state d n E now v r p hok hdisk hp
    simp only
    have hst := drf_set_stats d.cache E now (keyOfRow E d.cache r) v .null hok.good.depth
    -- in both cases the bindings are mapped by a function that keeps keys and readability
    obtain ⟨g, habs, hgk, hgr⟩ : ∃ g : Key × Entry → Key × Entry,
        irf_abs (d.cache.set E now (keyOfRow E d.cache r) v none false .null).1 = (irf_abs d.cache).map g ∧
        (∀ q, (g q).1 = q.1) ∧ (∀ q, Readable q.2 → Readable (g q).2) := by
      rcases hcase with ⟨-, -, habs⟩ | ⟨e, -, -, hre, habs⟩
      · exact ⟨id, by rw [List.map_id]; exact habs, fun _ => rfl, fun _ h => h⟩
      · refine ⟨_, habs, fun q => by split <;> rfl, fun q h => ?_⟩
        split
        · exact hre
        · exact h
    have hmem : ∀ a ∈ (d.cache.set E now (keyOfRow E d.cache r) v none false .null).1.rows,
        ∃ b ∈ d.cache.rows, (irf_key a, rf_ent (d.cache.set E now (keyOfRow E d.cache r) v none false .null).1 a) =
          g (irf_key b, rf_ent d.cache b) := by
      intro a ha
      have : (irf_key a, rf_ent (d.cache.set E now (keyOfRow E d.cache r) v none false .null).1 a) ∈
          irf_abs (d.cache.set E now (keyOfRow E d.cache r) v none false .null).1 :=
        List.mem_map.2 ⟨a, ha, rfl⟩
      rw [habs] at this
      obtain ⟨q, hq, hqa⟩ := List.mem_map.1 this
      obtain ⟨b, hb, hbq⟩ := List.mem_map.1 hq
      exact ⟨b, hb, by rw [← hqa, ← hbq]⟩
    have hlen : (d.cache.set E now (keyOfRow E d.cache r) v none false .null).1.rows.length ≤
        d.cache.rows.length := by
      have := congrArg List.length habs
      rw [irf_abs_length, List.length_map, irf_abs_length] at this
      omega
    refine hok.transfer hinv.good hcfg hst rfl ?_ hinv.noexp ?_ hlen
    · intro a ha
      obtain ⟨b, hb, hab⟩ := hmem a ha
      exact ⟨b, hb, (congrArg Prod.fst hab).trans (hgk _)⟩
    · intro a ha
      obtain ⟨b, hb, hab⟩ := hmem a ha
      rw [entryOfRow_eq, show rf_ent _ a = (g (irf_key b, rf_ent d.cache b)).2 from congrArg Prod.snd hab]
      exact hgr _ (hok.readable b hb)

theorem setitem_cfg (d : Deque) (n : Nat) (E : Externals) (now : Int) (i : Int) (v : PyVal)
    (hok : OkN d n) : (d.setitem E now i v).1.cache.cfg = d.cache.cfg := by
  unfold setitem
  cases d.rowAt i with
  | none => rfl
  | some r => exact (irf_set d.cache E now (keyOfRow E d.cache r) v hok.irf).2.1

theorem delitem_none' (d : Deque) (E : Externals) (now : Int) (i : Int) (h : d.rowAt i = none) :
    d.delitem E now i = (d, .exc "IndexError") := by
  unfold delitem; rw [h]

theorem delitem_some' (d : Deque) (E : Externals) (now : Int) (i : Int) (r : Row)
    (h : d.rowAt i = some r) :
    d.delitem E now i =
      ({ d with cache := (d.cache.delitem E now (keyOfRow E d.cache r)).1 },
        match (d.cache.delitem E now (keyOfRow E d.cache r)).2 with
        | .exc "KeyError" => .exc "IndexError" | _ => .none) := by
  unfold delitem; rw [h]
  rfl

theorem items_rowids (d : Deque) (n : Nat) (hok : OkN d n) :
    (items d).Pairwise (fun a b => a.rowid ≠ b.rowid) := by
  have h1 : d.cache.rows.Pairwise (fun a b => a.rowid ≠ b.rowid) :=
    List.Pairwise.imp (fun h => Nat.ne_of_lt h) hok.good.tinv.tbl.asc
  show (qrows d.cache.rows none).Pairwise _
  unfold qrows
  refine (List.Perm.pairwise_iff ?_ (isort_perm _ _)).2 (List.Pairwise.filter _ h1)
  intro a b hab; exact fun h => hab h.symm

theorem delrow_state (d : Deque) (n : Nat) (E : Externals) (now : Int) (r : Row) (p : Nat)
    (hok : OkN d n) (hdisk : d.cache.cfg.disk = .pickle) (hp : (items d)[p]? = some r) :
    let c' := (d.cache.delitem E now (keyOfRow E d.cache r)).1
    (d.cache.delitem E now (keyOfRow E d.cache r)).2 = .bool true ∧
    Cache.Good c' ∧ c'.cfg = d.cache.cfg ∧ c'.statistics = d.cache.statistics ∧
    c'.rows = d.cache.rows.filter (fun x => x.rowid != r.rowid) ∧
    (∀ a ∈ c'.rows, rf_ent c' a = rf_ent d.cache a) ∧
    items { d with cache := c' } = (items d).eraseIdx p := by
  intro c'
  have hrm : r ∈ d.cache.rows := Ok.mem_rows (List.mem_of_getElem? hp)
  have hK := key_roundtrip d n E r hok hdisk hrm
  have hkm : keyMatch r.key r.raw r = true := by
    unfold keyMatch
    simp only [Bool.and_eq_true, beq_self_eq_true, and_true]
    exact eqv_self (hok.good.tinv.tbl.nonnull r hrm)
  have hsel : d.cache.selLive (DC.put E d.cache.cfg.disk (keyOfRow E d.cache r)).1
      (DC.put E d.cache.cfg.disk (keyOfRow E d.cache r)).2 now = some r := by
    have : DC.put E d.cache.cfg.disk (keyOfRow E d.cache r) = irf_key r := hK
    rw [this]
    exact selLive_of_mem hok.good.tinv.tbl.uniq hrm hkm (live_of_noexp (hok.noexp r hrm) now)
  obtain ⟨ho, hrows, hcfg, -, -⟩ := delitem_some d.cache E now (keyOfRow E d.cache r) r hsel
  obtain ⟨-, habs, -, hinv⟩ := irf_delitem d.cache E now (keyOfRow E d.cache r) hok.irf
  have hst := drf_delitem_stats d.cache E now (keyOfRow E d.cache r) hok.good.depth
  have hhas : (irf_abs d.cache).has (irf_key r) = true := by
    rw [irf_abs_has, List.any_eq_true]
    exact ⟨r, hrm, hkm⟩
  have hent : ∀ a ∈ c'.rows, rf_ent c' a = rf_ent d.cache a := by
    have h1 : irf_abs c' = (irf_abs d.cache).del (irf_key r) := by
      rw [habs]; unfold OSpec.delitem; rw [hK, hhas]; rfl
    have h2 : c'.rows = d.cache.rows.filter (fun x => !keyMatch (irf_key r).1 (irf_key r).2 x) := by
      have := (irf_del_rows d.cache E now (keyOfRow E d.cache r) hok.irf).1
      rw [hK] at this; exact this
    have h3 : c'.rows.map (fun a => (irf_key a, rf_ent c' a)) =
        c'.rows.map (fun a => (irf_key a, rf_ent d.cache a)) := by
      show irf_abs c' = _
      rw [h1, h2]
      unfold ODict.del irf_abs
      rw [List.filter_map]
      rfl
    intro a ha
    exact congrArg Prod.snd (List.map_inj_left.1 h3 a ha)
  refine ⟨ho, hinv.good, hcfg, hst, hrows, hent, ?_⟩
  show qrows c'.rows none = _
  rw [hrows, qrows_filter hok.good.tinv.tbl.uniq hok.good.tinv.tbl.nonnull]
  exact drf_filter_erase _ p r (items_rowids d n hok) hp

theorem delrow_drefines (d : Deque) (m : DList) (n : Nat) (E : Externals) (now : Int) (r : Row) (p : Nat)
    (hok : OkN d n) (hr : DRefines d m) (hdisk : d.cache.cfg.disk = .pickle) (hp : (items d)[p]? = some r) :
    DRefines { d with cache := (d.cache.delitem E now (keyOfRow E d.cache r)).1 }
      { m with items := m.items.eraseIdx p } := by
  obtain ⟨-, -, -, -, -, hent, hitems⟩ := delrow_state d n E now r p hok hdisk hp
  refine ⟨?_, hr.2⟩
  show (items _).map (entryOfRow _) = m.items.eraseIdx p
  rw [hitems, ← hr.1, ← drf_map_eraseIdx]
  apply List.map_congr_left
  intro a ha
  apply hent
  have : a ∈ items { d with cache := (d.cache.delitem E now (keyOfRow E d.cache r)).1 } := by
    rw [hitems]; exact ha
  exact Ok.mem_rows this

theorem delitem_drefines (d : Deque) (m : DList) (n : Nat) (E : Externals) (now : Int) (i : Int)
    (hok : OkN d n) (hr : DRefines d m)
    (hdisk : d.cache.cfg.disk = .pickle) -- the key of the item is read back by the pickle `Disk`
    : (d.delitem E now i).2 = (DSpec.delitem m i).2 ∧
    DRefines (d.delitem E now i).1 (DSpec.delitem m i).1 := by
  unfold DSpec.delitem
  rw [hr.length]
  rcases rowAt_cases d n i hok with ⟨hpos, hidx⟩ | ⟨p, r, hpos, hp, hidx⟩
  · rw [hpos, delitem_none' d E now i hidx]
    exact ⟨rfl, hr⟩
  · rw [hpos, delitem_some' d E now i r hidx]
    obtain ⟨ho, -⟩ := delrow_state d n E now r p hok hdisk hp
    simp only
    exact ⟨by rw [ho], delrow_drefines d m n E now r p hok hr hdisk hp⟩

theorem delrow_okN (d : Deque) (n : Nat) (E : Externals) (now : Int) (r : Row) (p : Nat)
    (hok : OkN d n) (hdisk : d.cache.cfg.disk = .pickle) (hp : (items d)[p]? = some r) :
    OkN { d with cache := (d.cache.delitem E now (keyOfRow E d.cache r)).1 } n := by
  obtain ⟨-, hg, hcfg, hst, hrows, hent, hitems⟩ := delrow_state d n E now r p hok hdisk hp
  refine hok.shrink hg hcfg hst rfl ?_ hent ?_
  · intro a ha
    have ha' : a ∈ (d.cache.delitem E now (keyOfRow E d.cache r)).1.rows := ha
    rw [hrows] at ha'; exact (List.mem_filter.1 ha').1
  · rw [hitems, List.length_eraseIdx]
    split <;> omega

theorem delitem_okN (d : Deque) (n : Nat) (E : Externals) (now : Int) (i : Int)
    (hok : OkN d n) (hdisk : d.cache.cfg.disk = .pickle) : OkN (d.delitem E now i).1 n := by
  rcases rowAt_cases d n i hok with ⟨-, hidx⟩ | ⟨p, r, -, hp, hidx⟩
  · rw [delitem_none' d E now i hidx]
    exact hok
  · rw [delitem_some' d E now i r hidx]
    exact delrow_okN d n E now r p hok hdisk hp

theorem delitem_cfg (d : Deque) (n : Nat) (E : Externals) (now : Int) (i : Int)
    (hok : OkN d n) : (d.delitem E now i).1.cache.cfg = d.cache.cfg := by
  unfold delitem
  cases d.rowAt i with
  | none => rfl
  | some r => exact (irf_del_rows d.cache E now (keyOfRow E d.cache r) hok.irf).2

end DC.Deque
