/-
C12 (refinement, continued) — which hypotheses of the refinement theorems are
necessary.  Every `_needs_` theorem here is a concrete counterexample: a state (or a
history) satisfying all hypotheses of a theorem of C12_Refine.lean /
C12_Views.lean but one, on which the conclusion fails.

 * the clauses of the invariant `IOk` (`iok_iff`): table invariant (`count`,
   unique keys), policy 'none', no expiry times, file invariant (fresh file names);
 * the page size, for `clear` and the history theorems (`iter_irefines_needs_page` is in
   C12_Refine.lean);
 * the key codec and the policy in the history theorems (the single-call counterexamples
   `*_irefines_needs_codec` and `hist_codec_needs_agreement` are in C12_Refine.lean);
 * `WF` in `odel_head` / `odel_last`; `odel_set_keys` needs no hypothesis (`odel_set_keys'`).
Not shown necessary: the quiescence clauses of `IOk` (no open block, nothing
pending), `NoOrphan`, and `disk = pickle`.
-/
import DC.Properties.C12_Views

namespace DC.Index
open DC.Spec DC.Cache

/-! ### the clauses of `IOk` -/

def FilesOk (c : Cache) : Prop := FileInv c ∧ NoOrphan c

/-- no open transaction block, nothing pending -/
def Quiescent (c : Cache) : Prop := c.depth = 0 ∧ c.snap = none ∧ c.pending = [] ∧ c.created = []

theorem iok_iff (x : Index) :
    IOk x ↔ TableInv x.cache ∧ x.cache.cfg.policy = .none ∧ (∀ r ∈ x.cache.rows, r.expT = none) ∧
      x.cache.cfg.disk = .pickle ∧ FilesOk x.cache ∧ Quiescent x.cache := by
  constructor
  · intro h
    exact ⟨h.ok.inv, h.ok.pol, h.ok.noexp, h.ok.disk, ⟨h.good.finv, h.good.noOrphan⟩,
      h.good.depth, h.good.snap, h.good.pending, h.good.created⟩
  · rintro ⟨h1, h2, h3, h4, ⟨h5, h6⟩, h7, h8, h9, h10⟩
    exact ⟨⟨h1, h2, h3, h7, h4⟩, ⟨h1, h5, h6, h7, h8, h9, h10⟩⟩

private theorem pw_nofile : ∀ rows : List Row, (∀ r ∈ rows, r.file = none) →
    rows.Pairwise (fun a b => ∀ f, a.file = some f → b.file ≠ some f) := by
  intro rows
  induction rows with
  | nil => intro _; exact List.Pairwise.nil
  | cons a t ih =>
    intro h
    refine List.pairwise_cons.2 ⟨?_, ih (fun r hr => h r (List.mem_cons_of_mem _ hr))⟩
    intro b _ f hf
    rw [h a (List.mem_cons_self ..)] at hf
    cases hf

theorem filesOk_nofiles (c : Cache) (h1 : ∀ r ∈ c.rows, r.file = none) (h2 : c.files = []) :
    FilesOk c := by
  refine ⟨⟨?_, pw_nofile _ h1, ?_, ?_⟩, ?_⟩
  · intro r hr f hf
    rw [h1 r hr] at hf
    cases hf
  · intro p hp; rw [h2] at hp; cases hp
  · rw [h2]; exact List.nodup_nil
  · intro p hp; rw [h2] at hp; cases hp

/-- the dictionary a state denotes -/
def absOf (x : Index) : ODict := x.cache.rows.map (fun r => ((r.key, r.raw), entryOfRow x.cache r))

theorem irefines_absOf (x : Index) : IRefines x (absOf x) := rfl

/-- a row under key `'a'` holding a small integer -/
def exRowA (id : Nat) (v : Int) (exp : Option Int) : Row :=
  { rowid := id, key := .text [97], raw := true, storeT := 0, expT := exp, accT := 0,
    accN := 0, tag := .null, size := 0, mode := 1, file := none, val := .int v }

def exExp : Index := { cache := { rows := [exRowA 1 7 (some 0)], count := 1, cfg := { policy := .none } } }

/-- "no row has an expiry time" is necessary: everything else holds, the row is a binding of the
dictionary, but at time 10 the look-up misses it (the ordered dictionary has no clock) -/
theorem getitem_irefines_needs_noexp :
    ∃ (x : Index) (m : ODict), TableInv x.cache ∧ x.cache.cfg.policy = .none ∧
      x.cache.cfg.disk = .pickle ∧ FilesOk x.cache ∧ Quiescent x.cache ∧ IRefines x m ∧
      (x.getitem exEI 10 (.str [97])).2 ≠ (OSpec.getitem m exEI x.cache.cfg (.str [97])).2 := by
  refine ⟨exExp, absOf exExp,
    tableInv_single _ (exRowA 1 7 (some 0)) rfl (by decide) nofun rfl rfl rfl, rfl, rfl,
    filesOk_nofiles _ ?_ rfl, ⟨rfl, rfl, rfl, rfl⟩, rfl, ?_⟩
  · simp [exExp, exRowA]
  · have h1 : (exExp.getitem exEI 10 (.str [97])).2 = .exc "KeyError" := by rfl
    have h2 : (OSpec.getitem (absOf exExp) exEI exExp.cache.cfg (.str [97])).2 = .val (.int 7) := by rfl
    intro h
    rw [h1, h2] at h
    cases h

def exPol : Index := { cache := { cfg := { policy := .lrs, limN := 0 } } }

/-- "eviction policy none" is necessary: an empty cache with the default policy and size limit 0
satisfies everything else; the assignment stores the item and the cull that follows evicts it -/
theorem setitem_irefines_needs_policy :
    ∃ (x : Index) (m : ODict), TableInv x.cache ∧ (∀ r ∈ x.cache.rows, r.expT = none) ∧
      x.cache.cfg.disk = .pickle ∧ FilesOk x.cache ∧ Quiescent x.cache ∧ IRefines x m ∧
      ¬ IRefines (x.setitem exEI 0 (.str [97]) (.int 1)).1
        (OSpec.setitem m exEI x.cache.cfg (.str [97]) (.int 1)).1 := by
  have hn : ∀ r ∈ exPol.cache.rows, r.file = none ∧ r.expT = none := fun r hr => absurd hr List.not_mem_nil
  refine ⟨exPol, [], inv_init { policy := .lrs, limN := 0 } false, fun r hr => (hn r hr).2, rfl,
    filesOk_nofiles _ (fun r hr => (hn r hr).1) rfl, ⟨rfl, rfl, rfl, rfl⟩, rfl, ?_⟩
  show ¬ (List.map _ _ = _)
  decide +kernel

def exCnt : Index := { cache := { count := 5, cfg := { policy := .none } } }

/-- the row counter of the table invariant is necessary: `len` reads `Settings.count` -/
theorem len_irefines_needs_count :
    ∃ (x : Index) (m : ODict), x.cache.cfg.policy = .none ∧ (∀ r ∈ x.cache.rows, r.expT = none) ∧
      x.cache.cfg.disk = .pickle ∧ FilesOk x.cache ∧ Quiescent x.cache ∧ IRefines x m ∧
      (x.len).2 ≠ (OSpec.len m).2 := by
  have hn : ∀ r ∈ exCnt.cache.rows, r.file = none ∧ r.expT = none := fun r hr => absurd hr List.not_mem_nil
  refine ⟨exCnt, [], rfl, fun r hr => (hn r hr).2, rfl, filesOk_nofiles _ (fun r hr => (hn r hr).1) rfl,
    ⟨rfl, rfl, rfl, rfl⟩, rfl, ?_⟩
  have h1 : (exCnt.len).2 = .int 5 := rfl
  have h2 : (OSpec.len []).2 = .int 0 := rfl
  intro h
  rw [h1, h2] at h
  injection h with h
  cases h

def exDup : Index :=
  { cache := { rows := [exRowA 1 1 none, exRowA 2 2 none], count := 2, cfg := { policy := .none } } }

/-- "at most one row per key" (the UNIQUE index) is necessary: with two rows under one key the
deletion removes the first only, the dictionary has no binding left -/
theorem delitem_irefines_needs_unique :
    ∃ (x : Index) (m : ODict), Cache.RowidsAsc x.cache.rows ∧ x.cache.count = x.cache.rows.length ∧
      x.cache.cfg.policy = .none ∧ (∀ r ∈ x.cache.rows, r.expT = none) ∧
      x.cache.cfg.disk = .pickle ∧ FilesOk x.cache ∧ Quiescent x.cache ∧ IRefines x m ∧
      ¬ IRefines (x.delitem exEI 0 (.str [97])).1 (OSpec.delitem m exEI x.cache.cfg (.str [97])).1 := by
  refine ⟨exDup, absOf exDup, ?_, rfl, rfl, ?_, rfl, filesOk_nofiles _ ?_ rfl, ⟨rfl, rfl, rfl, rfl⟩, rfl, ?_⟩
  · simp [exDup, Cache.RowidsAsc, exRowA]
  · simp [exDup, exRowA]
  · simp [exDup, exRowA]
  · show ¬ (List.map _ _ = _)
    decide +kernel

def exRowF : Row :=
  { rowid := 1, key := .text [97], raw := true, storeT := 0, expT := none, accT := 0,
    accN := 0, tag := .null, size := 2, mode := 2, file := some 0, val := .null }

/-- `'a'` is bound to a two-byte value kept in file 0, but the file-name counter still stands at 0 -/
def exStale : Index :=
  { cache := { rows := [exRowF], count := 1, size := 2, files := [(0, .bin [1, 2])], nfile := 0,
               cfg := { policy := .none, minFileSize := 1 } } }

/-- "file names in use are below the allocation counter" (`FileInv.fresh`) is necessary: everything
else holds (the only file is the one the only row refers to), but the value file of the next
assignment gets the name of the existing one, and the new item reads the old content -/
theorem setitem_irefines_needs_fresh :
    ∃ (x : Index) (m : ODict), TableInv x.cache ∧ x.cache.cfg.policy = .none ∧
      (∀ r ∈ x.cache.rows, r.expT = none) ∧ x.cache.cfg.disk = .pickle ∧ NoOrphan x.cache ∧
      (∀ r ∈ x.cache.rows, ∀ f, r.file = some f → ∃ c, x.cache.fileGet f = some c ∧ c.size = r.size) ∧
      Quiescent x.cache ∧ IRefines x m ∧
      ¬ IRefines (x.setitem exEI 0 (.str [98]) (.bytes [5, 6, 7])).1
        (OSpec.setitem m exEI x.cache.cfg (.str [98]) (.bytes [5, 6, 7])).1 := by
  refine ⟨exStale, absOf exStale, tableInv_single _ exRowF rfl (by decide) nofun rfl rfl rfl, rfl, ?_, rfl,
    ?_, ?_, ⟨rfl, rfl, rfl, rfl⟩, rfl, ?_⟩
  · simp [exStale, exRowF]
  · intro p hp
    simp only [exStale, List.mem_singleton] at hp
    subst hp
    exact ⟨exRowF, List.mem_singleton.2 rfl, rfl⟩
  · intro r hr f hf
    simp only [exStale, List.mem_singleton] at hr
    subst hr
    simp only [exRowF, Option.some.injEq] at hf
    subst hf
    exact ⟨.bin [1, 2], rfl, rfl⟩
  · show ¬ (List.map _ _ = _)
    decide +kernel

/-! ### the page size -/

/-- an Index with page size 0 holding one item -/
def exPage0 : Index := (({ cache := { cfg := { policy := .none, page := 0 } } } : Index).setitem exEI 0
  (.str [97]) (.int 1)).1

def exPage0Dict : ODict :=
  (OSpec.setitem [] exEI ({ policy := .none, page := 0 } : Cfg) (.str [97]) (.int 1)).1

theorem exPage0_ok : IOk exPage0 ∧ IRefines exPage0 exPage0Dict := by
  obtain ⟨hok0, hr0⟩ := irefines_init { policy := .none, page := 0 } false rfl rfl
  have hs := setitem_step _ [] exEI 0 (.str [97]) (.int 1) hok0 hr0
  exact ⟨hs.ok, hs.rel⟩

/-- `hpg` is necessary for `clear`: with page size 0 the removal loop removes nothing -/
theorem clear_irefines_needs_page :
    ∃ (x : Index) (m : ODict), IOk x ∧ IRefines x m ∧ ¬ IRefines (x.clear).1 (OSpec.clear m).1 := by
  refine ⟨exPage0, exPage0Dict, exPage0_ok.1, exPage0_ok.2, ?_⟩
  show ¬ (List.map _ _ = _)
  decide +kernel

/-- `hpg` is necessary in the history theorem (history: one `clear`) -/
theorem irun_refines_needs_page :
    ∃ (x : Index) (m : ODict) (ops : List IOp) (D : PyVal → Bytes),
      IOk x ∧ IRefines x m ∧ HistCodec D ops ∧ KeysRT D m ∧
      ¬ (Index.outs x ops = OSpec.outs m x.cache.cfg ops ∧
         IRefines (Index.run x ops) (OSpec.run m x.cache.cfg ops)) := by
  refine ⟨exPage0, exPage0Dict, [.clear], exEI.dumpsK, exPage0_ok.1, exPage0_ok.2, ?_, ?_, ?_⟩
  · intro op hop E hE
    rw [List.mem_singleton.1 hop] at hE
    cases hE
  · intro E hE K hK
    have hK' : K = keyOf exEI ({ policy := .none, page := 0 } : Cfg) (.str [97]) := by
      have : ODict.keys exPage0Dict = [keyOf exEI ({ policy := .none, page := 0 } : Cfg) (.str [97])] := by
        decide +kernel
      rw [this] at hK
      exact List.mem_singleton.1 hK
    rw [hK']
    exact put_get_put2 exEI.dumpsK exEI E exEI_codec hE (.str [97])
  · rintro ⟨-, h⟩
    revert h
    show ¬ (List.map _ _ = _)
    decide +kernel

/-- `hpg` is necessary in `iter_after_history` -/
theorem iter_after_history_needs_page :
    ∃ (cf : Cfg) (ops : List IOp) (D : PyVal → Bytes),
      cf.policy = .none ∧ cf.disk = .pickle ∧ HistCodec D ops ∧
      ((Index.run { cache := { cfg := cf, statistics := false } } ops).iter exEI true).2 ≠
        .list ((OSpec.run [] cf ops).keys.map (fun K => Cache.keyOut exEI cf.disk K.1 K.2)) := by
  refine ⟨{ policy := .none, page := 0 }, [.setitem exEI 0 (.str [97]) (.int 1)], exEI.dumpsK, rfl, rfl, ?_, ?_⟩
  · intro op hop E hE
    rw [List.mem_singleton.1 hop] at hE
    cases hE
    exact exEI_codec
  · have h1 : ((Index.run { cache := { cfg := { policy := .none, page := 0 }, statistics := false } }
        [.setitem exEI 0 (.str [97]) (.int 1)]).iter exEI true).2 = .list [] := by rfl
    have h2 : Out.list ((OSpec.run [] ({ policy := .none, page := 0 } : Cfg)
        [.setitem exEI 0 (.str [97]) (.int 1)]).keys.map
        (fun K => Cache.keyOut exEI ({ policy := .none, page := 0 } : Cfg).disk K.1 K.2)) =
        .list [.val (.str [97])] := by rfl
    intro h
    rw [h1, h2] at h
    injection h with h
    cases h

/-! ### the key codec, the policy: histories -/

/-- `hkeys` (the keys already stored round-trip) is necessary in the history theorem: the Index of
`popitem_end_needs_codec`, the history `popitem()`, under a lawful codec -/
theorem irun_refines_needs_keys :
    ∃ (x : Index) (m : ODict) (ops : List IOp) (D : PyVal → Bytes),
      IOk x ∧ IRefines x m ∧ 0 < x.cache.cfg.page ∧ HistCodec D ops ∧
      ¬ (Index.outs x ops = OSpec.outs m x.cache.cfg ops ∧
         IRefines (Index.run x ops) (OSpec.run m x.cache.cfg ops)) := by
  refine ⟨exIx, exIxDict, [.popitem exEI 0 true], exEI.dumpsK, exIx_iok, rfl, by decide, ?_, ?_⟩
  · intro op hop E hE
    rw [List.mem_singleton.1 hop] at hE
    cases hE
    exact exEI_codec
  · rintro ⟨-, h⟩
    revert h
    show ¬ (List.map _ _ = _)
    decide +kernel

/-- `hD` (the calls agree on the key codec) is necessary in `iter_after_history`
(`hist_codec_needs_agreement` as the user sees it): after `index[obj] = 1` under one codec and
`popitem()` under another, the key is still listed -/
theorem iter_after_history_needs_codec :
    ∃ (cf : Cfg) (ops : List IOp),
      cf.policy = .none ∧ cf.disk = .pickle ∧ 0 < cf.page ∧
      (∀ op ∈ ops, ∀ E, opE op = some E → ∀ k, E.loads (E.dumpsK k) = k) ∧
      ((Index.run { cache := { cfg := cf, statistics := false } } ops).iter exEI true).2 ≠
        .list ((OSpec.run [] cf ops).keys.map (fun K => Cache.keyOut exEI cf.disk K.1 K.2)) := by
  refine ⟨{ policy := .none }, [.setitem exEI 0 (.obj [7]) (.int 1), .popitem exEI2 0 true],
    rfl, rfl, by decide, ?_, ?_⟩
  · intro op hop E hE
    simp only [List.mem_cons, List.not_mem_nil, or_false] at hop
    rcases hop with rfl | rfl
    · cases hE; exact exEI_codec.2
    · cases hE; exact fun k => exEI_codec.2 k
  · have h1 : ((Index.run { cache := { cfg := { policy := .none }, statistics := false } }
        [.setitem exEI 0 (.obj [7]) (.int 1), .popitem exEI2 0 true]).iter exEI true).2 =
        .list [.val (.obj [7])] := by rfl
    have h2 : Out.list ((OSpec.run [] ({ policy := .none } : Cfg)
        [.setitem exEI 0 (.obj [7]) (.int 1), .popitem exEI2 0 true]).keys.map
        (fun K => Cache.keyOut exEI ({ policy := .none } : Cfg).disk K.1 K.2)) = .list [] := by rfl
    intro h
    rw [h1, h2] at h
    injection h with h
    cases h

/-- `hp` (policy none) is necessary in `iter_after_history`: with the default policy and size
limit 0 the assigned item is evicted at once -/
theorem iter_after_history_needs_policy :
    ∃ (cf : Cfg) (ops : List IOp) (D : PyVal → Bytes),
      cf.disk = .pickle ∧ 0 < cf.page ∧ HistCodec D ops ∧
      ((Index.run { cache := { cfg := cf, statistics := false } } ops).iter exEI true).2 ≠
        .list ((OSpec.run [] cf ops).keys.map (fun K => Cache.keyOut exEI cf.disk K.1 K.2)) := by
  refine ⟨{ policy := .lrs, limN := 0 }, [.setitem exEI 0 (.str [97]) (.int 1)], exEI.dumpsK, rfl,
    by decide, ?_, ?_⟩
  · intro op hop E hE
    rw [List.mem_singleton.1 hop] at hE
    cases hE
    exact exEI_codec
  · have h1 : ((Index.run { cache := { cfg := { policy := .lrs, limN := 0 }, statistics := false } }
        [.setitem exEI 0 (.str [97]) (.int 1)]).iter exEI true).2 = .list [] := by rfl
    have h2 : Out.list ((OSpec.run [] ({ policy := .lrs, limN := 0 } : Cfg)
        [.setitem exEI 0 (.str [97]) (.int 1)]).keys.map
        (fun K => Cache.keyOut exEI ({ policy := .lrs, limN := 0 } : Cfg).disk K.1 K.2)) =
        .list [.val (.str [97])] := by rfl
    intro h
    rw [h1, h2] at h
    injection h with h
    cases h

/-- `hE` (the view is read under the key codec of the history) is necessary in
`items_after_history`: read under another — by itself lawful — codec, the first look-up misses
(KeyError) -/
theorem items_after_history_needs_codec :
    ∃ (cf : Cfg) (ops : List IOp) (D : PyVal → Bytes) (E : Externals),
      cf.policy = .none ∧ cf.disk = .pickle ∧ 0 < cf.page ∧ HistCodec D ops ∧
      (∀ k, E.loads (E.dumpsK k) = k) ∧
      ((Index.run { cache := { cfg := cf, statistics := false } } ops).items E 0).2 ≠
        .list ((OSpec.run [] cf ops).map (fun p =>
          .tup [Cache.keyOut E cf.disk p.1.1 p.1.2, p.2.out E cf false false false])) := by
  refine ⟨{ policy := .none }, [.setitem exEI 0 (.obj [7]) (.int 1)], exEI.dumpsK, exEI2,
    rfl, rfl, by decide, ?_, fun k => exEI_codec.2 k, ?_⟩
  · intro op hop E hE
    rw [List.mem_singleton.1 hop] at hE
    cases hE
    exact exEI_codec
  · have h1 : ((Index.run { cache := { cfg := { policy := .none }, statistics := false } }
        [.setitem exEI 0 (.obj [7]) (.int 1)]).items exEI2 0).2 = .exc "KeyError" := by rfl
    have h2 : Out.list ((OSpec.run [] ({ policy := .none } : Cfg)
        [.setitem exEI 0 (.obj [7]) (.int 1)]).map (fun p =>
          .tup [Cache.keyOut exEI2 ({ policy := .none } : Cfg).disk p.1.1 p.1.2,
            p.2.out exEI2 ({ policy := .none } : Cfg) false false false])) =
        .list [.tup [.val .none, .val (.int 1)]] := by rfl
    intro h
    rw [h1, h2] at h
    cases h

/-! ### the key-list lemmas -/

/-- `odel_set_keys` needs no hypothesis on the key: a key that is not equal to itself (NULL) is
bound nowhere, so that deletion is the identity -/
theorem odel_set_keys' (m : ODict) (k : Key) (e : Entry) :
    ((m.del k).set k e).keys = m.keys.filter (fun q => !sameKey q k) ++ [k] := by
  have h : (m.del k).has k = false := by
    rw [irf_has_eq, irf_get_del]
    cases hk : sameKey k k with
    | true => rfl
    | false =>
      simp only [Bool.false_eq_true, if_false]
      cases hg : m.get k with
      | none => rfl
      | some e' =>
        obtain ⟨q, -, hq⟩ := irf_get_some_mem hg
        rw [rf_sameKey_trans (rf_sameKey_symm hq) hq] at hk
        cases hk
  rw [oset_keys_new _ _ _ h, irf_keys_del]

/-- `WF` (at most one binding per key) is necessary in `odel_head` and `odel_last` -/
theorem odel_head_needs_wf :
    ∃ (m : ODict) (K : Key) (e : Entry), m.head? = some (K, e) ∧ m.del K ≠ m.tail := by
  refine ⟨[((.text [97], true), default), ((.text [97], true), default)], (.text [97], true), default, rfl, ?_⟩
  decide +kernel

theorem odel_last_needs_wf :
    ∃ (m : ODict) (K : Key) (e : Entry), m.getLast? = some (K, e) ∧ m.del K ≠ m.dropLast := by
  refine ⟨[((.text [97], true), default), ((.text [97], true), default)], (.text [97], true), default, rfl, ?_⟩
  decide +kernel

end DC.Index
