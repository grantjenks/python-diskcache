/-
C15 — Lock, RLock and BoundedSemaphore exclude across threads and processes.
Every acquire attempt / release is one atomic cache operation (C05/C06); the
theorems hold for EVERY sequence of events by any number of contenders.
-/
import DC.Proofs.RecipeLemmas

namespace DC.Recipes

/-- at most one contender is between a successful acquire and its release -/
theorem lock_mutex (evs : List Ev) : ((LockSys.run {} evs).holding.length ≤ 1) ∧
    ((LockSys.run {} evs).st.held = true ↔ (LockSys.run {} evs).holding.length = 1) := by
  have h := LockSys.inv_run {} evs LockSys.inv_init
  unfold LockSys.Inv at h
  cases hh : (LockSys.run {} evs).st.held <;> simp_all

/-- Lock: a free lock is acquired by the next attempt, a held one is not -/
theorem lock_attempt (s : LockSys) (who : Nat) :
    (s.step (.acquire who)).2 = !s.st.held := by
  cases hh : s.st.held <;> simp [LockSys.step, LockSt.tryAcquire, hh]

/-- at most one contender holds the RLock (with any depth) at any instant, and
it is the recorded owner; the recorded count is that contender's depth -/
theorem rlock_mutex (evs : List Ev) :
    let s := RLockSys.run {} evs
    (∀ a b, 0 < s.depth a → 0 < s.depth b → a = b) ∧
    (∀ a, 0 < s.depth a → s.st.owner = some a ∧ s.st.count = s.depth a) ∧
    ((∀ a, s.depth a = 0) → s.st.count = 0) := by
  intro s
  exact RLockSys.inv_facts s (RLockSys.inv_run {} evs RLockSys.inv_init)

/-- the RLock is re-entrant: an attempt succeeds exactly when the lock is free or the caller holds it -/
theorem rlock_attempt (evs : List Ev) (who : Nat) :
    let s := RLockSys.run {} evs
    (s.step (.acquire who)).2 = true ↔ ((∀ a, s.depth a = 0) ∨ 0 < s.depth who) := by
  intro s
  have hinv : s.Inv := RLockSys.inv_run {} evs RLockSys.inv_init
  obtain ⟨_, f2, f3⟩ := RLockSys.inv_facts s hinv
  obtain ⟨h1, h2⟩ := hinv
  rw [s.step_acquire who]
  split
  next hc =>
    simp only [true_iff]
    by_cases h0 : s.st.count = 0
    · exact .inl fun a => by rw [h1 a, h0, ite_self]
    · exact .inr (by rw [h1 who, if_pos (hc.resolve_right h0)]; exact Nat.pos_of_ne_zero h0)
  next hc =>
    simp only [Bool.false_eq_true, false_iff]
    rintro (h | h)
    · exact hc (Or.inr (f3 h))
    · exact hc (Or.inl (f2 who h).1)

/-- releasing what the caller does not hold is refused and changes nothing;
releasing what it holds lowers its depth by one — so the lock is free after as many releases -/
theorem rlock_release (evs : List Ev) (who : Nat) :
    let s := RLockSys.run {} evs
    (s.depth who = 0 → (s.step (.release who)).2 = false ∧ (s.step (.release who)).1.st = s.st) ∧
    (0 < s.depth who → (s.step (.release who)).2 = true ∧
        (s.step (.release who)).1.depth who = s.depth who - 1) := by
  intro s
  have hinv : s.Inv := RLockSys.inv_run {} evs RLockSys.inv_init
  obtain ⟨_, f2, f3⟩ := RLockSys.inv_facts s hinv
  obtain ⟨h1, h2⟩ := hinv
  rw [s.step_release who]
  split
  next hc =>
    -- accepted: the caller's depth is the recorded count, which is positive
    have := h1 who
    rw [if_pos hc.1] at this
    exact ⟨fun h0 => absurd (this.symm.trans h0) (Nat.ne_of_gt hc.2), fun _ => ⟨rfl, if_pos rfl⟩⟩
  next hc =>
    refine ⟨fun _ => ⟨rfl, rfl⟩, fun hpos => ?_⟩
    obtain ⟨ho, hcnt⟩ := f2 who hpos
    exact absurd ⟨ho, hcnt ▸ hpos⟩ hc

/-- never more holders than the configured value; the free permits account for them -/
theorem sem_bound (n : Nat) (evs : List Ev) :
    let s := SemSys.run { st := { limit := n, free := n } } evs
    s.holding.length + s.st.free = n ∧ s.holding.length ≤ n := by
  intro s
  have h : s.Inv n := SemSys.inv_run n _ evs (by simp [SemSys.Inv])
  obtain ⟨h1, _⟩ := h
  exact ⟨h1, h1 ▸ Nat.le_add_right _ _⟩

/-- with no permit out, release is refused and changes nothing -/
theorem sem_release_refused (s : SemSt) (h : s.free = s.limit) : s.release = (s, false) := by
  simp [SemSt.release, h]

/-- semaphore: an attempt succeeds exactly when a permit is free -/
theorem sem_attempt (s : SemSt) : (s.tryAcquire).2 = decide (0 < s.free) := by
  by_cases h : s.free > 0 <;> simp [SemSt.tryAcquire, h]

/-- non-vacuity -/
example : (LockSys.run {} [.acquire 0, .acquire 1, .release 0, .acquire 1]).holding = [1] := by decide +kernel
example : ((RLockSys.run {} [.acquire 0, .acquire 0, .acquire 1, .release 0]).st) = { owner := some 0, count := 1 } := by decide +kernel

end DC.Recipes
