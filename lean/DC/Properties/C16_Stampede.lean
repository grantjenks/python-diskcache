/-
C16 for `memoize_stampede` (model: DC/Model/MemoStampede.lean): the "recomputation in progress"
marker is never the key of a call, so every call returns `f args` in every reachable cache state
(`stampede_returns_f`) — with `None` as the sentinel it does not (the seeded defect,
`stampede_marker_none_collides`); a repeated call before expiry does not run `f`
(`stampede_repeat_is_hit`); while a marker is alive no second recomputation starts
(`stampede_one_recompute`).
-/
import DC.Proofs.StampedeLemmas
import DC.Properties.C16

namespace DC.Memo

/-- `marker_ne_callkey`: the marker key of ANY call differs from the key of a call in which the
sentinel does not occur -/
theorem marker_ne_callkey (cf : Conf) (a a' : List Arg) (k k' : Kwargs)
    (h : cf.sentinel ∉ cf.key a' k') : cf.markerKey a k ≠ cf.key a' k' := by
  intro heq
  apply h
  rw [← heq]
  simp [Conf.markerKey]

/-- the user's values do not contain the value `e` (ENOVAL is a private object of the library:
not a function name, not an argument, not a keyword name, not a keyword value) -/
def SentinelFree (e : Nat) (base : List Tok) (args : List Arg) (kw : Kwargs) : Prop :=
  Tok.val e ∉ base ∧ (∀ a ∈ args, a.tok ≠ Tok.val e) ∧ (∀ p ∈ kw, p.1 ≠ e ∧ p.2.tok ≠ Tok.val e)

/-- `enoval_not_in_key`: a sentinel that is a value foreign to the user's values occurs in no key
that `args_to_key` builds (whatever `typed` and `ignore` are): `Tok` needs no constructor for it,
ENOVAL is one more `val` -/
theorem enoval_not_in_key (cf : Conf) (e : Nat) (args : List Arg) (kw : Kwargs)
    (hs : cf.sentinel = Tok.val e) (hf : SentinelFree e cf.base args kw) :
    cf.sentinel ∉ cf.key args kw := by
  obtain ⟨hb, ha, hk⟩ := hf
  rw [hs]
  unfold Conf.key argsToKey
  intro hm
  simp only [List.mem_append, List.mem_map, List.mem_flatMap, List.mem_cons,
    List.not_mem_nil, or_false] at hm
  rcases hm with (((hm | ⟨a, ham, hae⟩) | hm) | ⟨p, hpm, hpe⟩) | hm
  · exact hb hm
  · exact ha a (mem_keepArgs _ _ a ham) hae
  · exact absurd hm (by simp)
  · have := hk p (mem_keepKw _ _ p hpm)
    rcases hpe with hpe | hpe
    · exact this.1 (by simpa using hpe.symm)
    · exact this.2 hpe.symm
  · split at hm
    · simp only [List.mem_append, List.mem_map] at hm
      rcases hm with ⟨a, _, hae⟩ | ⟨p, _, hpe⟩
      · exact absurd hae (by simp)
      · exact absurd hpe (by simp)
    · simp at hm

/-- `None` is in every key (the separator) — so it cannot serve as the sentinel -/
theorem none_in_every_key (cf : Conf) (args : List Arg) (kw : Kwargs) : Tok.none ∈ cf.key args kw :=
  List.mem_append_left _ (List.mem_append_left _ (List.mem_append_right _ List.mem_cons_self))

def SInv {R} (cf : Conf) (f : List Arg → Kwargs → R) (dom : List (List Arg × Kwargs)) (c : SCache R) : Prop :=
  ∀ p ∈ dom, ∀ v t, c (cf.key p.1 p.2) = some (v, t) → (∃ d, v = Entry.pair (f p.1 p.2) d) ∧ t ≠ none

/-- calls of the domain that share a key have the same result (as in `wrapper_correct`;
`key_injective_partial` gives it when no positional argument is None) -/
def KeysOk {R} (cf : Conf) (f : List Arg → Kwargs → R) (dom : List (List Arg × Kwargs)) : Prop :=
  ∀ p ∈ dom, ∀ q ∈ dom, cf.key p.1 p.2 = cf.key q.1 q.2 → f p.1 p.2 = f q.1 q.2

theorem sinv_put_pair {R} (cf : Conf) (f : List Arg → Kwargs → R) (dom : List (List Arg × Kwargs))
    (hk : KeysOk cf f dom) (c : SCache R) (h : SInv cf f dom c) (a : List Arg) (k : Kwargs)
    (hd : (a, k) ∈ dom) (d t : Int) :
    SInv cf f dom (c.put (cf.key a k) (.pair (f a k) d) (some t)) := by
  intro p hp v t' hv
  by_cases hkey : cf.key p.1 p.2 = cf.key a k
  · rw [hkey, SCache.put_self] at hv
    simp only [Option.some.injEq, Prod.mk.injEq] at hv
    obtain ⟨rfl, rfl⟩ := hv
    exact ⟨⟨d, by rw [hk p hp (a, k) hd hkey]⟩, by simp⟩
  · rw [SCache.put_other _ _ _ _ _ hkey] at hv
    exact h p hp v t' hv

theorem sinv_put_marker {R} (cf : Conf) (f : List Arg → Kwargs → R) (dom : List (List Arg × Kwargs))
    (c : SCache R) (h : SInv cf f dom c) (mk : List Tok) (hm : ∀ p ∈ dom, mk ≠ cf.key p.1 p.2)
    (t : Option Int) : SInv cf f dom (c.put mk .marker t) := by
  intro p hp v t' hv
  rw [SCache.put_other _ _ _ _ _ (fun h => hm p hp h.symm)] at hv
  exact h p hp v t' hv

theorem sinv_drop {R} (cf : Conf) (f : List Arg → Kwargs → R) (dom : List (List Arg × Kwargs))
    (c : SCache R) (h : SInv cf f dom c) (k : List Tok) : SInv cf f dom (c.drop k) := by
  intro p hp v t hv
  unfold SCache.drop at hv
  split at hv
  · simp at hv
  · exact h p hp v t hv

theorem scall_correct {R} (cf : Conf) (f : List Arg → Kwargs → R) (dom : List (List Arg × Kwargs))
    (e : Int) (he : cf.expire = some e) (hk : KeysOk cf f dom)
    (hs : ∀ p ∈ dom, cf.sentinel ∉ cf.key p.1 p.2)
    (c : SCache R) (h : SInv cf f dom c) (now : Int) (hit : Bool) (delta : Int)
    (args : List Arg) (kw : Kwargs) (hd : (args, kw) ∈ dom) :
    (scall cf f now hit delta c args kw).result = some (f args kw) ∧
    SInv cf f dom (scall cf f now hit delta c args kw).cache := by
  have hpair : ∀ v t, c.look (cf.key args kw) now = some (v, t) →
      (∃ d, v = Entry.pair (f args kw) d) ∧ t ≠ none :=
    fun v t hl => h (args, kw) hd v t (SCache.look_some c _ now _ hl)
  rcases scall_cases cf f now hit delta c args kw with
    ⟨_, hc⟩ | ⟨r, d, t, hl, ⟨_, hc⟩ | ⟨_, _, hc⟩⟩ | ⟨⟨v, t, hl, hbad⟩, hc⟩ <;> rw [hc]
  · rw [he]
    exact ⟨rfl, sinv_put_pair cf f dom hk c h args kw hd delta _⟩
  · obtain ⟨⟨_, hr⟩, _⟩ := hpair _ _ hl
    cases hr
    exact ⟨rfl, h⟩
  · obtain ⟨⟨_, hr⟩, _⟩ := hpair _ _ hl
    cases hr
    exact ⟨rfl, sinv_put_marker cf f dom c h _
      (fun p hp => marker_ne_callkey cf args p.1 kw p.2 (hs p hp)) _⟩
  · obtain ⟨⟨_, hr⟩, ht⟩ := hpair v t hl
    rcases hbad with rfl | rfl
    · cases hr
    · exact absurd rfl ht

theorem reach_sinv {R} (cf : Conf) (f : List Arg → Kwargs → R) (dom : List (List Arg × Kwargs))
    (e : Int) (he : cf.expire = some e) (hk : KeysOk cf f dom)
    (hs : ∀ p ∈ dom, cf.sentinel ∉ cf.key p.1 p.2) (c : SCache R) (hr : Reach cf f dom c) :
    SInv cf f dom c := by
  induction hr with
  | empty => intro p _ v t hv; simp [SCache.empty] at hv
  | call now hit delta args kw _ hd ih =>
    exact (scall_correct cf f dom e he hk hs _ ih now hit delta args kw hd).2
  | job now delta j _ hj ih =>
    unfold runJob
    simp only [he, Option.map_some]
    exact sinv_put_pair cf f dom hk _ ih j.1 j.2 hj delta _
  | drop k _ ih => exact sinv_drop cf f dom _ ih k

/-- `stampede_returns_f`: in EVERY cache state reachable from the empty cache by calls of the
wrapper of the same function (any instants, any outcomes of the random test, any running times),
by recomputation threads finishing whenever they like, and by entries being evicted or deleted,
every call returns exactly `f args kw` — never a TypeError, never another call's value. -/
theorem stampede_returns_f {R} (cf : Conf) (f : List Arg → Kwargs → R) (dom : List (List Arg × Kwargs))
    (e : Int) (he : cf.expire = some e) (hk : KeysOk cf f dom)
    (hs : ∀ p ∈ dom, cf.sentinel ∉ cf.key p.1 p.2)
    (c : SCache R) (hr : Reach cf f dom c) (now : Int) (hit : Bool) (delta : Int)
    (args : List Arg) (kw : Kwargs) (hd : (args, kw) ∈ dom) :
    (scall cf f now hit delta c args kw).result = some (f args kw) :=
  (scall_correct cf f dom e he hk hs c (reach_sinv cf f dom e he hk hs c hr) now hit delta args kw hd).1

/-- the same with the hypotheses on the arguments instead of on the keys: the sentinel is a
value `e` foreign to the user's values and no positional argument is None -/
theorem stampede_returns_f_user {R} (base : List Tok) (typed : Bool) (ex : Int) (en : Nat)
    (f : List Arg → Kwargs → R) (dom : List (List Arg × Kwargs))
    (hb : BaseOk base) (hn : ∀ p ∈ dom, NoNoneArg p.1)
    (hf : ∀ p ∈ dom, SentinelFree en base p.1 p.2)
    (hfun : ∀ p ∈ dom, ∀ q ∈ dom, p.1.map (·.tok) = q.1.map (·.tok) →
      (keepKw p.2 []).map (fun x => (x.1, x.2.tok)) = (keepKw q.2 []).map (fun x => (x.1, x.2.tok)) →
      (typed = true → p.1.map (·.ty) = q.1.map (·.ty) ∧ (keepKw p.2 []).map (fun x => x.2.ty) = (keepKw q.2 []).map (fun x => x.2.ty)) →
      f p.1 p.2 = f q.1 q.2)
    (c : SCache R)
    (hr : Reach { base := base, typed := typed, expire := some ex, sentinel := .val en } f dom c)
    (now : Int) (hit : Bool) (delta : Int) (args : List Arg) (kw : Kwargs) (hd : (args, kw) ∈ dom) :
    (scall { base := base, typed := typed, expire := some ex, sentinel := .val en } f now hit delta c args kw).result
      = some (f args kw) := by
  apply stampede_returns_f _ f dom ex rfl _ _ c hr now hit delta args kw hd
  · intro p hp q hq hkey
    have := key_parts base p.1 q.1 p.2 q.2 typed hb (hn p hp) (hn q hq) hkey
    exact hfun p hp q hq this.1 this.2.1 this.2.2
  · intro p hp
    exact enoval_not_in_key _ en p.1 p.2 rfl (hf p hp)

/-! ### the seeded defect: `None` as the sentinel -/

/-- `stampede_marker_none_collides`: with `key + (None,)` as the marker key, f(1) (stored at 0,
recomputation started at 1, marker alive until 6) makes the DIFFERENT call f(1, None) at 2 find
the marker under its own key: it does not return f(1, None) (the real code raises TypeError on
`result, delta = None`).  The cache state is reachable, all other hypotheses of
`stampede_returns_f` hold (the two calls have different keys). -/
theorem stampede_marker_none_collides :
    let cf : Conf := { base := [.val 9], expire := some 100, sentinel := Tok.none }
    let f : List Arg → Kwargs → Nat := fun args _ => args.length
    let one : List Arg := [⟨.val 1, 1⟩]
    let oneNone : List Arg := [⟨.val 1, 1⟩, ⟨.none, 0⟩]
    let c1 := (scall cf f 0 true 5 SCache.empty one []).cache      -- f(1): miss, stored with delta 5
    let c2 := (scall cf f 1 false 5 c1 one []).cache                -- f(1): early recomputation, marker added
    cf.markerKey one [] = cf.key oneNone [] ∧
    cf.key one [] ≠ cf.key oneNone [] ∧
    (scall cf f 1 false 5 c1 one []).job = some (one, []) ∧
    (scall cf f 2 true 5 c2 oneNone []).result = none ∧
    (scall cf f 2 true 5 c2 oneNone []).result ≠ some (f oneNone []) := by
  decide +kernel

/-- … and that state is reachable, so `stampede_returns_f` without `hs` is false -/
theorem stampede_returns_f_needs_sentinel :
    let cf : Conf := { base := [.val 9], expire := some 100, sentinel := Tok.none }
    let f : List Arg → Kwargs → Nat := fun args _ => args.length
    let dom : List (List Arg × Kwargs) := [([⟨.val 1, 1⟩], []), ([⟨.val 1, 1⟩, ⟨.none, 0⟩], [])]
    KeysOk cf f dom ∧
    ∃ c, Reach cf f dom c ∧ (scall cf f 2 true 5 c [⟨.val 1, 1⟩, ⟨.none, 0⟩] []).result ≠ some 2 := by
  intro cf f dom
  refine ⟨?_, _, Reach.call 1 false 5 [⟨.val 1, 1⟩] [] (Reach.call 0 true 5 [⟨.val 1, 1⟩] [] Reach.empty (by simp [dom])) (by simp [dom]), by decide +kernel⟩
  intro p hp q hq hkey
  simp only [dom, List.mem_cons, List.not_mem_nil, or_false] at hp hq
  rcases hp with rfl | rfl <;> rcases hq with rfl | rfl
  · rfl
  · exact absurd hkey (by decide +kernel)
  · exact absurd hkey (by decide +kernel)
  · rfl

/-- with the real sentinel (a foreign value) the same three calls are fine -/
example :
    let cf : Conf := { base := [.val 9], expire := some 100, sentinel := Tok.val 0 }
    let f : List Arg → Kwargs → Nat := fun args _ => args.length
    let c1 := (scall cf f 0 true 5 SCache.empty [⟨.val 1, 1⟩] []).cache
    let c2 := (scall cf f 1 false 5 c1 [⟨.val 1, 1⟩] []).cache
    (scall cf f 2 true 5 c2 [⟨.val 1, 1⟩, ⟨.none, 0⟩] []).result = some 2 := by decide +kernel

/-- `he` is needed: with `expire=None` the first call stores the pair without an expire time and
the second call dies on `ttl = expire_time - now` -/
theorem stampede_returns_f_needs_expire :
    let cf : Conf := { base := [.val 9], expire := none, sentinel := Tok.val 0 }
    let f : List Arg → Kwargs → Nat := fun args _ => args.length
    let c1 := (scall cf f 0 true 5 SCache.empty [⟨.val 1, 1⟩] []).cache
    (scall cf f 0 true 5 SCache.empty [⟨.val 1, 1⟩] []).result = some 1 ∧
    (scall cf f 1 true 5 c1 [⟨.val 1, 1⟩] []).result = none := by decide +kernel

/-- `hk` is needed (finding D14: f(1, None, 'a') and f(1, a=None) share a key) -/
theorem stampede_returns_f_needs_keys :
    let cf : Conf := { base := [.val 9], expire := some 100, sentinel := Tok.val 0 }
    let f : List Arg → Kwargs → Nat := fun args _ => args.length
    let c1 := (scall cf f 0 true 5 SCache.empty [⟨.val 1, 1⟩, ⟨.none, 0⟩, ⟨.val 3, 3⟩] []).cache
    (scall cf f 1 true 5 c1 [⟨.val 1, 1⟩] [(3, ⟨.none, 0⟩)]).result = some 3 ∧
    f [⟨.val 1, 1⟩] [(3, ⟨.none, 0⟩)] = 1 := by decide +kernel

/-- a live pair and a favourable draw: served from the cache — `f` does not run, nothing is
written, no thread is started -/
theorem stampede_hit {R} (cf : Conf) (f : List Arg → Kwargs → R) (now : Int) (delta : Int)
    (c : SCache R) (args : List Arg) (kw : Kwargs) (r : R) (d t : Int)
    (h : c.look (cf.key args kw) now = some (.pair r d, some t)) :
    (scall cf f now true delta c args kw).result = some r ∧
    (scall cf f now true delta c args kw).runs = 0 ∧
    (scall cf f now true delta c args kw).job = none ∧
    (scall cf f now true delta c args kw).cache = c := by
  unfold scall
  rw [h]
  exact ⟨rfl, rfl, rfl, rfl⟩

/-- `stampede_repeat_is_hit`: if a call ran the function (a miss) at `now`, a repeated call with
the same arguments at any `now'` before `now + expire`, with the draw saying "no early
recomputation", does not run the function again and returns the same result.  (If the first call
did not run the function it was itself served from the cache.) -/
theorem stampede_repeat_is_hit {R} (cf : Conf) (f : List Arg → Kwargs → R) (e : Int)
    (he : cf.expire = some e) (now now' : Int) (hit : Bool) (delta delta' : Int) (c : SCache R)
    (args : List Arg) (kw : Kwargs)
    (hran : (scall cf f now hit delta c args kw).runs = 1) (hlt : now' < now + e) :
    let c' := (scall cf f now hit delta c args kw).cache
    (scall cf f now' true delta' c' args kw).runs = 0 ∧
    (scall cf f now' true delta' c' args kw).result = (scall cf f now hit delta c args kw).result ∧
    (scall cf f now' true delta' c' args kw).job = none := by
  intro c'
  -- only a miss runs the function
  obtain ⟨_, hc⟩ : c.look (cf.key args kw) now = none ∧ _ := by
    rcases scall_cases cf f now hit delta c args kw with
      h | ⟨_, _, _, _, ⟨_, hc⟩ | ⟨_, _, hc⟩⟩ | ⟨_, hc⟩
    · exact h
    all_goals rw [hc] at hran; cases hran
  rw [he] at hc
  have hlook := SCache.look_put_self_live c (cf.key args kw) (.pair (f args kw) delta) (now + e) now' hlt
  obtain ⟨h1, h2, h3, _⟩ := stampede_hit cf f now' delta' _ args kw (f args kw) delta (now + e) hlook
  simp only [c', hc]
  exact ⟨h2, h1, h3⟩

/-- `hlt` is needed: at `now + expire` the entry is gone and the function runs again -/
theorem stampede_repeat_is_hit_needs_lt :
    let cf : Conf := { base := [.val 9], expire := some 10, sentinel := Tok.val 0 }
    let f : List Arg → Kwargs → Nat := fun args _ => args.length
    let c1 := (scall cf f 0 true 5 SCache.empty [⟨.val 1, 1⟩] []).cache
    (scall cf f 0 true 5 SCache.empty [⟨.val 1, 1⟩] []).runs = 1 ∧
    (scall cf f 9 true 5 c1 [⟨.val 1, 1⟩] []).runs = 0 ∧
    (scall cf f 10 true 5 c1 [⟨.val 1, 1⟩] []).runs = 1 := by decide +kernel

/-- `stampede_one_recompute`: while the marker of a call is alive, no call with those arguments
starts a recomputation, whatever the draw says and whatever else is in the cache -/
theorem stampede_one_recompute {R} (cf : Conf) (f : List Arg → Kwargs → R) (now : Int) (hit : Bool)
    (delta : Int) (c : SCache R) (args : List Arg) (kw : Kwargs)
    (h : (c.look (cf.markerKey args kw) now).isSome) :
    (scall cf f now hit delta c args kw).job = none := by
  rcases scall_cases cf f now hit delta c args kw with
    ⟨_, hc⟩ | ⟨_, _, _, _, ⟨_, hc⟩ | ⟨_, hm, _⟩⟩ | ⟨_, hc⟩
  · rw [hc]
  · rw [hc]
  · rw [hm] at h; cases h
  · rw [hc]

/-- a call that starts a recomputation leaves a marker that is alive for `delta` (the running
time recorded with the cached pair) and starts the job for exactly its own arguments; it serves
the old value without running `f` -/
theorem stampede_job_marker {R} (cf : Conf) (f : List Arg → Kwargs → R) (now : Int) (hit : Bool)
    (delta : Int) (c : SCache R) (args : List Arg) (kw : Kwargs) (j : Job)
    (hj : (scall cf f now hit delta c args kw).job = some j) :
    j = (args, kw) ∧ (scall cf f now hit delta c args kw).runs = 0 ∧
    ∃ r d t, c.look (cf.key args kw) now = some (.pair r d, some t) ∧
      (scall cf f now hit delta c args kw).result = some r ∧
      ∀ now', now' < now + d →
        ((scall cf f now hit delta c args kw).cache.look (cf.markerKey args kw) now').isSome := by
  rcases scall_cases cf f now hit delta c args kw with
    ⟨_, hc⟩ | ⟨r, d, t, hl, ⟨_, hc⟩ | ⟨_, _, hc⟩⟩ | ⟨_, hc⟩ <;> rw [hc] at hj ⊢
  · cases hj
  · cases hj
  · cases hj
    refine ⟨rfl, rfl, r, d, t, hl, rfl, fun now' hlt => ?_⟩
    rw [SCache.look_put_self_live _ _ _ _ _ hlt]
    rfl
  · cases hj

/-- together: after a call started a recomputation at `now`, a second early-recomputation
decision for the same arguments at any `now' < now + delta` starts no second job -/
theorem stampede_one_recompute_after {R} (cf : Conf) (f : List Arg → Kwargs → R) (now now' : Int)
    (hit hit' : Bool) (delta delta' : Int) (c : SCache R) (args : List Arg) (kw : Kwargs) (j : Job)
    (hj : (scall cf f now hit delta c args kw).job = some j) :
    ∃ d, (∃ r t, c.look (cf.key args kw) now = some (.pair r d, some t)) ∧
      (now' < now + d →
        (scall cf f now' hit' delta' (scall cf f now hit delta c args kw).cache args kw).job = none) := by
  obtain ⟨_, _, r, d, t, hl, _, hm⟩ := stampede_job_marker cf f now hit delta c args kw j hj
  exact ⟨d, ⟨r, t, hl⟩, fun hlt => stampede_one_recompute cf f now' hit' delta' _ args kw (hm now' hlt)⟩

/-- the marker must be alive: once it has expired (here delta = 5, marker set at 1, dead at 6) a
second job starts although the first may still be running -/
theorem stampede_one_recompute_needs_marker :
    let cf : Conf := { base := [.val 9], expire := some 100, sentinel := Tok.val 0 }
    let f : List Arg → Kwargs → Nat := fun args _ => args.length
    let c1 := (scall cf f 0 true 5 SCache.empty [⟨.val 1, 1⟩] []).cache
    let c2 := (scall cf f 1 false 5 c1 [⟨.val 1, 1⟩] []).cache
    (scall cf f 1 false 5 c1 [⟨.val 1, 1⟩] []).job = some ([⟨.val 1, 1⟩], []) ∧
    (scall cf f 5 false 5 c2 [⟨.val 1, 1⟩] []).job = none ∧
    (scall cf f 6 false 5 c2 [⟨.val 1, 1⟩] []).job = some ([⟨.val 1, 1⟩], []) := by decide +kernel

/-- the pair evicted between the marker and the recomputation: the next call misses, runs `f`
itself and returns the right value; the thread then overwrites the entry with the same value -/
theorem stampede_evicted_pair_recomputes :
    let cf : Conf := { base := [.val 9], expire := some 100, sentinel := Tok.val 0 }
    let f : List Arg → Kwargs → Nat := fun args _ => args.length
    let one : List Arg := [⟨.val 1, 1⟩]
    let c1 := (scall cf f 0 true 5 SCache.empty one []).cache
    let c2 := (scall cf f 1 false 5 c1 one []).cache          -- marker added, job started
    let c3 := c2.drop (cf.key one [])                          -- the pair is evicted
    (scall cf f 2 false 5 c3 one []).result = some 1 ∧ (scall cf f 2 false 5 c3 one []).runs = 1 ∧
    (scall cf f 2 false 5 c3 one []).job = none ∧
    (scall cf f 4 true 5 (runJob cf f 3 5 (scall cf f 2 false 5 c3 one []).cache (one, [])) one []).result = some 1 := by
  decide +kernel

end DC.Memo
