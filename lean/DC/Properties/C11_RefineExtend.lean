/-
C11 (refinement, continued) — `extend` / `deque += …` / `extendleft`: one `append` /
`appendleft` per value, stopping at the first value that cannot be stored.  A call with `k`
values uses up to `k` units of the key budget of `OkN`.
-/
import DC.Properties.C11_RefineBase
import DC.Properties.C11_Seq

namespace DC.Deque
open DC.Cache DC.Spec DC.DSpec

theorem spec_extend_nil (m : DList) (E : Externals) (cfg : Cfg) (left : Bool) :
    DSpec.extend m E cfg [] left = (m, .none) := rfl

theorem spec_extend_cons_some (m : DList) (E : Externals) (cfg : Cfg) (v : PyVal) (vs : List PyVal)
    (left : Bool) (e : Spec.Entry) (h : entryFor E cfg v = some e) :
    DSpec.extend m E cfg (v :: vs) left = DSpec.extend (DSpec.append m E cfg v left).1 E cfg vs left := by
  rw [DSpec.extend]
  simp [storable, h]

theorem spec_extend_cons_none (m : DList) (E : Externals) (cfg : Cfg) (v : PyVal) (vs : List PyVal)
    (left : Bool) (h : entryFor E cfg v = none) :
    DSpec.extend m E cfg (v :: vs) left = (m, .exc "UnicodeEncodeError") := by
  rw [DSpec.extend]
  simp [storable, h]

theorem OkN.weaken {d : Deque} {n k : Nat} (h : OkN d (n + k)) : OkN d n := by
  induction k with
  | zero => exact h
  | succ k ih => exact ih (OkN.mono h)

/-- everything the induction over the values carries -/
theorem extend_all (d : Deque) (m : DList) (n : Nat) (E : Externals) (now : Int) (vs : List PyVal)
    (left : Bool) (hok : OkN d (n + vs.length)) (hr : DRefines d m) :
    (d.extend E now vs left).2 = (DSpec.extend m E d.cache.cfg vs left).2 ∧
    DRefines (d.extend E now vs left).1 (DSpec.extend m E d.cache.cfg vs left).1 ∧
    OkN (d.extend E now vs left).1 n ∧
    (d.extend E now vs left).1.cache.cfg = d.cache.cfg := by
  induction vs generalizing d m with
  | nil => exact ⟨rfl, hr, hok, rfl⟩
  | cons v vs ih =>
    have hok1 : OkN d ((n + vs.length) + 1) := by
      have : n + (v :: vs).length = (n + vs.length) + 1 := by simp only [List.length_cons]; omega
      rw [← this]; exact hok
    obtain ⟨ho, hr'⟩ := append_drefines d m _ E now v left hok1 hr
    have hok' := append_okN d _ E now v left hok1
    have hcfg := append_cfg d _ E now v left hok1
    rcases append_state d _ E now v left hok1.unbound with ⟨hef, hout, -, -⟩ | ⟨e, r, num, hef, hout, -⟩
    · -- the value cannot be stored: `extend` stops here
      rw [extend_stops_at_error d E now v vs left _ hout, spec_extend_cons_none m E _ v vs left hef]
      rw [spec_append_none m E _ v left hef] at hr'
      refine ⟨rfl, hr', ?_, hcfg⟩
      exact hok'.weaken
    · rw [extend_cons_ok d E now v vs left (by rw [hout]; rfl), spec_extend_cons_some m E _ v vs left e hef]
      obtain ⟨h1, h2, h3, h4⟩ := ih (d.append E now v left).1 (DSpec.append m E d.cache.cfg v left).1 hok' hr'
      rw [hcfg] at h1 h2 h4
      exact ⟨h1, h2, h3, h4⟩

/-- `extend` / `extendleft`: same result as the specification (None, or the UnicodeEncodeError of
the first value that cannot be stored), relation preserved -/
theorem extend_drefines (d : Deque) (m : DList) (n : Nat) (E : Externals) (now : Int) (vs : List PyVal)
    (left : Bool) (hok : OkN d (n + vs.length)) (hr : DRefines d m) :
    (d.extend E now vs left).2 = (DSpec.extend m E d.cache.cfg vs left).2 ∧
    DRefines (d.extend E now vs left).1 (DSpec.extend m E d.cache.cfg vs left).1 :=
  ⟨(extend_all d m n E now vs left hok hr).1, (extend_all d m n E now vs left hok hr).2.1⟩

theorem extendleft_drefines (d : Deque) (m : DList) (n : Nat) (E : Externals) (now : Int) (vs : List PyVal)
    (hok : OkN d (n + vs.length)) (hr : DRefines d m) :
    (d.extend E now vs true).2 = (DSpec.extend m E d.cache.cfg vs true).2 ∧
    DRefines (d.extend E now vs true).1 (DSpec.extend m E d.cache.cfg vs true).1 :=
  extend_drefines d m n E now vs true hok hr

/-- `extend` / `extendleft` with `k` values use up `k` units of the budget -/
theorem extend_okN (d : Deque) (n : Nat) (E : Externals) (now : Int) (vs : List PyVal) (left : Bool)
    (hok : OkN d (n + vs.length)) : OkN (d.extend E now vs left).1 n :=
  (extend_all d _ n E now vs left hok (drefines_self d)).2.2.1

theorem extend_cfg (d : Deque) (n : Nat) (E : Externals) (now : Int) (vs : List PyVal) (left : Bool)
    (hok : OkN d (n + vs.length)) : (d.extend E now vs left).1.cache.cfg = d.cache.cfg :=
  (extend_all d _ n E now vs left hok (drefines_self d)).2.2.2

/-- what `extend` does to the list when every value can be stored: the values are added at the back
and the list keeps its last `maxlen` items — `collections.deque.extend` -/
theorem spec_extend_all_storable (m : DList) (E : Externals) (cfg : Cfg) (vs : List PyVal)
    (hs : ∀ v ∈ vs, storable E cfg v = true) (hb : ∀ k, m.maxlen = some k → m.items.length ≤ k) :
    (DSpec.extend m E cfg vs false).2 = .none ∧
    (DSpec.extend m E cfg vs false).1.maxlen = m.maxlen ∧
    (DSpec.extend m E cfg vs false).1.items =
      (let l := m.items ++ vs.filterMap (entryFor E cfg)
       match m.maxlen with
       | none => l
       | some k => l.drop (l.length - k)) := by
  induction vs generalizing m with
  | nil =>
    refine ⟨rfl, rfl, ?_⟩
    show m.items = _
    simp only [List.filterMap_nil, List.append_nil]
    cases hm : m.maxlen with
    | none => rfl
    | some k => simp only; rw [Nat.sub_eq_zero_of_le (hb k hm)]; rfl
  | cons v vs ih =>
    obtain ⟨e, he⟩ : ∃ e, entryFor E cfg v = some e := Option.isSome_iff_exists.1 (hs v List.mem_cons_self)
    rw [spec_extend_cons_some m E cfg v vs false e he, spec_append_some m E cfg v false e he]
    simp only [Bool.false_eq_true, if_false, List.filterMap_cons, he]
    have hlen : (m.items ++ [e]).length = m.items.length + 1 := by
      rw [List.length_append, List.length_singleton]
    obtain ⟨h1, h2, h3⟩ := ih { m with items := trimTo m.maxlen false (m.items ++ [e]) }
      (fun w hw => hs w (List.mem_cons_of_mem _ hw))
      (fun k hk => by
        show (trimTo m.maxlen false (m.items ++ [e])).length ≤ k
        rw [hk]
        exact trimTo_length_bound false (by rw [hlen]; exact Nat.succ_le_succ (hb k hk)))
    refine ⟨h1, h2, h3.trans ?_⟩
    -- what is kept of `trimTo … (items ++ [e]) ++ rest` is what is kept of `items ++ e :: rest`
    show (match m.maxlen with
      | none => trimTo m.maxlen false (m.items ++ [e]) ++ vs.filterMap (entryFor E cfg)
      | some k => (trimTo m.maxlen false (m.items ++ [e]) ++ vs.filterMap (entryFor E cfg)).drop
          ((trimTo m.maxlen false (m.items ++ [e]) ++ vs.filterMap (entryFor E cfg)).length - k)) = _
    generalize vs.filterMap (entryFor E cfg) = R
    cases hm : m.maxlen with
    | none => exact List.append_assoc m.items [e] R
    | some k =>
      simp only
      by_cases hlt : m.items.length < k
      · rw [trimTo_eq_self false (fun j hj => by cases hj; rw [hlen]; exact hlt), List.append_assoc]
        rfl
      · -- the list is full: its front item goes, and so it would in the end
        have hfull : m.items.length = k := Nat.le_antisymm (hb k hm) (Nat.not_lt.1 hlt)
        have hover : overLen (some k) (m.items ++ [e]).length = true := by
          rw [hlen, hfull]; exact decide_eq_true (Nat.lt_succ_self k)
        unfold trimTo
        rw [hover, if_pos rfl, if_neg Bool.false_ne_true]
        cases hmi : m.items with
        | nil =>
          rw [hmi] at hfull
          subst hfull
          simp only [List.nil_append, List.tail_cons, List.length_nil, Nat.sub_zero, List.drop_length]
        | cons a X =>
          rw [hmi] at hfull
          simp only [List.cons_append, List.tail_cons, List.length_cons, List.append_assoc, List.nil_append]
          rw [show (X ++ e :: R).length + 1 - k = ((X ++ e :: R).length - k) + 1 by
            simp only [List.length_append, List.length_cons] at hfull ⊢; omega]
          rfl

end DC.Deque
