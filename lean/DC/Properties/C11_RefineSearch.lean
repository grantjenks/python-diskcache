/-
C11 (refinement, continued) — the calls that compare values: `count`, `remove`
(Python's `==` on the values: `DC.pyEq`) and the comparisons of a deque with a list
(`DC.cmpSeq`).  All of them walk the deque by key, hence the hypothesis
`d.cache.cfg.disk = .pickle` as for iteration: the keys are read back by the pickle `Disk` (finding D17).
-/
import DC.Properties.C11_RefineIndex
import DC.Properties.C11_Seq

namespace DC.Deque
open DC.Cache DC.Spec DC.DSpec

theorem countOf_fst (d : Deque) (E : Externals) (now : Int) (v : PyVal) :
    (d.countOf E now v).1 = (d.iterVals E now false).1 := rfl

theorem count_values (E : Externals) (cfg : Cfg) (v : PyVal) (l : List Spec.Entry) :
    ((outVals (l.map (fun e => valueOf e E cfg))).filter (pyEq v)).length =
      (l.filter (holds E cfg v)).length := by
  induction l with
  | nil => rfl
  | cons e t ih =>
    have hh : holds E cfg v e = (match valueOf e E cfg with | .val x => pyEq v x | _ => false) := rfl
    rw [List.map_cons, List.filter_cons, hh]
    generalize valueOf e E cfg = o
    have hnv : ∀ rest, (∀ x, o ≠ .val x) → outVals (o :: rest) = outVals rest := by
      intro rest h
      cases o <;> first | rfl | exact absurd rfl (h _)
    cases o with
    | val x =>
      show ((x :: outVals _).filter (pyEq v)).length = _
      rw [List.filter_cons]
      simp only
      split
      · simp only [List.length_cons, ih]
      · exact ih
    | _ =>
      rw [hnv _ (fun x h => by cases h)]
      simpa using ih

theorem count_drefines (d : Deque) (m : DList) (n : Nat) (E : Externals) (now : Int) (v : PyVal)
    (hok : OkN d n) (hr : DRefines d m)
    (hdisk : d.cache.cfg.disk = .pickle)
    : (d.countOf E now v).2 = (DSpec.count m E d.cache.cfg v).2 ∧
    DRefines (d.countOf E now v).1 (DSpec.count m E d.cache.cfg v).1 := by
  obtain ⟨h1, h2⟩ := iter_drefines d m n E now false hok hr hdisk
  refine ⟨?_, h2⟩
  rw [countOf_spec, vals, h1]
  show Out.int _ = Out.int _
  have := count_values E d.cache.cfg v m.items
  simp only [DSpec.iter, Bool.false_eq_true, if_false, Fanout.outList]
  rw [this]

theorem count_okN (d : Deque) (n : Nat) (E : Externals) (now : Int) (v : PyVal) (hok : OkN d n) :
    OkN (d.countOf E now v).1 n := iter_okN d n E now false hok

theorem count_cfg (d : Deque) (n : Nat) (E : Externals) (now : Int) (v : PyVal) (hok : OkN d n) :
    (d.countOf E now v).1.cache.cfg = d.cache.cfg :=
  iter_cfg d n E now false hok

theorem rowHolds_eq (d : Deque) (n : Nat) (E : Externals) (now : Int) (v : PyVal) (r : Row) (hok : OkN d n)
    (hdisk : d.cache.cfg.disk = .pickle) (hr : r ∈ d.cache.rows) :
    d.rowHolds E now v r = holds E d.cache.cfg v (entryOfRow d.cache r) := by
  unfold rowHolds holds
  rw [(get_item d n E now r hok hdisk hr).1]
  rfl

theorem remove_drefines (d : Deque) (m : DList) (n : Nat) (E : Externals) (now : Int) (v : PyVal)
    (hok : OkN d n) (hr : DRefines d m)
    (hdisk : d.cache.cfg.disk = .pickle)
    : (d.remove E now v).2 = (DSpec.remove m E d.cache.cfg v).2 ∧
    DRefines (d.remove E now v).1 (DSpec.remove m E d.cache.cfg v).1 := by
  have hfind : (sortedRows d.cache).find? (d.rowHolds E now v) =
      (items d).find? (fun r => holds E d.cache.cfg v (entryOfRow d.cache r)) := by
    rw [hok.sortedRows]
    exact find_congr _ (fun a ha => rowHolds_eq d n E now v a hok hdisk (Ok.mem_rows ha))
  unfold DSpec.remove remove
  rw [hfind, ← hr.1, findIdx_map]
  rcases find_idx (fun r => holds E d.cache.cfg v (entryOfRow d.cache r)) (items d) with
    ⟨h1, h2⟩ | ⟨p, r, h1, h2, h3⟩
  · rw [h1, h2]
    exact ⟨rfl, hr⟩
  · rw [h1, h2]
    have hdel := delrow_drefines d m n E now r p hok hr hdisk h3
    rw [← hr.1] at hdel
    simp only
    exact ⟨trivial, hdel⟩

theorem remove_okN (d : Deque) (n : Nat) (E : Externals) (now : Int) (v : PyVal)
    (hok : OkN d n) (hdisk : d.cache.cfg.disk = .pickle) : OkN (d.remove E now v).1 n := by
  unfold remove
  rw [hok.sortedRows]
  rcases find_idx (d.rowHolds E now v) (items d) with ⟨-, h2⟩ | ⟨p, r, -, h2, h3⟩
  · rw [h2]; exact hok
  · rw [h2]
    exact delrow_okN d n E now r p hok hdisk h3

theorem remove_cfg (d : Deque) (n : Nat) (E : Externals) (now : Int) (v : PyVal) (hok : OkN d n) :
    (d.remove E now v).1.cache.cfg = d.cache.cfg := by
  unfold remove
  cases (sortedRows d.cache).find? (d.rowHolds E now v) with
  | none => rfl
  | some r => exact (irf_del_rows d.cache E now (keyOfRow E d.cache r) hok.irf).2

theorem compare_all (d : Deque) (m : DList) (n : Nat) (E : Externals) (now : Int) (op : CmpOp)
    (that : List PyVal) (hok : OkN d n) (hr : DRefines d m) (hdisk : d.cache.cfg.disk = .pickle) :
    (d.compare E now op that).2 = (DSpec.compare m E d.cache.cfg op that).2 ∧
    DRefines (d.compare E now op that).1 (DSpec.compare m E d.cache.cfg op that).1 ∧
    OkN (d.compare E now op that).1 n ∧ (d.compare E now op that).1.cache.cfg = d.cache.cfg := by
  have hcount : d.cache.count.toNat = m.items.length := by
    rw [hok.count, hr.length]; rfl
  obtain ⟨h1, h2⟩ := iter_drefines d m n E now false hok hr hdisk
  have hvals : vals d E now = values m E d.cache.cfg := by
    unfold vals; rw [h1]; rfl
  refine ⟨?_, ?_⟩
  · rw [compare_out, hcount, hvals]
    unfold DSpec.compare
    cases cmpSeq op m.items.length that.length (values m E d.cache.cfg) that <;> rfl
  · rw [spec_compare_fst]
    rcases compare_state d E now op that with h | h <;> rw [h]
    · exact ⟨hr, hok, rfl⟩
    · exact ⟨h2, iter_okN d n E now false hok, iter_cfg d n E now false hok⟩

/-- `deque <op> list`: the result Python's sequence comparison gives on the values (a Boolean, or
TypeError for an ordering of values that have no order); nothing changes -/
theorem compare_drefines (d : Deque) (m : DList) (n : Nat) (E : Externals) (now : Int) (op : CmpOp)
    (that : List PyVal) (hok : OkN d n) (hr : DRefines d m)
    (hdisk : d.cache.cfg.disk = .pickle)
    : (d.compare E now op that).2 = (DSpec.compare m E d.cache.cfg op that).2 ∧
    DRefines (d.compare E now op that).1 (DSpec.compare m E d.cache.cfg op that).1 :=
  ⟨(compare_all d m n E now op that hok hr hdisk).1, (compare_all d m n E now op that hok hr hdisk).2.1⟩

theorem compare_okN (d : Deque) (n : Nat) (E : Externals) (now : Int) (op : CmpOp) (that : List PyVal)
    (hok : OkN d n) (hdisk : d.cache.cfg.disk = .pickle) : OkN (d.compare E now op that).1 n :=
  (compare_all d _ n E now op that hok (drefines_self d) hdisk).2.2.1

theorem compare_cfg (d : Deque) (n : Nat) (E : Externals) (now : Int) (op : CmpOp) (that : List PyVal)
    (hok : OkN d n) (hdisk : d.cache.cfg.disk = .pickle) :
    (d.compare E now op that).1.cache.cfg = d.cache.cfg :=
  (compare_all d _ n E now op that hok (drefines_self d) hdisk).2.2.2

end DC.Deque
