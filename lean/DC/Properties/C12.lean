/-
C12 — Index is a persistent insertion-ordered dictionary (sequential part).

An Index is a Cache with eviction policy 'none' whose items never expire.  Its
abstraction is the row list in rowid (= insertion) order.  Each mapping
operation is shown to act on that list as an insertion-ordered dictionary does:
assignment to a new key appends, assignment to an existing key replaces the
value in place, deletion removes exactly that entry, popitem takes an end.
Concurrency: every method is one Cache call or one transaction block (C05/C06).
-/
import DC.Proofs.IndexLemmas

namespace DC.Index

/-- what makes a Cache an Index: a well-formed table, policy 'none', nothing expires, no open block,
the pickling Disk -/
structure Ok (x : Index) : Prop where
  inv : Cache.TableInv x.cache
  pol : x.cache.cfg.policy = .none
  noexp : ∀ r ∈ x.cache.rows, r.expT = none
  depth : x.cache.depth = 0
  disk : x.cache.cfg.disk = .pickle

/-- the stored key of a Python key -/
def dbk (x : Index) (E : Externals) (k : PyVal) : SqlVal × Bool := put E x.cache.cfg.disk k

def hasKey (x : Index) (E : Externals) (k : PyVal) : Bool :=
  x.cache.rows.any (Cache.keyMatch (dbk x E k).1 (dbk x E k).2)

/-- the keys in iteration order, as stored -/
def keys (x : Index) : List (SqlVal × Bool) := x.cache.rows.map (fun r => (r.key, r.raw))

/-- `len(index)` is the number of entries -/
theorem len_exact (x : Index) (h : Ok x) : (x.len).2 = .int x.cache.rows.length := by
  exact Cache.len_exact x.cache h.inv

/-- iteration yields every key once, in insertion order; reversed iteration the reverse -/
theorem iter_order (x : Index) (E : Externals) (h : Ok x) (hp : 0 < x.cache.cfg.page) :
    (x.iter E true).2 = .list (x.cache.rows.map (fun r => Cache.keyOut E x.cache.cfg.disk r.key r.raw)) ∧
    (x.iter E false).2 = .list (x.cache.rows.reverse.map (fun r => Cache.keyOut E x.cache.cfg.disk r.key r.raw)) := by
  exact ⟨Cache.iter_all x.cache E h.inv.tbl.asc h.inv.tbl.pos hp,
    Cache.riter_all x.cache E h.inv.tbl.asc h.inv.tbl.pos hp⟩

/-- assignment to a NEW key appends it at the end; every other entry is untouched -/
theorem setitem_new (x : Index) (E : Externals) (now : Int) (k v : PyVal) (h : Ok x)
    (hnew : hasKey x E k = false) (hb : Cache.bindable (dbk x E k).1 = true)
    (s1 : Cache) (c : Cache.Cols) (hst : x.cache.store E v false = .ok (s1, c)) (hcb : c.bindable = true) :
    ∃ r : Row, (x.setitem E now k v).1.cache.rows = x.cache.rows ++ [r] ∧
      r.key = (dbk x E k).1 ∧ r.raw = (dbk x E k).2 ∧ r.mode = c.mode ∧ r.val = c.val ∧ r.file = c.file ∧
      r.expT = none := by
  have hcb' : Cache.Cols.bindable { c with expT := none, tag := .null } = true := by
    simp only [Cache.Cols.bindable, Bool.and_eq_true] at hcb ⊢
    exact ⟨rfl, hcb.2⟩
  have hrows := Cache.set_rows_noexp x.cache E now k v .null h.depth h.pol h.noexp s1 c hst hb hcb'
  have hst' : (x.setitem E now k v).1.cache = (x.cache.set E now k v none false .null).1 := rfl
  have hsel : x.cache.selKey (dbk x E k).1 (dbk x E k).2 = none := Cache.selKey_none_iff.2 hnew
  rw [hst', hrows]
  unfold Cache.setRows
  rw [show DC.put E x.cache.cfg.disk k = dbk x E k from rfl, hsel]
  exact ⟨_, rfl, rfl, rfl, rfl, rfl, rfl, rfl⟩

/-- assignment to an EXISTING key keeps its position (and every other entry) and replaces the value -/
theorem setitem_existing (x : Index) (E : Externals) (now : Int) (k v : PyVal) (h : Ok x)
    (hold : hasKey x E k = true) (hb : Cache.bindable (dbk x E k).1 = true)
    (s1 : Cache) (c : Cache.Cols) (hst : x.cache.store E v false = .ok (s1, c)) (hcb : c.bindable = true) :
    keys (x.setitem E now k v).1 = keys x ∧
    (∀ r ∈ (x.setitem E now k v).1.cache.rows,
        (Cache.keyMatch (dbk x E k).1 (dbk x E k).2 r = true → r.mode = c.mode ∧ r.val = c.val ∧ r.file = c.file) ∧
        (Cache.keyMatch (dbk x E k).1 (dbk x E k).2 r = false → r ∈ x.cache.rows)) := by
  have hcb' : Cache.Cols.bindable { c with expT := none, tag := .null } = true := by
    simp only [Cache.Cols.bindable, Bool.and_eq_true] at hcb ⊢
    exact ⟨rfl, hcb.2⟩
  have hrows := Cache.set_rows_noexp x.cache E now k v .null h.depth h.pol h.noexp s1 c hst hb hcb'
  have hst' : (x.setitem E now k v).1.cache = (x.cache.set E now k v none false .null).1 := rfl
  rw [show DC.put E x.cache.cfg.disk k = dbk x E k from rfl] at hrows
  obtain ⟨r0, hsel, -, -⟩ := Cache.selKey_some_of_any (s := x.cache) hold
  refine ⟨?_, ?_⟩
  · unfold keys
    rw [hst', hrows]
    unfold Cache.setRows
    rw [hsel]
    simp only [List.map_map]
    apply List.map_congr_left
    intro r _
    simp only [Function.comp, Cache.updF]
    split <;> rfl
  · intro r hr
    rw [hst'] at hr
    refine ⟨fun hk => ?_, fun hk => ?_⟩
    · rw [hrows] at hr
      obtain ⟨h1, h2, h3⟩ := Cache.setRows_match h.inv.tbl.uniq hr hk
      exact ⟨h1, h3, h2⟩
    · exact Cache.set_other_rows x.cache E now k v none false .null h.inv r hr hk

/-- the invariant is kept by assignment (so the theorems compose over histories) -/
theorem setitem_ok (x : Index) (E : Externals) (now : Int) (k v : PyVal) (h : Ok x) :
    Ok (x.setitem E now k v).1 := by
  have hst : (x.setitem E now k v).1 = { cache := (x.cache.set E now k v none false .null).1 } := rfl
  rw [hst]
  obtain ⟨h1, h2, h3⟩ := Cache.set_keeps x.cache E now k v .null h.depth h.noexp
  exact ⟨Cache.set_inv x.cache E now k v none false .null h.inv, by rw [h2]; exact h.pol, h3, h1,
    by rw [h2]; exact h.disk⟩

/-- `del index[key]` removes exactly that entry, keeping the order of the others; a missing key
raises KeyError and changes nothing -/
theorem delitem_exact (x : Index) (E : Externals) (now : Int) (k : PyVal) (h : Ok x) :
    (hasKey x E k = true →
      (x.delitem E now k).2 = .none ∧
      (x.delitem E now k).1.cache.rows = x.cache.rows.filter (fun r => !Cache.keyMatch (dbk x E k).1 (dbk x E k).2 r)) ∧
    (hasKey x E k = false →
      (x.delitem E now k).2 = .exc "KeyError" ∧ (x.delitem E now k).1.cache.rows = x.cache.rows) := by
  have hsel := Cache.selLive_eq_selKey h.noexp (DC.put E x.cache.cfg.disk k).1 (DC.put E x.cache.cfg.disk k).2 now
  have hout : (x.delitem E now k).2 =
      (match (x.cache.delitem E now k).2 with | .bool true => .none | o => o) := rfl
  have hst : (x.delitem E now k).1.cache = (x.cache.delitem E now k).1 := rfl
  refine ⟨fun hhas => ?_, fun hno => ?_⟩
  · obtain ⟨r, hr, hmem, hk⟩ := Cache.selKey_some_of_any (s := x.cache) hhas
    obtain ⟨h1, h2, -⟩ := Cache.delitem_some x.cache E now k r (hsel.trans hr)
    rw [hout, hst, h1, h2]
    exact ⟨rfl, Cache.filter_rowid_eq_filter_key h.inv.tbl.asc h.inv.tbl.uniq hmem hk⟩
  · have hr : x.cache.selKey (DC.put E x.cache.cfg.disk k).1 (DC.put E x.cache.cfg.disk k).2 = none :=
      Cache.selKey_none_iff.2 hno
    obtain ⟨h1, h2, -⟩ := Cache.delitem_none x.cache E now k (hsel.trans hr)
    rw [hout, hst, h1, h2]
    exact ⟨rfl, rfl⟩

theorem delitem_ok (x : Index) (E : Externals) (now : Int) (k : PyVal) (h : Ok x) :
    Ok (x.delitem E now k).1 := by
  have hst : (x.delitem E now k).1 = { cache := (x.cache.delitem E now k).1 } := rfl
  rw [hst]
  have hinv := Cache.delitem_inv x.cache E now k h.inv
  cases hsel : x.cache.selLive (DC.put E x.cache.cfg.disk k).1 (DC.put E x.cache.cfg.disk k).2 now with
  | none =>
    obtain ⟨-, h2, h3, h4⟩ := Cache.delitem_none x.cache E now k hsel
    exact ⟨hinv, by rw [h3]; exact h.pol, by rw [h2]; exact h.noexp, by rw [h4]; exact h.depth,
      by rw [h3]; exact h.disk⟩
  | some r =>
    obtain ⟨-, h2, h3, h4, -⟩ := Cache.delitem_some x.cache E now k r hsel
    refine ⟨hinv, by rw [h3]; exact h.pol, ?_, by rw [h4]; exact h.depth, by rw [h3]; exact h.disk⟩
    rw [h2]
    intro y hy
    exact h.noexp y (List.mem_filter.1 hy).1

/-- a present key is always found: look-up returns the value of its entry (C01 says that is the
value stored), a missing key raises KeyError -/
theorem getitem_found (x : Index) (E : Externals) (now : Int) (k : PyVal) (h : Ok x)
    (hfast : x.cache.statistics = false) :
    (hasKey x E k = false → (x.getitem E now k).2 = .exc "KeyError") ∧
    (∀ r ∈ x.cache.rows, Cache.keyMatch (dbk x E k).1 (dbk x E k).2 r = true →
      (x.cache.fetchRow E r false).2 ≠ .ioerror →
      (x.getitem E now k).2 = Cache.fetchedOut (x.cache.fetchRow E r false).2) := by
  -- `hfast` is not needed: with the statistics on the look-up returns the same
  have _ := hfast
  have hout : (x.getitem E now k).2 = keyErr (x.cache.get E now k false false false).2 := rfl
  rw [hout, (Cache.irf_get_any x.cache E now k h.pol).2]
  unfold Cache.irf_getOut
  rw [Cache.selLive_eq_selKey h.noexp]
  refine ⟨fun hno => ?_, fun r hr hk hf => ?_⟩
  · have : x.cache.selKey (DC.put E x.cache.cfg.disk k).1 (DC.put E x.cache.cfg.disk k).2 = none :=
      Cache.selKey_none_iff.2 hno
    rw [this]; rfl
  · have : x.cache.selKey (DC.put E x.cache.cfg.disk k).1 (DC.put E x.cache.cfg.disk k).2 = some r :=
      Cache.selKey_eq_of_mem h.inv.tbl.uniq hr hk
    rw [this]
    simp only
    cases hc : (x.cache.fetchRow E r false).2 with
    | ioerror => exact absurd hc hf
    | val v => rfl
    | handle b => rfl

/-- `popitem()` removes and returns the LAST entry, `popitem(last=False)` the FIRST; on an empty
index it raises KeyError.  `hcodec`: `popitem` finds the row to delete again through the Python key
it decoded from the edge row (`del self[key]`), so the stored key must survive decode-then-encode.
Without it the statement is false (`popitem_end_needs_codec` below); it holds for every row written
through `put` under lawful codecs (`codec_of_put`). -/
theorem popitem_end (x : Index) (E : Externals) (now : Int) (last : Bool) (h : Ok x)
    (hcodec : ∀ r ∈ x.cache.rows,
      DC.put E x.cache.cfg.disk (DC.get E x.cache.cfg.disk r.key r.raw) = (r.key, r.raw)) :
    (x.cache.rows = [] → (x.popitem E now last).2 = .exc "KeyError" ∧ (x.popitem E now last).1.cache.rows = []) ∧
    (∀ r, (if last then x.cache.rows.getLast? else x.cache.rows.head?) = some r →
      (x.cache.fetchRow E r false).2 ≠ .ioerror →
      (x.popitem E now last).1.cache.rows = x.cache.rows.filter (fun y => y.rowid != r.rowid) ∧
      (x.popitem E now last).2 = .tup [Cache.keyOut E x.cache.cfg.disk r.key r.raw,
                                       Cache.fetchedOut (x.cache.fetchRow E r false).2]) := by
  obtain ⟨b1, b2, b3, b4, b5⟩ := Cache.tbegin_zero x.cache h.depth
  obtain ⟨hc, ho⟩ := Cache.irf_peekitem x.cache.tbegin E now last (by rw [b1]; exact h.noexp)
  rw [Cache.irf_peekOut_congr E last b1 b5 b2] at ho
  have hp : x.cache.tbegin.peekitem E now last false false =
      ((x.cache.tbegin.peekitem E now last false false).1, Cache.irf_peekOut E last x.cache) :=
    Prod.ext rfl ho
  generalize (x.cache.tbegin.peekitem E now last false false).1 = c at hc hp
  have c1 : c.rows = x.cache.rows := (congrArg Cache.Core.rows hc).trans b1
  have c2 : c.cfg = x.cache.cfg := (congrArg Cache.Core.cfg hc).trans b2
  have c3 : c.depth = 1 := (congrArg Cache.Core.depth hc).trans b3
  have c4 : c.snap = some x.cache.takeSnap := (congrArg Cache.Core.snap hc).trans b4
  refine ⟨fun hempty => ?_, fun r hedge hf => ?_⟩
  · have hout : Cache.irf_peekOut E last x.cache = .exc "KeyError" := by
      unfold Cache.irf_peekOut Cache.irf_edge
      rw [hempty]
      cases last <;> rfl
    rw [hout] at hp
    unfold popitem
    simp only [hp]
    refine ⟨trivial, ?_⟩
    rw [Cache.traise_one_rows c x.cache.takeSnap c3 c4]
    exact hempty
  · have hr : r ∈ x.cache.rows := Cache.irf_edge_mem hedge
    have hout : Cache.irf_peekOut E last x.cache =
        .tup [Cache.keyOut E x.cache.cfg.disk r.key r.raw,
          Cache.fetchedOut (x.cache.fetchRow E r false).2] := by
      unfold Cache.irf_peekOut Cache.irf_edge
      rw [hedge]
      simp only  -- the second alternative of the inner match, by `hf`
    rw [hout] at hp
    unfold popitem
    simp only [hp, Cache.keyOut]
    have hput : DC.put E c.cfg.disk (DC.get E x.cache.cfg.disk r.key r.raw) = (r.key, r.raw) := by
      rw [c2]; exact hcodec r hr
    have hsel : c.selLive (DC.put E c.cfg.disk (DC.get E x.cache.cfg.disk r.key r.raw)).1
        (DC.put E c.cfg.disk (DC.get E x.cache.cfg.disk r.key r.raw)).2 now = some r := by
      rw [hput]
      exact Cache.live_visible_partial c (by rw [c1]; exact h.inv.tbl.uniq) r
        (by rw [c1]; exact hr) (h.inv.tbl.nonnull r hr) now (Cache.live_of_noexp (h.noexp r hr) now)
    obtain ⟨d1, d2, -⟩ := Cache.delitem_some c E now _ r hsel
    cases hdd : c.delitem E now (DC.get E x.cache.cfg.disk r.key r.raw) with
    | mk c2 o2 =>
      rw [hdd] at d1 d2
      simp only at d1 d2
      subst d1
      exact ⟨by rw [Cache.tend_rows, d2, c1], rfl⟩

/-- `hcodec` holds for every row whose stored key is the encoding of some Python key, when the
codecs are lawful — that is, for every row an Index ever writes -/
theorem codec_of_put (x : Index) (E : Externals) (hE : Lawful E) (h : Ok x) (r : Row) (k : PyVal)
    (hk : (r.key, r.raw) = dbk x E k) :
    DC.put E x.cache.cfg.disk (DC.get E x.cache.cfg.disk r.key r.raw) = (r.key, r.raw) := by
  have h1 : r.key = (dbk x E k).1 := congrArg Prod.fst hk
  have h2 : r.raw = (dbk x E k).2 := congrArg Prod.snd hk
  rw [hk, h1, h2]
  unfold dbk
  rw [h.disk]
  exact Cache.put_get_put E E rfl hE.loads_dumpsK k

/-- why `popitem_end` needs `hcodec`: a well-formed Index whose only row has a key that is not the
encoding of any Python key (an integer outside int64 stored raw).  `popitem` reads the item but
`del self[key]` looks for the pickled key, finds nothing and raises KeyError; the block is rolled
back and the row stays. -/
def exBigRow : Row :=
  { rowid := 1, key := .int 18446744073709551616, raw := true, storeT := 0, expT := none, accT := 0,
    accN := 0, tag := .null, size := 0, mode := 1, file := none, val := .int 0 }

def exIx : Index := { cache := { rows := [exBigRow], count := 1, cfg := { policy := .none } } }

theorem exIx_ok : Ok exIx := by
  refine ⟨Cache.tableInv_single _ exBigRow rfl (by decide) nofun rfl rfl rfl, rfl, ?_, rfl, rfl⟩
  intro r hr
  rw [List.mem_singleton.1 hr]
  rfl

theorem popitem_end_needs_codec :
    Ok exIx ∧ exIx.cache.rows.getLast? = some exBigRow ∧
    (exIx.cache.fetchRow Cache.exE exBigRow false).2 ≠ .ioerror ∧
    (exIx.popitem Cache.exE 0 true).1.cache.rows ≠
      exIx.cache.rows.filter (fun y => y.rowid != exBigRow.rowid) := by
  refine ⟨exIx_ok, rfl, ?_, ?_⟩
  · decide
  · decide +kernel

/-- nothing is ever lost to eviction or expiry: a write's lazy cull removes nothing -/
theorem never_loses (x : Index) (now : Int) (h : Ok x) : (x.cache.cullW now).1.rows = x.cache.rows := by
  exact Cache.cullW_noexp x.cache now h.pol h.noexp

end DC.Index
