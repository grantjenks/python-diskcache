/-
C13 (refinement) — a sharded cache is observably ONE cache: FanoutCache refines the same
reference dictionary (DC/Model/Spec.lean) as the plain Cache, for every history of
key-addressed calls and bulk removals, whatever the number of shards.

Built from C03_Refine: a key-addressed call of the fanout IS the Cache call on the shard the
key is routed to (`keyed_is_shard_op`), the Cache call refines the dictionary
(`Cache.step_refines`), and the specification's call is *local* at its key
(`frf_step_local`): so the fanout call refines the dictionary as soon as keys the table
treats as equal are routed to one shard — which is exactly what finding D11 denies for
`1` / `1.0` (`RouteOK`, `frun_refines_needs_route`).

Statement notes.
 * The relation is `FRefinesOn V f m clock`, "for every key `k` in `V` the shard `routeK f k`
   represents `m` at `k` as in `Cache.Refines`"; `FRefines` is the relation on all keys.  The
   set `V` is needed because of D11: after `cache[1] = 7` on 8 shards the dictionary binds the
   key `1.0` as well (it IS the key `1`), but the shard of `1.0` holds nothing — so the relation
   on ALL keys cannot be kept under a hypothesis that only speaks about the keys that occur
   (`frun_refines_literal_fails`).  Two true forms:
     - `frun_refines`: the relation on all keys, under `RouteOK f (histKeys …) (fun _ => True)`
       (every key equal to a key of the history is routed like it) — holds for histories
       without numeric keys (`frun_refines_nonnumeric`) and for `JSONDisk` (`routeOK_of_json`);
     - `frun_refines_on` / `frun_refines_hist` / `frun_refines_no_float`: the relation on a set
       `V` of keys containing those of the history, under `RouteOK f (histKeys …) V` (equal keys
       AMONG those considered share their shard) — holds e.g. for histories whose keys are
       integers, text, bytes and objects but no floats.
   In both the results of ALL calls of the history are those of the one dictionary.
 * `hroute : RouteOK …` in the history theorem is needed; without it the statement is false:
   `frun_refines_needs_route` (set 1, get 1.0 on 8 shards — D11 as a history from the empty cache).
 * `FGood`: ≥ 1 shard, every shard `Cache.Good`, all shards the configuration `fcfg f` (what
   `Fanout.init` creates), eviction policy `none`, page size > 0 (as in C03_Refine).
 * As in C03_Refine the integer results of clear / evict / expire / cull (sums of row counts)
   are masked by `.none` in `outs`.
-/
import DC.Proofs.FRefineLemmas
import DC.Properties.C13_Agg

namespace DC.Fanout
open DC.Cache DC.Spec

/-! ### histories on a fanout -/

/-- one call of a history on the sharded cache: key-addressed calls go to the shard of the key,
the four bulk removals to every shard; the calls outside the specification are not modelled here -/
def step (f : Fanout) : Cache.Op → Fanout × Out
  | .set E now k v ttl read tag => f.keyed E k (fun s => s.set E now k v ttl read tag)
  | .add E now k v ttl read tag => f.keyed E k (fun s => s.add E now k v ttl read tag)
  | .touch E now k ttl => f.keyed E k (fun s => s.touch E now k ttl)
  | .incr E now k delta dflt => f.keyed E k (fun s => s.incr E now k delta dflt)
  | .get E now k read et tg => f.keyed E k (fun s => s.get E now k read et tg)
  | .contains E now k => f.keyed E k (fun s => s.contains E now k)
  | .pop E now k et tg => f.keyed E k (fun s => s.pop E now k et tg)
  | .delitem E now k => f.keyed E k (fun s => s.delitem E now k)
  | .delete E now k => f.keyed E k (fun s => s.delete E now k)
  | .clear => f.clear
  | .evict tag => f.evict tag
  | .expire now => f.expire now
  | .cull now => f.cull now
  | _ => (f, .none)

def run (f : Fanout) (ops : List Cache.Op) : Fanout := ops.foldl (fun f op => (f.step op).1) f

/-- the results of a history; the integer results of the four bulk removals are masked by
`.none` as in `Cache.outs` -/
def outs (f : Fanout) : List Cache.Op → List Out
  | [] => []
  | op :: ops => (if Determined op then (f.step op).2 else .none) :: outs (f.step op).1 ops

/-- the configuration of the shards (that of the first one; `FGood` says they all agree) -/
def fcfg (f : Fanout) : Cfg :=
  match f.shards.head? with
  | some s => s.cfg
  | none => {}

/-- the shard of a DATABASE key: `hash(key) % shards` -/
def routeK (f : Fanout) (k : Spec.Key) : Nat := hashDb k.1 % f.shards.length

theorem route_eq (f : Fanout) (E : Externals) (k : PyVal) (hne : f.shards ≠ []) :
    f.route E k = routeK f (keyOf E (fcfg f) k) := by
  unfold route routeK fcfg keyOf diskHash
  cases hs : f.shards with
  | nil => exact absurd hs hne
  | cons a t => rfl

/-! ### the relation and the invariant -/

/-- `f` represents `m` at clock `clock` on the keys in `V`: for every such key the shard the key
is routed to represents `m` at that key exactly as in `Cache.Refines`.  Rows sitting in another
shard than their key's are not excluded and do not matter. -/
def FRefinesOn (V : Spec.Key → Prop) (f : Fanout) (m : Spec.Dict) (clock : Int) : Prop :=
  m.WF ∧ ∀ k, V k → ∃ s, f.shards[routeK f k]? = some s ∧ frf_RefinesAt s m clock k

def FRefines (f : Fanout) (m : Spec.Dict) (clock : Int) : Prop := FRefinesOn (fun _ => True) f m clock

theorem frefines_def (f : Fanout) (m : Spec.Dict) (clock : Int) :
    FRefines f m clock ↔ m.WF ∧ ∀ k : Spec.Key, ∃ s, f.shards[routeK f k]? = some s ∧
      match m.get k with
      | some e => (∃ r, s.selKey k.1 k.2 = some r ∧ entryOfRow s r = e) ∨
                  (s.selKey k.1 k.2 = none ∧ e.expired clock = true)
      | none => s.selKey k.1 k.2 = none := by
  exact ⟨fun h => ⟨h.1, fun k => h.2 k trivial⟩, fun h => ⟨h.1, fun k _ => h.2 k⟩⟩

theorem FRefinesOn.mono {V W : Spec.Key → Prop} {f : Fanout} {m : Spec.Dict} {clock : Int}
    (h : FRefinesOn V f m clock) (hW : ∀ k, W k → V k) : FRefinesOn W f m clock :=
  ⟨h.1, fun k hk => h.2 k (hW k hk)⟩

structure FGood (f : Fanout) : Prop where
  nonempty : f.shards ≠ []
  good : ∀ s ∈ f.shards, Cache.Good s
  cfg : ∀ s ∈ f.shards, s.cfg = fcfg f
  policy : (fcfg f).policy = .none
  page : 0 < (fcfg f).page

/-! ### the state a shard is in when a call runs on it -/

theorem frf_prep_good {s : Cache} (hg : Good s) (env : List Nat) : Good (prep s env) :=
  ⟨⟨hg.tinv.tbl, hg.tinv.snap⟩, ⟨hg.finv.ref, hg.finv.inj, hg.finv.fresh, hg.finv.nodup⟩,
    hg.noOrphan, hg.depth, hg.snap, hg.pending, hg.created⟩

theorem frf_prep_view (s : Cache) (env : List Nat) (k : Spec.Key) :
    rf_view (prep s env) k = rf_view s k := rfl

theorem frf_routeK_length {f g : Fanout} (h : g.shards.length = f.shards.length) (k : Spec.Key) :
    routeK g k = routeK f k := by
  unfold routeK; rw [h]

theorem frf_fcfg_of_all {f : Fanout} {C : Cfg} (hne : f.shards ≠ []) (h : ∀ s ∈ f.shards, s.cfg = C) :
    fcfg f = C := by
  unfold fcfg
  cases hs : f.shards with
  | nil => exact absurd hs hne
  | cons a t =>
    simp only [List.head?_cons]
    exact h a (by rw [hs]; exact List.mem_cons_self)

theorem frf_cfg_of_all {f g : Fanout} (hne : f.shards ≠ []) (hlen : g.shards.length = f.shards.length)
    (hall : ∀ s ∈ g.shards, Good s ∧ s.cfg = fcfg f) : g.shards ≠ [] ∧ fcfg g = fcfg f := by
  have hne' : g.shards ≠ [] := by
    apply List.ne_nil_of_length_pos
    rw [hlen]
    exact List.length_pos_iff.2 hne
  exact ⟨hne', frf_fcfg_of_all hne' (fun s hs => (hall s hs).2)⟩

theorem frf_fgood_of_all {f g : Fanout} (hg : FGood f) (hlen : g.shards.length = f.shards.length)
    (hall : ∀ s ∈ g.shards, Good s ∧ s.cfg = fcfg f) :
    FGood g ∧ fcfg g = fcfg f ∧ g.shards.length = f.shards.length := by
  obtain ⟨hne, hcfg⟩ := frf_cfg_of_all hg.nonempty hlen hall
  refine ⟨⟨hne, fun s hs => (hall s hs).1, fun s hs => ?_, ?_, ?_⟩, hcfg, hlen⟩
  · rw [hcfg]; exact (hall s hs).2
  · rw [hcfg]; exact hg.policy
  · rw [hcfg]; exact hg.page

/-! ### one key-addressed call -/

/-- **generic per-call theorem**: a key-addressed call of the fanout whose Cache version refines
the dictionary (`hop`: result and state, as in the `*_refines` theorems of C03_Refine) and whose
specification is local at the key (`hloc`) refines the dictionary — provided the keys of `V` that
the table treats as equal to the call's key are routed to the same shard (`hroute`). -/
theorem keyed_frefines (V : Spec.Key → Prop) (f : Fanout) (m : Spec.Dict) (clock now : Int)
    (E : Externals) (k : PyVal) (op : Cache → Cache × Out) (sop : Spec.Dict → Spec.Dict × Out)
    (hg : FGood f) (hr : FRefinesOn V f m clock) (hmono : clock ≤ now)
    (hV : V (keyOf E (fcfg f) k))
    (hroute : ∀ b, V b → sameKey (keyOf E (fcfg f) k) b = true →
      routeK f b = routeK f (keyOf E (fcfg f) k))
    (hop : ∀ (c : Cache) (m' : Spec.Dict), Good c → c.cfg = fcfg f → Refines c m' clock →
      (op c).2 = (sop m').2 ∧ Refines (op c).1 (sop m').1 now)
    (hloc : frf_Local sop (keyOf E (fcfg f) k)) :
    (f.keyed E k op).2 = (sop m).2 ∧ FRefinesOn V (f.keyed E k op).1 (sop m).1 now := by
  have hrt := route_eq f E k hg.nonempty
  obtain ⟨s, hs, hsK⟩ := hr.2 _ hV
  rw [← hrt] at hs
  obtain ⟨ho, hsh⟩ := keyed_is_shard_op f E k op s hs
  have hmem := List.mem_of_getElem? hs
  have hgc : Good (prep s f.env) := frf_prep_good (hg.good s hmem) _
  have hlen : (f.keyed E k op).1.shards.length = f.shards.length := onShard_length f _ op
  rw [frf_refinesAt_iff] at hsK
  obtain ⟨h1o, h1r⟩ := hop _ _ hgc (hg.cfg s hmem)
    (frf_localDict_refines _ m _ clock hgc.tinv.tbl.uniq hsK)
  refine ⟨?_, frf_local_wf hloc hr.1, ?_⟩
  · rw [ho]
    show (op (prep s f.env)).2 = _
    rw [h1o]
    exact frf_local_out hloc _ _ (frf_localDict_at_K _ m _)
  · intro k2 hk2
    obtain ⟨s2, hs2, hs2k⟩ := hr.2 k2 hk2
    rw [frf_refinesAt_iff] at hs2k
    rw [frf_routeK_length hlen]
    by_cases hj : routeK f k2 = f.route E k
    · rw [hj] at hs2 ⊢
      have hss : s2 = s := by rw [hs] at hs2; exact (Option.some.inj hs2).symm
      subst hss
      exact ⟨_, hsh, (frf_refinesAt_iff _ _ _ _).2 (frf_local_transfer hloc _ m k2 now _
        (((refines_iff _ _ _).1 h1r).2 k2) (rf_VRel_mono hs2k hmono))⟩
    · refine ⟨s2, ?_, ?_⟩
      · rw [keyed_only_route f E k op _ hj]; exact hs2
      · have hne : sameKey (keyOf E (fcfg f) k) k2 = false := by
          cases h : sameKey (keyOf E (fcfg f) k) k2 with
          | false => rfl
          | true => exact absurd ((hroute k2 hk2 h).trans hrt.symm) hj
        rw [frf_refinesAt_iff, frf_local_frame hloc m k2 hne]
        exact rf_VRel_mono hs2k hmono

theorem keyed_fgood (f : Fanout) (E : Externals) (k : PyVal) (op : Cache → Cache × Out)
    (hg : FGood f)
    (hop : ∀ c : Cache, Good c → c.cfg = fcfg f → Good (op c).1 ∧ (op c).1.cfg = fcfg f) :
    FGood (f.keyed E k op).1 ∧ fcfg (f.keyed E k op).1 = fcfg f ∧
      (f.keyed E k op).1.shards.length = f.shards.length :=
  frf_fgood_of_all hg (onShard_length f _ op)
    (onShard_forall f _ op _ (fun s hs => ⟨hg.good s hs, hg.cfg s hs⟩)
      (fun s hs => hop _ (frf_prep_good (hg.good s hs) f.env) (hg.cfg s hs)))

/-! ### one bulk removal -/

/-- **generic aggregate theorem**: a call run on every shard (`each`) whose Cache version refines
the dictionary (state half) and whose specification acts on every binding separately refines the
dictionary.  No routing hypothesis is needed: every shard is treated alike. -/
theorem each_frefines (V : Spec.Key → Prop) (f : Fanout) (m : Spec.Dict) (clock now : Int)
    (op : Cache → Cache × Out) (sop : Spec.Dict → Spec.Dict × Out)
    (hg : FGood f) (hr : FRefinesOn V f m clock)
    (hop : ∀ (c : Cache) (m' : Spec.Dict), Good c → c.cfg = fcfg f → Refines c m' clock →
      Refines (op c).1 (sop m').1 now)
    (hpw : frf_Pointwise sop) :
    FRefinesOn V (f.each op).1 (sop m).1 now := by
  obtain ⟨P, hP⟩ := hpw
  obtain ⟨-, hlen, hpt⟩ := each_pointwise f op
  refine ⟨(hP m hr.1).1, fun k hk => ?_⟩
  obtain ⟨s, hs, hsk⟩ := hr.2 k hk
  rw [frf_refinesAt_iff] at hsk
  rw [frf_routeK_length hlen]
  obtain ⟨hlt, hget⟩ := List.getElem?_eq_some_iff.1 hs
  obtain ⟨env, -, hsh⟩ := hpt _ hlt
  rw [hget] at hsh
  refine ⟨_, hsh, ?_⟩
  have hmem := List.mem_of_getElem? hs
  have hgc : Good (prep s env) := frf_prep_good (hg.good s hmem) _
  have hloc := frf_localDict_refines (prep s env) m k clock hgc.tinv.tbl.uniq hsk
  have h1 := hop _ _ hgc (hg.cfg s hmem) hloc
  have h2 := ((frf_refines_def _ _ _).1 h1).2 k
  rw [frf_refinesAt_iff] at h2 ⊢
  rw [(hP m hr.1).2 k]
  rw [(hP _ ((frf_refines_def _ _ _).1 hloc).1).2 k, frf_localDict_at_K] at h2
  exact h2

theorem each_fgood (f : Fanout) (op : Cache → Cache × Out) (hg : FGood f)
    (hop : ∀ c : Cache, Good c → c.cfg = fcfg f → Good (op c).1 ∧ (op c).1.cfg = fcfg f) :
    FGood (f.each op).1 ∧ fcfg (f.each op).1 = fcfg f ∧
      (f.each op).1.shards.length = f.shards.length :=
  frf_fgood_of_all hg (each_pointwise f op).2.1
    (each_forall f op _ (fun s hs env => hop _ (frf_prep_good (hg.good s hs) env) (hg.cfg s hs)))

/-! ### the four bulk removals, and two key-addressed calls spelled out -/

theorem fclear_frefines (V : Spec.Key → Prop) (f : Fanout) (m : Spec.Dict) (clock : Int)
    (hg : FGood f) (hr : FRefinesOn V f m clock) :
    FRefinesOn V (f.clear).1 (Spec.clear m).1 clock :=
  each_frefines V f m clock clock (fun s => s.clear) Spec.clear hg hr
    (fun c m' hc hcfg hr' => Cache.clear_refines c m' clock hc (hcfg ▸ hg.page) hr')
    (flz_clear_pointwise clock).weaken

theorem fevict_frefines (V : Spec.Key → Prop) (f : Fanout) (m : Spec.Dict) (clock : Int) (tag : SqlVal)
    (hg : FGood f) (hr : FRefinesOn V f m clock) :
    FRefinesOn V (f.evict tag).1 (Spec.evict m tag).1 clock :=
  each_frefines V f m clock clock (fun s => s.evict tag) (fun m => Spec.evict m tag) hg hr
    (fun c m' hc hcfg hr' => Cache.evict_refines c m' clock tag hc (hcfg ▸ hg.page) hr')
    (flz_filter_pointwise (fun e => !e.tag.eqv tag) clock).weaken

theorem fexpire_frefines (V : Spec.Key → Prop) (f : Fanout) (m : Spec.Dict) (clock now : Int)
    (hg : FGood f) (hr : FRefinesOn V f m clock) (hn : clock ≤ now) :
    FRefinesOn V (f.expire now).1 (Spec.expire m now).1 now :=
  each_frefines V f m clock now (fun s => s.expire now) (fun m => Spec.expire m now) hg hr
    (fun c m' hc hcfg hr' => Cache.expire_refines c m' clock now hc (hcfg ▸ hg.page) hr' hn)
    (flz_filter_pointwise (fun e => !e.expired now) now).weaken

theorem fcull_frefines (V : Spec.Key → Prop) (f : Fanout) (m : Spec.Dict) (clock now : Int)
    (hg : FGood f) (hr : FRefinesOn V f m clock) (hn : clock ≤ now) :
    FRefinesOn V (f.cull now).1 (Spec.cull m now).1 now :=
  each_frefines V f m clock now (fun s => s.cull now) (fun m => Spec.cull m now) hg hr
    (fun c m' hc hcfg hr' => Cache.cull_refines c m' clock now hc (hcfg ▸ hg.policy)
      (hcfg ▸ hg.page) hr' hn)
    (flz_filter_pointwise (fun e => !e.expired now) now).weaken

theorem fset_frefines (V : Spec.Key → Prop) (f : Fanout) (m : Spec.Dict) (clock now : Int)
    (E : Externals) (k v : PyVal) (ttl : Option Int) (read : Bool) (tag : SqlVal)
    (hg : FGood f) (hr : FRefinesOn V f m clock) (hn : clock ≤ now)
    (hV : V (keyOf E (fcfg f) k))
    (hroute : ∀ b, V b → sameKey (keyOf E (fcfg f) k) b = true →
      routeK f b = routeK f (keyOf E (fcfg f) k)) :
    (f.keyed E k (fun s => s.set E now k v ttl read tag)).2 =
      (Spec.set m E (fcfg f) now k v ttl read tag).2 ∧
    FRefinesOn V (f.keyed E k (fun s => s.set E now k v ttl read tag)).1
      (Spec.set m E (fcfg f) now k v ttl read tag).1 now :=
  keyed_frefines V f m clock now E k _ (fun m => Spec.set m E (fcfg f) now k v ttl read tag)
    hg hr hn hV hroute
    (fun c m' hc hcfg hr' =>
      hcfg ▸ Cache.set_refines c m' clock now E k v ttl read tag hc (hcfg ▸ hg.policy) hr' hn)
    (frf_set_local E (fcfg f) now k v ttl read tag)

theorem fget_frefines (V : Spec.Key → Prop) (f : Fanout) (m : Spec.Dict) (clock now : Int)
    (E : Externals) (k : PyVal) (read et tg : Bool)
    (hg : FGood f) (hr : FRefinesOn V f m clock) (hn : clock ≤ now)
    (hV : V (keyOf E (fcfg f) k))
    (hroute : ∀ b, V b → sameKey (keyOf E (fcfg f) k) b = true →
      routeK f b = routeK f (keyOf E (fcfg f) k)) :
    (f.keyed E k (fun s => s.get E now k read et tg)).2 =
      (Spec.get m E (fcfg f) now k read et tg).2 ∧
    FRefinesOn V (f.keyed E k (fun s => s.get E now k read et tg)).1
      (Spec.get m E (fcfg f) now k read et tg).1 now :=
  keyed_frefines V f m clock now E k _ (fun m => Spec.get m E (fcfg f) now k read et tg)
    hg hr hn hV hroute
    (fun c m' hc hcfg hr' =>
      hcfg ▸ Cache.get_refines c m' clock now E k read et tg hc (hcfg ▸ hg.policy) hr' hn)
    (frf_get_local E (fcfg f) now k read et tg)

/-! ### one call of a history -/

theorem frf_step_keyed (f : Fanout) (op : Cache.Op) (E : Externals) (k : PyVal)
    (h : frf_opKey op = some (E, k)) :
    f.step op = f.keyed E k (fun s => s.step op) ∧ Determined op = true := by
  cases op <;> simp only [frf_opKey, Option.some.injEq, Prod.mk.injEq, reduceCtorEq] at h <;>
    obtain ⟨rfl, rfl⟩ := h <;> exact ⟨rfl, rfl⟩

theorem frf_step_bulk (f : Fanout) (op : Cache.Op) (h : frf_isBulk op = true) :
    (f.step op).1 = (f.each (fun s => s.step op)).1 ∧ Determined op = false ∧
      ∀ (m : Spec.Dict) (cfg : Cfg), (Spec.step m cfg op).2 = .none := by
  cases op <;> simp only [frf_isBulk, Bool.false_eq_true] at h <;>
    exact ⟨rfl, rfl, fun _ _ => rfl⟩

theorem frf_clock_le (clock : Int) (op : Cache.Op) (hm : ∀ n, opClock op = some n → clock ≤ n) :
    clock ≤ (opClock op).getD clock := by
  cases h : opClock op with
  | none => exact Int.le_refl _
  | some n => exact hm n h

theorem fstep_refines (V : Spec.Key → Prop) (f : Fanout) (m : Spec.Dict) (clock : Int) (op : Cache.Op)
    (hg : FGood f) (hr : FRefinesOn V f m clock) (hk : Keyed op = true)
    (hm : ∀ n, opClock op = some n → clock ≤ n)
    (hV : ∀ E k, frf_opKey op = some (E, k) → V (keyOf E (fcfg f) k))
    (hroute : ∀ E k, frf_opKey op = some (E, k) → ∀ b, V b →
      sameKey (keyOf E (fcfg f) k) b = true → routeK f b = routeK f (keyOf E (fcfg f) k)) :
    (if Determined op then (f.step op).2 else .none) = (Spec.step m (fcfg f) op).2 ∧
    FRefinesOn V (f.step op).1 (Spec.step m (fcfg f) op).1 ((opClock op).getD clock) ∧
    FGood (f.step op).1 ∧ fcfg (f.step op).1 = fcfg f ∧
      (f.step op).1.shards.length = f.shards.length := by
  -- the Cache call on a shard, with the shard's configuration written as the fanout's
  have hstep := fun (c : Cache) (m' : Spec.Dict) (hc : Good c) (hcfg : c.cfg = fcfg f)
      (hr' : Refines c m' clock) =>
    hcfg ▸ Cache.step_refines c m' clock op hc (hcfg ▸ hg.policy) (hcfg ▸ hg.page) hr' hk hm
  have hkeep := fun (c : Cache) (hc : Good c) (hcfg : c.cfg = fcfg f) =>
    And.intro (Cache.step_good c op hk hc) ((rf_step_cfg_gen c op hk).trans hcfg)
  rcases frf_keyed_cases op hk with ⟨E, k, hkey⟩ | hb
  · obtain ⟨hst, hdet⟩ := frf_step_keyed f op E k hkey
    have h1 := keyed_frefines V f m clock ((opClock op).getD clock) E k (fun s => s.step op)
      (fun m => Spec.step m (fcfg f) op) hg hr (frf_clock_le clock op hm) (hV E k hkey)
      (hroute E k hkey)
      (fun c m' hc hcfg hr' => by
        have := hstep c m' hc hcfg hr'
        rw [hdet, if_pos rfl] at this
        exact this)
      (frf_step_local (fcfg f) op E k hkey)
    have h2 := keyed_fgood f E k (fun s => s.step op) hg hkeep
    rw [hst, hdet, if_pos rfl]
    exact ⟨h1.1, h1.2, h2⟩
  · obtain ⟨hst, hdet, hout⟩ := frf_step_bulk f op hb
    have h1 := each_frefines V f m clock ((opClock op).getD clock) (fun s => s.step op)
      (fun m => Spec.step m (fcfg f) op) hg hr
      (fun c m' hc hcfg hr' => (hstep c m' hc hcfg hr').2)
      (frf_step_pointwise (fcfg f) op hb)
    have h2 := each_fgood f (fun s => s.step op) hg hkeep
    rw [hst, hdet, hout]
    exact ⟨by simp, h1, h2⟩

/-! ### histories -/

def histKeys (cfg : Cfg) (ops : List Cache.Op) (K : Spec.Key) : Prop :=
  ∃ op ∈ ops, ∃ E k, frf_opKey op = some (E, k) ∧ K = keyOf E cfg k

def dictKeys (m : Spec.Dict) (K : Spec.Key) : Prop := ∃ p ∈ m, p.1 = K

/-- **the routing hypothesis that D11 forces**: a key `a` of the history (`H`) and a key `b` the
relation speaks about (`V`) that the table treats as equal go to the same shard -/
def RouteOK (f : Fanout) (H V : Spec.Key → Prop) : Prop :=
  ∀ a b, H a → V b → sameKey a b = true → routeK f a = routeK f b

theorem frf_run_cons (f : Fanout) (op : Cache.Op) (ops : List Cache.Op) :
    f.run (op :: ops) = (f.step op).1.run ops := rfl

theorem frf_histKeys_cons {cfg : Cfg} {op : Cache.Op} {ops : List Cache.Op} {K : Spec.Key}
    (h : histKeys cfg ops K) : histKeys cfg (op :: ops) K := by
  obtain ⟨o, ho, r⟩ := h
  exact ⟨o, List.mem_cons_of_mem _ ho, r⟩

/-- the history theorem on a set of keys `V` containing the keys of the history, with everything
the induction carries -/
theorem frun_refines_on_strong (V : Spec.Key → Prop) (f : Fanout) (m : Spec.Dict) (clock : Int)
    (ops : List Cache.Op)
    (hg : FGood f) (hr : FRefinesOn V f m clock) (hk : ∀ op ∈ ops, Keyed op = true)
    (hm : Monotone clock ops)
    (hV : ∀ K, histKeys (fcfg f) ops K → V K)
    (hroute : RouteOK f (histKeys (fcfg f) ops) V) :
    outs f ops = Spec.outs m (fcfg f) ops ∧
    FRefinesOn V (f.run ops) (Spec.run m (fcfg f) ops) (lastClock clock ops) ∧
    FGood (f.run ops) ∧ fcfg (f.run ops) = fcfg f ∧ (f.run ops).shards.length = f.shards.length := by
  induction ops generalizing f m clock with
  | nil => exact ⟨rfl, hr, hg, rfl, rfl⟩
  | cons op ops ih =>
    have hkop := hk op List.mem_cons_self
    obtain ⟨hm1, hm'⟩ := (monotone_cons clock op ops).1 hm
    have hHop : ∀ E k, frf_opKey op = some (E, k) → histKeys (fcfg f) (op :: ops) (keyOf E (fcfg f) k) :=
      fun E k h => ⟨op, List.mem_cons_self, E, k, h, rfl⟩
    obtain ⟨h1, h2, h3, h4, h5⟩ := fstep_refines V f m clock op hg hr hkop hm1
      (fun E k h => hV _ (hHop E k h))
      (fun E k h b hb hs => (hroute _ b (hHop E k h) hb hs).symm)
    obtain ⟨i1, i2, i3, i4, i5⟩ := ih (f.step op).1 (Spec.step m (fcfg f) op).1
      ((opClock op).getD clock) h3 h2 (fun o ho => hk o (List.mem_cons_of_mem _ ho)) hm'
      (by rw [h4]; exact fun K hK => hV K (frf_histKeys_cons hK))
      (by
        rw [h4]
        intro a b ha hb hs
        rw [frf_routeK_length h5, frf_routeK_length h5]
        exact hroute a b (frf_histKeys_cons ha) hb hs)
    rw [h4] at i1 i2
    refine ⟨?_, ?_, i3, i4.trans h4, i5.trans h5⟩
    · show _ :: _ = _ :: _
      rw [h1, i1]
    · rw [frf_run_cons, spec_run_cons]; exact i2

/-- **the history theorem, relative to a set of keys**: `V` is any set of database keys containing
the keys of the history; if keys of the history and keys of `V` that the table treats as equal
share their shard, every call returns what the ONE reference dictionary returns and the final
states correspond on `V` — whatever the number of shards. -/
theorem frun_refines_on (V : Spec.Key → Prop) (f : Fanout) (m : Spec.Dict) (clock : Int)
    (ops : List Cache.Op)
    (hg : FGood f) (hr : FRefinesOn V f m clock) (hk : ∀ op ∈ ops, Keyed op = true)
    (hm : Monotone clock ops)
    (hV : ∀ K, histKeys (fcfg f) ops K → V K)
    (hroute : RouteOK f (histKeys (fcfg f) ops) V) :
    outs f ops = Spec.outs m (fcfg f) ops ∧
    ∃ clock', FRefinesOn V (f.run ops) (Spec.run m (fcfg f) ops) clock' := by
  obtain ⟨h1, h2, -⟩ := frun_refines_on_strong V f m clock ops hg hr hk hm hV hroute
  exact ⟨h1, _, h2⟩

/-- **the history theorem** (the relation on all keys): "a sharded cache is observably ONE cache" —
the same dictionary, the same results, whatever the number of shards.
`hroute`: every database key the table treats as equal to a key of the history is routed like it. -/
theorem frun_refines (f : Fanout) (m : Spec.Dict) (clock : Int) (ops : List Cache.Op)
    (hg : FGood f) (hr : FRefines f m clock) (hk : ∀ op ∈ ops, Keyed op = true)
    (hm : Monotone clock ops)
    (hroute : RouteOK f (histKeys (fcfg f) ops) (fun _ => True)) :
    outs f ops = Spec.outs m (fcfg f) ops ∧
    ∃ clock', FRefines (f.run ops) (Spec.run m (fcfg f) ops) clock' :=
  frun_refines_on (fun _ => True) f m clock ops hg hr hk hm (fun _ _ => trivial) hroute

/-- the keys of the history and of the dictionary: if equal keys among them share their shard,
the relation holds on them (`frun_refines_hist`) -/
def keysOf (f : Fanout) (m : Spec.Dict) (ops : List Cache.Op) (K : Spec.Key) : Prop :=
  histKeys (fcfg f) ops K ∨ dictKeys m K

theorem frun_refines_hist (f : Fanout) (m : Spec.Dict) (clock : Int) (ops : List Cache.Op)
    (hg : FGood f) (hr : FRefinesOn (keysOf f m ops) f m clock) (hk : ∀ op ∈ ops, Keyed op = true)
    (hm : Monotone clock ops)
    (hroute : RouteOK f (keysOf f m ops) (keysOf f m ops)) :
    outs f ops = Spec.outs m (fcfg f) ops ∧
    ∃ clock', FRefinesOn (keysOf f m ops) (f.run ops) (Spec.run m (fcfg f) ops) clock' :=
  frun_refines_on _ f m clock ops hg hr hk hm (fun _ h => .inl h)
    (fun a b ha hb hs => hroute a b (.inl ha) hb hs)

/-! ### the routing hypothesis is satisfiable -/

/-- equal keys are identical cells: nothing to prove -/
theorem routeOK_of_identical (f : Fanout) (H V : Spec.Key → Prop)
    (h : ∀ a b, H a → V b → sameKey a b = true → a.1 = b.1) : RouteOK f H V := by
  intro a b ha hb hs
  unfold routeK
  rw [h a b ha hb hs]

theorem frf_eqv_text {x : Str} {b : SqlVal} (h : (SqlVal.text x).eqv b = true) : b = .text x := by
  cases b <;> simp [SqlVal.eqv] at h
  rw [h]

theorem frf_eqv_blob {x : Bytes} {b : SqlVal} (h : (SqlVal.blob x).eqv b = true) : b = .blob x := by
  cases b <;> simp [SqlVal.eqv] at h
  rw [h]

/-- no numeric key in the history: text and bytes are equal only to themselves, so the hypothesis
holds against ALL keys -/
theorem routeOK_of_text_blob (f : Fanout) (H V : Spec.Key → Prop)
    (h : ∀ a, H a → (∃ x, a.1 = .text x) ∨ (∃ x, a.1 = .blob x)) : RouteOK f H V := by
  apply routeOK_of_identical
  intro a b ha _ hs
  simp only [sameKey, Bool.and_eq_true] at hs
  rcases h a ha with ⟨x, hx⟩ | ⟨x, hx⟩
  · rw [hx] at hs ⊢; exact (frf_eqv_text hs.1).symm
  · rw [hx] at hs ⊢; exact (frf_eqv_blob hs.1).symm

theorem frf_keyOf_nonnumeric (E : Externals) (cfg : Cfg) (k : PyVal) (hk : pyIsNumber k = false) :
    (∃ x, (keyOf E cfg k).1 = .text x) ∨ (∃ x, (keyOf E cfg k).1 = .blob x) := by
  unfold keyOf put
  cases cfg.disk with
  | json => exact .inr ⟨_, rfl⟩
  | pickle =>
    cases k with
    | int i => cases hk
    | float b => cases hk
    | str s => exact .inl ⟨_, rfl⟩
    | bytes b => exact .inr ⟨_, rfl⟩
    | none => exact .inr ⟨_, rfl⟩
    | obj o => exact .inr ⟨_, rfl⟩

theorem frf_keyOf_json (E : Externals) (cfg : Cfg) (k : PyVal) (hd : cfg.disk = .json) :
    ∃ x, (keyOf E cfg k).1 = .blob x := by
  unfold keyOf put
  rw [hd]
  exact ⟨_, rfl⟩

/-- **no key of the history is a number** (int or float): the routing hypothesis holds -/
theorem routeOK_of_nonnumeric (f : Fanout) (ops : List Cache.Op) (V : Spec.Key → Prop)
    (h : ∀ op ∈ ops, ∀ E k, frf_opKey op = some (E, k) → pyIsNumber k = false) :
    RouteOK f (histKeys (fcfg f) ops) V := by
  apply routeOK_of_text_blob
  rintro a ⟨op, hop, E, k, hkey, rfl⟩
  exact frf_keyOf_nonnumeric E _ k (h op hop E k hkey)

/-- with `JSONDisk` the routing hypothesis holds for every history -/
theorem routeOK_of_json (f : Fanout) (ops : List Cache.Op) (V : Spec.Key → Prop)
    (hd : (fcfg f).disk = .json) : RouteOK f (histKeys (fcfg f) ops) V := by
  apply routeOK_of_text_blob
  rintro a ⟨op, hop, E, k, hkey, rfl⟩
  exact .inr (frf_keyOf_json E _ k hd)

/-- no float among the keys considered (integers, text, bytes, pickled objects only): equal
keys are identical, the hypothesis holds -/
theorem routeOK_of_no_real (f : Fanout) (H V : Spec.Key → Prop)
    (hH : ∀ a, H a → ∀ x, a.1 ≠ .real x) (hV : ∀ b, V b → ∀ x, b.1 ≠ .real x) : RouteOK f H V := by
  apply routeOK_of_identical
  intro a b ha hb hs
  simp only [sameKey, Bool.and_eq_true] at hs
  have hs := hs.1
  obtain ⟨a1, a2⟩ := a
  obtain ⟨b1, b2⟩ := b
  have hH' := hH _ ha
  have hV' := hV _ hb
  simp only at hs hH' hV' ⊢
  cases a1 with
  | null => simp [SqlVal.eqv] at hs
  | text x => exact (frf_eqv_text hs).symm
  | blob x => exact (frf_eqv_blob hs).symm
  | real x => exact absurd rfl (hH' x)
  | int i =>
    cases b1 with
    | null => simp [SqlVal.eqv] at hs
    | text x => simp [SqlVal.eqv] at hs
    | blob x => simp [SqlVal.eqv] at hs
    | real x => exact absurd rfl (hV' x)
    | int j =>
      have : intNum i = intNum j := by simpa [SqlVal.eqv, SqlVal.num] using hs
      rw [(intNum_inj' i j).1 this]

/-! ### the empty fanout -/

theorem frf_init_mem {n : Nat} {cf : Cfg} {st : Bool} {s : Cache} (hs : s ∈ (Fanout.init n cf st).shards) :
    s = { cfg := { cf with limD := cf.limD * n }, statistics := st } :=
  (List.mem_replicate.1 hs).2

theorem frf_init_length (n : Nat) (cf : Cfg) (st : Bool) : (Fanout.init n cf st).shards.length = n :=
  List.length_replicate

theorem frf_init_nonempty (n : Nat) (cf : Cfg) (st : Bool) (hn : 1 ≤ n) :
    (Fanout.init n cf st).shards ≠ [] := by
  apply List.ne_nil_of_length_pos
  rw [frf_init_length]
  exact hn

theorem fcfg_init (n : Nat) (cf : Cfg) (st : Bool) (hn : 1 ≤ n) :
    fcfg (Fanout.init n cf st) = { cf with limD := cf.limD * n } := by
  apply frf_fcfg_of_all (frf_init_nonempty n cf st hn)
  intro s hs
  rw [frf_init_mem hs]

theorem fgood_init (n : Nat) (cf : Cfg) (st : Bool) (hn : 1 ≤ n) (hp : cf.policy = .none)
    (hpg : 0 < cf.page) : FGood (Fanout.init n cf st) := by
  refine ⟨frf_init_nonempty n cf st hn, ?_, ?_, ?_, ?_⟩
  · intro s hs
    rw [frf_init_mem hs]
    exact good_init _ _
  · intro s hs
    rw [fcfg_init n cf st hn, frf_init_mem hs]
  · rw [fcfg_init n cf st hn]; exact hp
  · rw [fcfg_init n cf st hn]; exact hpg

theorem frefines_init (n : Nat) (cf : Cfg) (st : Bool) (hn : 1 ≤ n) (clock : Int) :
    FRefines (Fanout.init n cf st) [] clock := by
  refine ⟨rf_wf_nil, fun k _ => ?_⟩
  have hlt : routeK (Fanout.init n cf st) k < (Fanout.init n cf st).shards.length := by
    unfold routeK
    rw [frf_init_length]
    exact Nat.mod_lt _ (by omega)
  refine ⟨_, List.getElem?_eq_getElem hlt, ?_⟩
  rw [frf_init_mem (List.getElem_mem hlt)]
  rfl

/-! ### decidable forms of the side conditions, for concrete histories -/

/-- every key of the history satisfies `P` (as Python value) -/
def histPyAll (P : PyVal → Bool) (ops : List Cache.Op) : Bool :=
  ops.all (fun op => match frf_opKey op with | some (_, k) => P k | none => true)

/-- every key of the history satisfies `P` (in stored form) -/
def histKeyAll (cfg : Cfg) (P : Spec.Key → Bool) (ops : List Cache.Op) : Bool :=
  ops.all (fun op => match frf_opKey op with | some (E, k) => P (keyOf E cfg k) | none => true)

theorem frf_histPyAll {P : PyVal → Bool} {ops : List Cache.Op} (h : histPyAll P ops = true) :
    ∀ op ∈ ops, ∀ E k, frf_opKey op = some (E, k) → P k = true := by
  intro op hop E k hkey
  have := List.all_eq_true.1 h op hop
  rw [hkey] at this
  exact this

theorem frf_histKeyAll {cfg : Cfg} {P : Spec.Key → Bool} {ops : List Cache.Op}
    (h : histKeyAll cfg P ops = true) : ∀ K, histKeys cfg ops K → P K = true := by
  rintro K ⟨op, hop, E, k, hkey, rfl⟩
  have := List.all_eq_true.1 h op hop
  rw [hkey] at this
  exact this

def notReal (k : Spec.Key) : Bool :=
  match k.1 with
  | .real _ => false
  | _ => true

theorem frf_notReal {k : Spec.Key} (h : notReal k = true) : ∀ x, k.1 ≠ .real x := by
  intro x hx
  unfold notReal at h
  rw [hx] at h
  cases h

/-- **histories without numeric keys**: no routing hypothesis is left -/
theorem frun_refines_nonnumeric (f : Fanout) (m : Spec.Dict) (clock : Int) (ops : List Cache.Op)
    (hg : FGood f) (hr : FRefines f m clock) (hk : ∀ op ∈ ops, Keyed op = true)
    (hm : Monotone clock ops) (hkeys : histPyAll (fun k => !pyIsNumber k) ops = true) :
    outs f ops = Spec.outs m (fcfg f) ops ∧
    ∃ clock', FRefines (f.run ops) (Spec.run m (fcfg f) ops) clock' :=
  frun_refines f m clock ops hg hr hk hm
    (routeOK_of_nonnumeric f ops _ (fun op hop E k hkey => by
      simpa using frf_histPyAll hkeys op hop E k hkey))

/-- **histories without float keys** (integers, text, bytes, other objects): the relation on the
keys that are not floats is kept, no routing hypothesis is left -/
theorem frun_refines_no_float (f : Fanout) (m : Spec.Dict) (clock : Int) (ops : List Cache.Op)
    (hg : FGood f) (hr : FRefinesOn (fun k => notReal k = true) f m clock)
    (hk : ∀ op ∈ ops, Keyed op = true) (hm : Monotone clock ops)
    (hkeys : histKeyAll (fcfg f) notReal ops = true) :
    outs f ops = Spec.outs m (fcfg f) ops ∧
    ∃ clock', FRefinesOn (fun k => notReal k = true) (f.run ops) (Spec.run m (fcfg f) ops) clock' :=
  frun_refines_on _ f m clock ops hg hr hk hm (frf_histKeyAll hkeys)
    (routeOK_of_no_real f _ _ (fun a ha => frf_notReal (frf_histKeyAll hkeys a ha))
      (fun _ hb => frf_notReal hb))

/-! ### the routing hypothesis is necessary: D11 as a history -/

def exF8 : Fanout := Fanout.init 8 { policy := .none } false

/-- `cache[1] = 7`, then `cache.get(1.0)`: one key for the table, two shards for the router -/
def exD11 : List Cache.Op :=
  [ .set toyV 0 (.int 1) (.int 7) none false .null,
    .get toyV 0 (.float 0x3ff0000000000000) false false false ]

/-- **the refinement FAILS without `RouteOK`** (known finding D11, as a history from the empty
cache): on 8 shards `get(1.0)` after `set(1, 7)` returns the default, the dictionary (and a plain
Cache, `Cache.run_refines`) returns 7.  `frun_refines` without its hypothesis `hroute` is
therefore false. -/
theorem frun_refines_needs_route :
    ∃ (f : Fanout) (ops : List Cache.Op), FGood f ∧ FRefines f [] 0 ∧
      (∀ op ∈ ops, Keyed op = true) ∧ Monotone 0 ops ∧ outs f ops ≠ Spec.outs [] (fcfg f) ops := by
  refine ⟨exF8, exD11, fgood_init 8 _ false (by decide) rfl (by decide),
    frefines_init 8 _ false (by decide) 0, by decide, by decide +kernel, ?_⟩
  intro h
  have h2 := congrArg (fun l => match l with | [_, .default] => true | _ => false) h
  revert h2
  decide +kernel

/-- what the fanout answers, and what the ONE dictionary answers -/
example : (match outs exF8 exD11 with | [.bool true, .default] => true | _ => false) = true ∧
    (match Spec.outs [] (fcfg exF8) exD11 with | [.bool true, .val (.int 7)] => true | _ => false) = true := by
  decide +kernel

def exD11Set : List Cache.Op := [ .set toyV 0 (.int 1) (.int 7) none false .null ]

theorem frf_lit1 :
    (match (exF8.run exD11Set).shards[routeK (exF8.run exD11Set) (.real 0x3ff0000000000000, true)]? with
      | some s => s.selKey (.real 0x3ff0000000000000) true
      | none => none) = none := by decide +kernel

theorem frf_lit2 :
    ((Spec.run [] (fcfg exF8) exD11Set).get (.real 0x3ff0000000000000, true)).map (·.expT) = some none := by
  decide +kernel

/-- The relation on ALL keys cannot be kept under a routing hypothesis that only speaks about the
keys of the history and of the dictionary: after
`cache[1] = 7` on 8 shards the dictionary binds the key `1.0` too (it IS the key `1`), but the
shard of `1.0` holds nothing.  Hence the two forms proved above: the relation on all keys under
`RouteOK f (histKeys …) (fun _ => True)` (`frun_refines`), or the relation on a set of keys `V`
under `RouteOK f (histKeys …) V` (`frun_refines_on`, `frun_refines_hist`). -/
theorem frun_refines_literal_fails :
    ∃ (f : Fanout) (ops : List Cache.Op), FGood f ∧ FRefines f [] 0 ∧ (∀ op ∈ ops, Keyed op = true) ∧
      Monotone 0 ops ∧ RouteOK f (keysOf f [] ops) (keysOf f [] ops) ∧
      ¬ ∃ clock', FRefines (f.run ops) (Spec.run [] (fcfg f) ops) clock' := by
  refine ⟨exF8, exD11Set, fgood_init 8 _ false (by decide) rfl (by decide),
    frefines_init 8 _ false (by decide) 0, by decide, by decide +kernel, ?_, ?_⟩
  · have key : ∀ K, keysOf exF8 [] exD11Set K → K = keyOf toyV (fcfg exF8) (.int 1) := by
      rintro K (⟨op, hop, E, k, hkey, rfl⟩ | ⟨p, hp, -⟩)
      · simp only [exD11Set, List.mem_singleton] at hop
        subst hop
        simp only [frf_opKey, Option.some.injEq, Prod.mk.injEq] at hkey
        obtain ⟨rfl, rfl⟩ := hkey
        rfl
      · cases hp
    intro a b ha hb _
    rw [key a ha, key b hb]
  · rintro ⟨c', h⟩
    have h2 := frf_lit2
    -- the dictionary stays a variable: `frf_RefinesAt` on the concrete one would be evaluated
    generalize Spec.run [] (fcfg exF8) exD11Set = m at h h2
    obtain ⟨s, hs, hat⟩ := h.2 (.real 0x3ff0000000000000, true) trivial
    have h1 := frf_lit1
    rw [hs] at h1
    unfold frf_RefinesAt at hat
    cases hd : m.get (.real 0x3ff0000000000000, true) with
    | none => rw [hd] at h2; cases h2
    | some e =>
      rw [hd] at h2 hat
      rcases hat with ⟨r, hr, -⟩ | ⟨-, hx⟩
      · rw [show s.selKey _ _ = none from h1] at hr
        cases hr
      · rw [Entry.expired, show e.expT = none from Option.some.inj h2] at hx
        cases hx

/-! ### non-vacuity: three shards -/

def exF3 : Fanout := Fanout.init 3 { policy := .none } false

/-- the keys `a`, `b`, `c` live on the shards 1, 0, 2 -/
example : [PyVal.str [97], .str [98], .str [99]].map (fun k => exF3.route toyV k) = [1, 0, 2] := by
  decide +kernel

/-- a history over three keys on three shards: set with ttl, incr, get with expiry time, add on a
live and on an expired item, a missing key, touch, expire, pop with tag, evict, delete, clear -/
def exOps3 : List Cache.Op :=
  [ .set toyV 10 (.str [97]) (.int 7) (some 5) false .null,
    .set toyV 10 (.str [98]) (.int 20) none false (.text [116]),
    .set toyV 11 (.str [99]) (.str [120]) (some 100) false (.text [117]),
    .incr toyV 12 (.str [97]) 1 none,
    .get toyV 14 (.str [97]) false true false,
    .add toyV 14 (.str [97]) (.int 1) none false (.text [116]),
    .add toyV 20 (.str [97]) (.int 1) (some 3) false (.text [116]),
    .get toyV 20 (.str [100]) false false false,
    .touch toyV 21 (.str [97]) none,
    .contains toyV 21 (.str [99]),
    .expire 30,
    .pop toyV 31 (.str [97]) false true,
    .evict (.text [116]),
    .get toyV 32 (.str [98]) false false false,
    .get toyV 32 (.str [99]) false false true,
    .delete toyV 33 (.str [99]),
    .delitem toyV 33 (.str [99]),
    .cull 40,
    .clear ]

example : outs exF3 exOps3 = Spec.outs [] (fcfg exF3) exOps3 ∧
    ∃ clock', FRefines (exF3.run exOps3) (Spec.run [] (fcfg exF3) exOps3) clock' :=
  frun_refines_nonnumeric exF3 [] 0 exOps3 (fgood_init 3 _ false (by decide) rfl (by decide))
    (frefines_init 3 _ false (by decide) 0) (by decide) (by decide +kernel) (by decide +kernel)

/-- what the three shards (and the one dictionary) return along that history -/
example : outs exF3 exOps3 =
    [.bool true, .bool true, .bool true, .int 8, .tup [.val (.int 8), .time (some 15)], .bool false,
     .bool true, .default, .bool true, .bool true, .none,
     .tup [.val (.int 1), .sql (.text [116])], .none, .default,
     .tup [.val (.str [120]), .sql (.text [117])], .bool true, .exc "KeyError", .none, .none] :=
  (frun_refines_nonnumeric exF3 [] 0 exOps3 (fgood_init 3 _ false (by decide) rfl (by decide))
    (frefines_init 3 _ false (by decide) 0) (by decide) (by decide +kernel) (by decide +kernel)).1.trans
    (by rfl)

/-- integer keys on 8 shards (the shards of 1, 2, 9 are 1, 2, 1): histories without float keys -/
def exOpsInt : List Cache.Op :=
  [ .set toyV 0 (.int 1) (.int 7) none false .null,
    .set toyV 0 (.int 2) (.int 8) (some 5) false .null,
    .add toyV 1 (.int 9) (.int 9) none false .null,
    .get toyV 2 (.int 1) false false false,
    .incr toyV 3 (.int 2) 1 none,
    .get toyV 6 (.int 2) false false false,
    .pop toyV 7 (.int 9) false false,
    .expire 8 ]

example : outs exF8 exOpsInt = Spec.outs [] (fcfg exF8) exOpsInt ∧
    ∃ clock', FRefinesOn (fun k => notReal k = true) (exF8.run exOpsInt)
      (Spec.run [] (fcfg exF8) exOpsInt) clock' :=
  frun_refines_no_float exF8 [] 0 exOpsInt (fgood_init 8 _ false (by decide) rfl (by decide))
    ((frefines_init 8 _ false (by decide) 0).mono (fun _ _ => trivial)) (by decide)
    (by decide +kernel) (by decide +kernel)

end DC.Fanout
