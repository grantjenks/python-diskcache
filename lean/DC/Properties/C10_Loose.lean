/-
C10 — the regime `cull_limit > 0` with expiry times on pushed items (outside
`qrun_refines`, see `qrun_needs_quiet`): what still holds.

In that regime the lazy cull of ANY write (`_cull`: up to `cull_limit` expired rows, ordered by
expiry time, ties by rowid) may remove expired queue rows, and the key the next `push` hands out
(`last physical key + 1`) depends on which ones it removed: a key can be handed out twice, so the
cache does not refine `QSpec` there.  What does hold:

 (1) `cull_keeps_live_queue` (every table, every clock, every `cull_limit`): without
     size-based eviction the lazy cull removes only EXPIRED rows from every queue and keeps the
     order of the others — no live item is lost or reordered by it.  With C08/C03_Inv (`KeysUnique`:
     a key is stored at most once) and `pull_front` / `pull_back` (C10.lean: a pull deletes the row
     it returns) no item is returned twice.
 (2) `pull_insensitive`, `peek_insensitive` (pure `QSpec`): the result of `pull` / `peek`
     and the live content they leave do not depend on which expired items were already removed —
     if one queue is the other without some items expired at `now`, both calls return the same, and
     the queues afterwards are again related in that way.
 (3) The history-level statement these two are the ingredients of is proved in
     DC/Properties/C10_LooseRefine.lean (`qrun_loose`): the reference takes the number of each
     pushed item from the cache's answer (`QSpec.pushAt`), the states are related by "for every
     prefix the cache's queue is the reference's queue `Thinned`" (`QLoose`, the queue analogue of
     `Refines`), and for EVERY history of the covered calls under `policy = none` — any
     `cull_limit`, any ttl ≥ 0 — every call returns what that reference returns.
-/
import DC.Properties.C10_History

namespace DC.QSpec

/-! ### (2) `pull` / `peek` do not depend on which expired items are already gone -/

theorem pull_insensitive (q q' : State) (E : Externals) (cfg : Cfg) (now : Int) (p : Option Str)
    (front et tg : Bool) (h : Thinned now (q'.queues.get p) (q.queues.get p)) :
    (pull q' E cfg now p front et tg).2 = (pull q E cfg now p front et tg).2 ∧
    Thinned now ((pull q' E cfg now p front et tg).1.queues.get p) ((pull q E cfg now p front et tg).1.queues.get p) := by
  obtain ⟨h1, -, h3⟩ := thinned_pull_core now front h
  rw [pull_eq, pull_eq]
  refine ⟨by unfold endResult; rw [h1], ?_⟩
  show Thinned now ((q'.queues.put p _).get p) ((q.queues.put p _).get p)
  rw [get_put, get_put, if_pos rfl, if_pos rfl]; exact h3

theorem peek_insensitive (q q' : State) (E : Externals) (cfg : Cfg) (now : Int) (p : Option Str)
    (front et tg : Bool) (h : Thinned now (q'.queues.get p) (q.queues.get p)) :
    (peek q' E cfg now p front et tg).2 = (peek q E cfg now p front et tg).2 ∧
    Thinned now ((peek q' E cfg now p front et tg).1.queues.get p) ((peek q E cfg now p front et tg).1.queues.get p) := by
  obtain ⟨h1, h2, -⟩ := thinned_pull_core now front h
  rw [peek_eq, peek_eq]
  refine ⟨by unfold endResult; rw [h1], ?_⟩
  show Thinned now ((q'.queues.put p _).get p) ((q.queues.put p _).get p)
  rw [get_put, get_put, if_pos rfl, if_pos rfl]; exact h2

end DC.QSpec

namespace DC.Cache
open DC.Spec DC.QSpec

/-! ### (1) the lazy cull keeps the live items of every queue, in order -/

/-- without size-based eviction, the lazy cull of a write (`_cull`, any `cull_limit`) leaves every
queue as it was minus rows that are expired at `now`: nothing live is lost, the order is kept -/
theorem cull_keeps_live_queue (t : Cache) (now : Int) (hi : TableInv t) (hp : t.cfg.policy = .none) :
    ∃ g : Row → Bool, (∀ x, g x = false → expired now x = true) ∧
      ∀ p, (t.cullW now).1.queueRows p = (t.queueRows p).filter g := by
  refine ⟨fun r => decide (r ∉ t.selExpired now t.cfg.cullLimit), ?_, ?_⟩
  · intro x hx
    simp only [decide_eq_false_iff_not, Decidable.not_not] at hx
    exact (selExpired_mem hx).2
  · intro p
    rw [queueRows_eq, qr_cullW_none t now hi.tbl.asc hp, qrows_filter hi.tbl.uniq hi.tbl.nonnull, queueRows_eq]

end DC.Cache
