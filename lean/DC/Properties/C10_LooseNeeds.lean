/-
C10 (loose refinement) — `PushTtlOk` (no negative ttl on a push) is NEEDED by `qrun_loose`
as it is stated: `qrun_loose_needs_ttl`.

`cull_limit = 1`.  `set(k, 0)` at time 0; at time 10 `push(1, expire=-5)` — the item is born
expired and the push's own lazy cull removes it at once —; `touch(k, expire=-20)` makes `k` an
expired row with an earlier expiry time (`touch` does not cull); a second `push(1, expire=-5)`
finds the queue physically empty, hands out the first number AGAIN, and its lazy cull removes `k`
instead of the new item.  The cache's queue now holds ONE item; every reference run that agrees
on the results holds TWO items that are EQUAL (same number after the key reuse, same stored value,
same expiry time 5, same tag), one of which the cache no longer has.  `Thinned` selects by value
and cannot keep one of two equal items: `QLoose` fails.  (This is a limit of the relation, not of
the code: the live content agrees — both items are expired.  With `PushTtlOk` an item pushed is
not expired at its push, so it is never equal to a removed one.)
-/
import DC.Properties.C10_LooseRefine

namespace DC.Cache
open DC.Spec DC.QSpec

def exTtlCache : Cache := { cfg := { policy := .none, cullLimit := 1 } }

def exTtlOps : List Op :=
  [ .set toyV 0 (.str [107]) (.int 0) none false .null,
    .push toyV 10 (.int 1) none true (some (-5)) false .null,
    .touch toyV 10 (.str [107]) (some (-20)),
    .push toyV 10 (.int 1) none true (some (-5)) false .null ]

def exTtlEntry : Spec.Entry := { mode := 1, val := .int 1, content := none, expT := some 5, tag := .null }

theorem exTtl_cache_queue :
    absQueue (exTtlCache.run exTtlOps) none = [⟨500000000000000, exTtlEntry⟩] := by decide +kernel

theorem exTtl_cache_outs : (match outs exTtlCache exTtlOps with
    | [.bool true, .val (.int 500000000000000), .bool true, .val (.int 500000000000000)] => true
    | _ => false) = true := by decide +kernel

theorem exTtl_pushAt (q : QSpec.State) (b : Int) :
    QSpec.pushAt q toyV exTtlCache.cfg 10 (.int 1) none true (some (-5)) false .null b =
      if inI64 b then
        ({ q with queues := q.queues.put none (q.queues.get none ++ [⟨b, exTtlEntry⟩]) }, .val (.int b))
      else (q, .exc "UnicodeEncodeError") := rfl

theorem exTtl_ref_outs (a b c d : Int) :
    QSpec.outsAt {} exTtlCache.cfg (exTtlOps.zip [a, b, c, d]) =
      [.bool true, (if inI64 b then .val (.int b) else .exc "UnicodeEncodeError"), .bool true,
       (if inI64 d then .val (.int d) else .exc "UnicodeEncodeError")] ∧
    (QSpec.runAt {} exTtlCache.cfg (exTtlOps.zip [a, b, c, d])).queues.get none =
      (if inI64 b then [⟨b, exTtlEntry⟩] else []) ++ (if inI64 d then [⟨d, exTtlEntry⟩] else []) := by
  cases hb : inI64 b <;> cases hd : inI64 d <;>
    simp only [exTtlOps, List.zip_cons_cons, List.zip_nil_right, QSpec.outsAt, QSpec.runAt, List.foldl_cons,
      List.foldl_nil, QSpec.stepAt, exTtl_pushAt, hb, hd, if_true, Bool.false_eq_true, if_false] <;>
    exact ⟨rfl, rfl⟩

theorem exTtl_num {b : Int} {N : Int}
    (he : Out.val (.int N) = (if inI64 b then Out.val (.int b) else .exc "UnicodeEncodeError")) :
    b = N ∧ inI64 b = true := by
  cases hb : inI64 b with
  | false => rw [hb] at he; simp at he
  | true =>
    rw [hb] at he
    simp only [if_true] at he
    injection he with he
    injection he with he
    exact ⟨he.symm, rfl⟩

/-- **`PushTtlOk` is needed** by `qrun_loose` as stated: every other hypothesis holds for this
history (with two pushes of ttl `-5`), and its conclusion is false -/
theorem qrun_loose_needs_ttl :
    ∃ (c : Cache) (q : QSpec.State) (ops : List Op),
      QOkL c (0 + pushCosts ops) ∧ QLoose c q 0 ∧
      (∀ op ∈ ops, QSpec.Covered op = true) ∧ (∀ op ∈ ops, QSpec.Ordinary c.cfg op = true) ∧
      Monotone 0 ops ∧
      ¬ ∃ ns : List Int, ns.length = ops.length ∧
        outs c ops = QSpec.outsAt q c.cfg (ops.zip ns) ∧
        (∃ clock', QLoose (c.run ops) (QSpec.runAt q c.cfg (ops.zip ns)) clock') ∧
        QSpec.FreshRun q c.cfg (ops.zip ns) := by
  refine ⟨exTtlCache, {}, exTtlOps, (qok_init _ _ _ rfl (by decide) (by decide) (by decide)).toL,
    (qrefines_init _ _ 0).loose, by decide, by decide +kernel, by decide +kernel, ?_⟩
  rintro ⟨ns, hlen, houts, ⟨clock', hL⟩, -⟩
  obtain ⟨a, b, c, d, rfl⟩ : ∃ a b c d, ns = [a, b, c, d] := by
    match ns, hlen with
    | [a, b, c, d], _ => exact ⟨a, b, c, d, rfl⟩
  obtain ⟨r1, r2⟩ := exTtl_ref_outs a b c d
  rw [r1] at houts
  have hc := exTtl_cache_outs
  split at hc
  · rename_i heq
    rw [heq] at houts
    simp only [List.cons.injEq, and_true, true_and] at houts
    -- both pushes were given the first number
    have hb := exTtl_num houts.1
    have hd := exTtl_num houts.2
    -- so the reference's queue holds two equal items, the cache's one of them
    have hq := hL.queues none
    rw [r2, exTtl_cache_queue, hb.2, hd.2, hb.1, hd.1] at hq
    obtain ⟨keep, e, -⟩ := hq
    simp only [if_true, List.cons_append, List.nil_append, List.filter_cons, List.filter_nil] at e
    cases hk : keep ⟨500000000000000, exTtlEntry⟩ <;> rw [hk] at e <;> simp at e
  · cases hc

end DC.Cache
