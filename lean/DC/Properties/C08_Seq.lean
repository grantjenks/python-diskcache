/-
C08 (sequential part) — after every call that runs outside a transaction block,
whether it succeeded or raised, the bookkeeping matches the content:
Settings.count = rows, Settings.size = Σ row sizes, every file-backed row refers
to an existing file of the recorded size, two rows never share a file, and no
value file exists that no row refers to.  `Good` packages this; every method
preserves it for every state, argument, clock value and observation.
-/
import DC.Proofs.Files

namespace DC.Cache

theorem good_init (c : Cfg) (st : Bool) : Good ({ cfg := c, statistics := st } : Cache) := by
  apply good_of_pi (inv_init c st)
  constructor <;> simp [core]

/-- `Good` implies C08's consistency predicate (what `check()` verifies) -/
theorem good_consistent (s : Cache) (h : Good s) : Consistent s :=
  ⟨h.tinv.tbl.count, h.tinv.tbl.size, h.finv.ref, h.noOrphan⟩

theorem set_good (s : Cache) (E : Externals) (now : Int) (k v : PyVal) (ttl : Option Int) (read : Bool)
    (tag : SqlVal) (h : Good s) : Good (s.set E now k v ttl read tag).1 :=
  good_of_pi (set_inv s E now k v ttl read tag h.tinv) (set_PI s E now k v ttl read tag h.pi)

theorem add_good (s : Cache) (E : Externals) (now : Int) (k v : PyVal) (ttl : Option Int) (read : Bool)
    (tag : SqlVal) (h : Good s) : Good (s.add E now k v ttl read tag).1 := by
  apply good_of_pi (add_inv s E now k v ttl read tag h.tinv)
  have hP := h.pi
  unfold add
  generalize DC.put E s.cfg.disk k = p
  obtain ⟨dbk, raw⟩ := p
  cases hst : s.store E v read with
  | error e => exact hP
  | ok p =>
    obtain ⟨s1, c⟩ := p
    obtain ⟨hP1, hfile⟩ := store_PI hst hP
    apply transact_PI _ _ _ _ hP1.depth
    have hP2 : PI (core ((s1.log .begin).logSql "selKey")) [c.file] := by core_simp; exact hP1
    simp only [selKey_log]
    split
    · exact .inr ⟨rfl, by core_simp, hP1⟩
    split
    · rename_i r hr
      split
      · exact .inl ⟨rfl, hP2⟩
      split
      · exact .inr ⟨rfl, by core_simp, hP1⟩
      · refine .inl ⟨rfl, ?_⟩
        rw [List.append_nil]
        exact PI_updRow_cull hP2 hfile (by rfl) (by rfl) (selKey_mem hr) now
    · split
      · exact .inr ⟨rfl, by core_simp, hP1⟩
      · refine .inl ⟨rfl, ?_⟩
        rw [List.append_nil]
        exact PI_insRow_cull hP2 hfile (by rfl) (by rfl) dbk raw now

theorem touch_good (s : Cache) (E : Externals) (now : Int) (k : PyVal) (ttl : Option Int)
    (h : Good s) : Good (s.touch E now k ttl).1 := by
  apply good_of_pi (touch_inv s E now k ttl h.tinv)
  have hP := h.pi
  unfold touch
  simp only
  apply transact_PI _ _ _ _ h.depth
  left
  simp only [selKey_log]
  split
  · split
    · exact ⟨rfl, by apply PI_updExp; core_simp; exact hP⟩
    · exact ⟨rfl, by core_simp; exact hP⟩
  · exact ⟨rfl, by core_simp; exact hP⟩

theorem incr_good (s : Cache) (E : Externals) (now : Int) (k : PyVal) (delta : Int) (dflt : Option Int)
    (h : Good s) : Good (s.incr E now k delta dflt).1 := by
  apply good_of_pi (incr_inv s E now k delta dflt h.tinv)
  have hP := h.pi
  have hP0 : PI (core ((s.log .begin).logSql "selKey")) [] := hP
  rw [incr_eq]
  apply transact_PI _ _ _ _ h.depth
  rcases incrBody_exits E _ _ now delta dflt (s.log .begin) _ rfl with
    ⟨hok, tr, e⟩ | ⟨r, v, -, hok, ecl, e⟩ | ⟨v, s1, c, hst, hok, ⟨-, e, ecl⟩ | ⟨r, hr, e, ecl⟩⟩
  · exact .inr ⟨hok, by rw [e]; rfl, hP.cl_congr (by simp)⟩
  · exact .inl ⟨hok, by rw [e, ecl]; exact PI_updIncr hP0 _ _ _⟩
  · obtain ⟨hP1, hfile⟩ := store_PI hst hP0
    refine .inl ⟨hok, ?_⟩
    rw [e, ecl, regCreated_zero s1 c.file hP1.depth, List.append_nil]
    exact PI_insRow_cull hP1 hfile rfl rfl _ _ now
  · obtain ⟨hP1, hfile⟩ := store_PI hst hP0
    have hr1 : r ∈ s1.rows := by rw [(store_keep hst).1]; exact selKey_mem hr
    refine .inl ⟨hok, ?_⟩
    rw [e, ecl, regCreated_zero s1 c.file hP1.depth]
    exact (PI_updRow_cull hP1 hfile rfl rfl hr1 now).cl_congr (by intro f; simp [or_comm])

theorem get_good (s : Cache) (E : Externals) (now : Int) (k : PyVal) (read et tg : Bool)
    (h : Good s) : Good (s.get E now k read et tg).1 := by
  apply good_of_pi (get_inv s E now k read et tg h.tinv)
  rw [get_eq]
  split
  · obtain ⟨tr, e⟩ := getFast_fst E _ _ now read et tg s
    rw [e]
    exact h.pi
  · refine transact_PI _ _ _ _ h.depth (.inl ?_)
    obtain ⟨hok, hcl, tr, hh, m, e | ⟨id, e⟩⟩ := getBody_exits E _ _ now read et tg (s.log .begin) <;>
      refine ⟨hok, ?_⟩ <;> rw [e, hcl]
    · exact h.pi
    · exact PI_updGet (s := { s with trace := tr, hits := hh, misses := m }) h.pi _ _

theorem pop_good (s : Cache) (E : Externals) (now : Int) (k : PyVal) (et tg : Bool)
    (h : Good s) : Good (s.pop E now k et tg).1 := by
  exact good_of_pi (pop_inv s E now k et tg h.tinv) (pop_keeps queueSteps_PI E now k et tg h.pi)

theorem delitem_good (s : Cache) (E : Externals) (now : Int) (k : PyVal)
    (h : Good s) : Good (s.delitem E now k).1 := by
  apply good_of_pi (delitem_inv s E now k h.tinv)
  have hP := h.pi
  unfold delitem
  simp only
  apply transact_PI _ _ _ _ h.depth
  simp only [selLive_log]
  split
  · right
    exact ⟨rfl, rfl, hP.cl_congr (by simp)⟩
  · rename_i r hr
    left
    refine ⟨rfl, ?_⟩
    have := PI_delRow (s := (s.log .begin).logSql "selLive") (cl := []) (by core_simp; exact hP) r (selLive_mem hr)
    simpa using this

theorem delete_good (s : Cache) (E : Externals) (now : Int) (k : PyVal)
    (h : Good s) : Good (s.delete E now k).1 := by
  rw [delete_fst]; exact delitem_good s E now k h

theorem push_good (s : Cache) (E : Externals) (now : Int) (v : PyVal) (pfx : Option Str) (back : Bool)
    (ttl : Option Int) (read : Bool) (tag : SqlVal) (h : Good s) :
    Good (s.push E now v pfx back ttl read tag).1 := by
  apply good_of_pi (push_inv s E now v pfx back ttl read tag h.tinv)
  have hP := h.pi
  unfold push
  cases hst : s.store E v read with
  | error e => exact hP
  | ok p =>
    obtain ⟨s1, c⟩ := p
    obtain ⟨hP1, hfile⟩ := store_PI hst hP
    apply transact_PI _ _ _ _ hP1.depth
    have hP2 : PI (core ((s1.log .begin).logSql "selQueueEnd")) [c.file] := by core_simp; exact hP1
    simp only
    split
    · exact .inr ⟨rfl, by core_simp, hP1⟩
    split
    · exact .inr ⟨rfl, by core_simp, hP1⟩
    split
    · exact .inr ⟨rfl, by core_simp, hP1⟩
    · refine .inl ⟨rfl, ?_⟩
      rw [List.append_nil]
      exact PI_insRow_cull hP2 hfile (by rfl) (by rfl) _ true now

theorem pull_good (s : Cache) (E : Externals) (now : Int) (pfx : Option Str) (front et tg : Bool)
    (h : Good s) : Good (s.pull E now pfx front et tg).1 :=
  good_of_pi (pull_inv s E now pfx front et tg h.tinv) (pullLoop_PI _ _ _ _ _ _ _ _ h.pi)

theorem peek_good (s : Cache) (E : Externals) (now : Int) (pfx : Option Str) (front et tg : Bool)
    (h : Good s) : Good (s.peek E now pfx front et tg).1 :=
  good_of_pi (peek_inv s E now pfx front et tg h.tinv) (peekLoop_PI _ _ _ _ _ _ _ _ h.pi)

theorem peekitem_good (s : Cache) (E : Externals) (now : Int) (last et tg : Bool)
    (h : Good s) : Good (s.peekitem E now last et tg).1 :=
  good_of_pi (peekitem_inv s E now last et tg h.tinv) (peekitemLoop_keeps queueSteps_PI _ _ _ _ _ _ h.pi)

theorem clear_good (s : Cache) (h : Good s) : Good (s.clear).1 := by
  apply good_of_pi (clear_inv s h.tinv)
  unfold clear; simp only
  exact clearLoop_keeps pageStep_PI _ _ _ h.pi

theorem evict_good (s : Cache) (tag : SqlVal) (h : Good s) : Good (s.evict tag).1 := by
  apply good_of_pi (evict_inv s tag h.tinv)
  unfold evict; simp only
  exact evictLoop_keeps pageStep_PI _ _ _ _ h.pi

theorem expire_good (s : Cache) (now : Int) (h : Good s) : Good (s.expire now).1 := by
  apply good_of_pi (expire_inv s now h.tinv)
  unfold expire; simp only
  exact expireLoop_keeps pageStep_PI _ _ _ _ h.pi

theorem cull_good (s : Cache) (now : Int) (h : Good s) : Good (s.cull now).1 := by
  apply good_of_pi (cull_inv s now h.tinv)
  unfold cull
  simp only
  split
  · exact expireLoop_keeps pageStep_PI _ _ _ _ h.pi
  · exact cullLoop_PI _ _ _ (expireLoop_keeps pageStep_PI _ _ _ _ h.pi)

/-- the block brackets alone: an empty block, committed or rolled back, is `Good` again.  A block
with calls inside needs a side condition on its last state (finding D9b): C08_Blocks.lean -/
theorem tbegin_tend_good (s : Cache) (h : Good s) : Good s.tbegin.tend := by
  apply good_of_pi (tend_inv _ (tbegin_inv _ h.tinv))
  have hP := h.pi
  have : core s.tbegin.tend = core s := by
    unfold tbegin tend
    simp [h.depth, fremoveAll, core, log, h.snap, h.pending, h.created]
  rw [this]; exact hP

theorem tbegin_traise_good (s : Cache) (h : Good s) : Good (s.tbegin.traise 1) := by
  apply good_of_pi (traise_inv _ _ (tbegin_inv _ h.tinv))
  have hP := h.pi
  have : core (s.tbegin.traise 1) = core s := by
    unfold tbegin traise
    simp [h.depth, fremoveAll, core, log, h.snap, h.pending, h.created, restore, takeSnap]
  rw [this]; exact hP

end DC.Cache
