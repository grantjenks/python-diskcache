/-
C10 (refinement) — the Cache model refines the reference of DC/Model/QSpec.lean, "a
family of double-ended queues, one per prefix, next to a dictionary": for every
history of push / pull / peek calls on any prefixes and sides, mixed with
key-addressed calls on keys outside the queue key ranges and with the bulk
removals, every call returns what the reference returns, and the final states
correspond (`qrun_refines`; `qrun_refines_partial` is its restriction to the calls of `QProved`,
that is, without add / touch / incr).

Definitions used in the statements (DC/Proofs/QRefineDefs.lean):
 * `QRefines c q clock`: for EVERY prefix the rows of `c.queueRows p` denote, in key order, exactly
   the items of the specification's queue; the dictionary part is related as in C03_Refine
   (`Refines`) on the keys that are not queue keys.
 * `QOk c n`: the budgeted invariant.  `n` bounds the number of further `push` calls: the queue
   keys have 15 digits and every push moves one step away from the origin, so every queue key
   (and the origin) must leave room for `n` steps on both sides.  `step` uses one unit per push
   (`pushCost`), nothing for the other calls.  The empty cache satisfies `QOk _ 499999999999999`
   (`qok_init`).

Hypotheses of the history theorem, and why.
 * `policy = none` (in `QOk`): no size-based eviction (that regime is C09 / C03_Lossy).
 * Expiry IS allowed, in the dictionary part without restriction; `pull` / `peek` discard expired
   items at the addressed end exactly as the code does (`peek` deletes them, too), `expire` / `cull`
   remove expired items from the queues.  But the key `push` returns depends on which expired
   rows are still physically there (`last key + 1`), so the lazy cull of the writes (`_cull`,
   up to `cull_limit` expired rows per `set` / `push`) must not remove queue rows:
   `cull_limit = 0`, or no push gives an expiry time (`hq`, and `QOk.quiet` for the rows already
   there).  `qrun_needs_quiet` is the counterexample: with `cull_limit = 10`, push(ttl) — time
   passes — set — push returns the first key again, the reference the next one.
 * `QSpec.Ordinary`: the keys of the key-addressed calls are not queue keys
   (`QSpec.isQueueKey`, decidable).  `qrun_needs_ordinary`: `set(7, 70)` and then `peek()` returns
   `(7, 70)` — an ordinary key that looks like a queue key does interfere.
 * the key budget (`QOk c (n + pushCosts ops)`); `qrun_needs_budget` shows a push beyond it.
 * `Monotone`: the clock never goes backwards (as in C03_Refine).
 * The integer results of clear / evict / expire / cull are masked on both sides (as in
   C03_Refine: they count physically stored rows).

All calls of `QSpec.Covered` are covered.  The key-addressed writes (set, add, touch, incr) leave
the queues alone by a row-level frame (`set_frame`, `add_frame`, `touch_frame`, `incr_frame`,
DC/Proofs/QRefineFrame.lean: the rows of the other keys are neither created nor altered, and not
removed when `cull_limit = 0`) combined with the view of the state (`QKeeps.of_write`); the
dictionary part is the argument of C03_Refine restricted to the ordinary keys (`rf_assemble_ord`).
Every key-addressed call is treated once, under the loose relation of C10_LooseRefine (`QLoose`,
`QOkL`), together with what it leaves of the queues (`QKeeps`); under `QOk` that is every queue
as it was (`QKeeps.refines`).
-/
import DC.Proofs.QRefinePush
import DC.Proofs.QRefineKeyed

namespace DC.Cache
open DC.Spec DC.QSpec

/-- `push`: the cache returns the key the reference returns, the states correspond afterwards,
and one unit of the key budget is used.
`hq`: the lazy cull of this write cannot remove the pushed item. -/
theorem push_qrefines (c : Cache) (q : QSpec.State) (n : Nat) (clock now : Int) (E : Externals)
    (v : PyVal) (p : Option Str) (back : Bool) (ttl : Option Int) (read : Bool) (tag : SqlVal)
    (hok : QOk c (n + 1)) (hr : QRefines c q clock) (hn : clock ≤ now)
    (hq : c.cfg.cullLimit = 0 ∨ ttl = none) :
    (c.push E now v p back ttl read tag).2 = (QSpec.push q E c.cfg now v p back ttl read tag).2 ∧
    QRefines (c.push E now v p back ttl read tag).1 (QSpec.push q E c.cfg now v p back ttl read tag).1 now ∧
    QOk (c.push E now v p back ttl read tag).1 n :=
  let h := qr_push_step c q n clock now E v p back ttl read tag hok hr hn hq
  ⟨h.1, h.2.1, h.2.2.1⟩

/-- `pull`: expired items at the addressed end are discarded, the first live one is removed and
returned — on both sides alike -/
theorem pull_qrefines (c : Cache) (q : QSpec.State) (n : Nat) (clock now : Int) (E : Externals)
    (p : Option Str) (front et tg : Bool)
    (hok : QOk c n) (hr : QRefines c q clock) (hn : clock ≤ now) :
    (c.pull E now p front et tg).2 = (QSpec.pull q E c.cfg now p front et tg).2 ∧
    QRefines (c.pull E now p front et tg).1 (QSpec.pull q E c.cfg now p front et tg).1 now ∧
    QOk (c.pull E now p front et tg).1 n :=
  let h := qr_pull_step c q n clock now E p front et tg hok hr hn
  ⟨h.1, h.2.1, h.2.2.1⟩

/-- `peek`: as `pull`, but the item returned stays (the expired ones met on the way do not) -/
theorem peek_qrefines (c : Cache) (q : QSpec.State) (n : Nat) (clock now : Int) (E : Externals)
    (p : Option Str) (front et tg : Bool)
    (hok : QOk c n) (hr : QRefines c q clock) (hn : clock ≤ now) :
    (c.peek E now p front et tg).2 = (QSpec.peek q E c.cfg now p front et tg).2 ∧
    QRefines (c.peek E now p front et tg).1 (QSpec.peek q E c.cfg now p front et tg).1 now ∧
    QOk (c.peek E now p front et tg).1 n :=
  let h := qr_peek_step c q n clock now E p front et tg hok hr hn
  ⟨h.1, h.2.1, h.2.2.1⟩

/-- `QSpec.Covered` without add, touch, incr -/
def QProved : Op → Bool
  | .push .. | .pull .. | .peek .. | .set .. | .get .. | .contains .. | .pop .. | .delitem ..
  | .delete .. | .clear | .evict .. | .expire .. | .cull .. => true
  | _ => false

def pushCost : Op → Nat
  | .push .. => 1
  | _ => 0

def pushCosts (ops : List Op) : Nat := (ops.map pushCost).sum

def PushNoTtl : Op → Bool
  | .push _ _ _ _ _ ttl _ _ => ttl.isNone
  | _ => true

theorem qproved_covered (op : Op) (h : QProved op = true) : QSpec.Covered op = true := by
  cases op <;> first | rfl | cases h

theorem qstep_refines_covered (c : Cache) (q : QSpec.State) (n : Nat) (clock : Int) (op : Op)
    (hok : QOk c (n + pushCost op)) (hr : QRefines c q clock)
    (hk : QSpec.Covered op = true) (ho : QSpec.Ordinary c.cfg op = true)
    (hq : c.cfg.cullLimit = 0 ∨ PushNoTtl op = true)
    (hm : ∀ t, opClock op = some t → clock ≤ t) :
    (if Determined op then (c.step op).2 else .none) = (QSpec.step q c.cfg op).2 ∧
    QRefines (c.step op).1 (QSpec.step q c.cfg op).1 ((opClock op).getD clock) ∧
    QOk (c.step op).1 n ∧ (c.step op).1.cfg = c.cfg := by
  revert hok hr ho hq hm
  refine covered_cases ?_ ?_ ?_ ?_ ?_ ?_ ?_ ?_ op hk
  · intro E now v p back ttl read tag hok hr _ hq hm
    have hq' : c.cfg.cullLimit = 0 ∨ ttl = none :=
      hq.imp id (fun h => by simpa only [PushNoTtl, Option.isNone_iff_eq_none] using h)
    exact qr_push_step c q n clock now E v p back ttl read tag hok hr (hm _ rfl) hq'
  · intro E now p front et tg hok hr _ _ hm
    exact qr_pull_step c q n clock now E p front et tg hok hr (hm _ rfl)
  · intro E now p front et tg hok hr _ _ hm
    exact qr_peek_step c q n clock now E p front et tg hok hr (hm _ rfl)
  · intro op hk hd hqs hok hr ho _ hm
    have hok := hok.le (Nat.le_add_right n (pushCost op))
    obtain ⟨h1, h2, h3⟩ := keyed_qkeeps c q n clock op hok.toL hr.loose hk hd ho hm
    rw [hd]
    exact ⟨h1, (h3.refines hok hr h2 (hqs q c.cfg)).1, h3.ok hok, h3.cfg⟩
  · intro hok hr _ _ _
    obtain ⟨hsh, hrows⟩ := clear_shrunk hok.toL
    exact ⟨rfl, qrefines_nil hrows clock, hok.shrunk hsh, hsh.cfg⟩
  · intro tag hok hr _ _ _
    have hsh := evict_shrunk hok.toL tag
    have h := qr_bulk hok hr (Int.le_refl _) hsh (fun e => !e.tag.eqv tag) (fun _ => rfl)
    exact ⟨rfl, h.1, h.2, hsh.cfg⟩
  · intro now hok hr _ _ hm
    have hsh := expire_shrunk hok.toL now
    have h := qr_bulk hok hr (hm _ rfl) hsh (fun e => !e.expired now) (fun _ => rfl)
    exact ⟨rfl, h.1, h.2, hsh.cfg⟩
  · intro now hok hr _ _ hm
    have hsh := cull_shrunk hok.toL now
    have h := qr_bulk hok hr (hm _ rfl) hsh (fun e => !e.expired now) (fun _ => rfl)
    exact ⟨rfl, h.1, h.2, hsh.cfg⟩

theorem qstep_refines (c : Cache) (q : QSpec.State) (n : Nat) (clock : Int) (op : Op)
    (hok : QOk c (n + pushCost op)) (hr : QRefines c q clock)
    (hk : QProved op = true) (ho : QSpec.Ordinary c.cfg op = true)
    (hq : c.cfg.cullLimit = 0 ∨ PushNoTtl op = true)
    (hm : ∀ t, opClock op = some t → clock ≤ t) :
    (if Determined op then (c.step op).2 else .none) = (QSpec.step q c.cfg op).2 ∧
    QRefines (c.step op).1 (QSpec.step q c.cfg op).1 ((opClock op).getD clock) ∧
    QOk (c.step op).1 n ∧ (c.step op).1.cfg = c.cfg :=
  qstep_refines_covered c q n clock op hok hr (qproved_covered op hk) ho hq hm

/-- the history theorem with everything the induction carries -/
theorem qrun_refines_covered_strong (c : Cache) (q : QSpec.State) (n : Nat) (clock : Int) (ops : List Op)
    (hok : QOk c (n + pushCosts ops)) (hr : QRefines c q clock)
    (hk : ∀ op ∈ ops, QSpec.Covered op = true) (ho : ∀ op ∈ ops, QSpec.Ordinary c.cfg op = true)
    (hq : c.cfg.cullLimit = 0 ∨ ∀ op ∈ ops, PushNoTtl op = true) (hm : Monotone clock ops) :
    outs c ops = QSpec.outs q c.cfg ops ∧
    QRefines (c.run ops) (QSpec.run q c.cfg ops) (lastClock clock ops) ∧
    QOk (c.run ops) n ∧ (c.run ops).cfg = c.cfg := by
  induction ops generalizing c q clock with
  | nil => exact ⟨rfl, hr, hok, rfl⟩
  | cons op ops ih =>
    have hcost : pushCosts (op :: ops) = pushCost op + pushCosts ops := by
      simp [pushCosts]
    rw [hcost, ← Nat.add_assoc, Nat.add_right_comm] at hok
    obtain ⟨hm1, hm'⟩ := (monotone_cons clock op ops).1 hm
    have hq1 : c.cfg.cullLimit = 0 ∨ PushNoTtl op = true := by
      rcases hq with h | h
      · exact .inl h
      · exact .inr (h op List.mem_cons_self)
    obtain ⟨s1, s2, s3, s4⟩ := qstep_refines_covered c q (n + pushCosts ops) clock op hok hr
      (hk op List.mem_cons_self) (ho op List.mem_cons_self) hq1 hm1
    obtain ⟨h1, h2, h3, h4⟩ := ih (c.step op).1 (QSpec.step q c.cfg op).1 ((opClock op).getD clock) s3 s2
      (fun o h => hk o (List.mem_cons_of_mem _ h))
      (fun o h => by rw [s4]; exact ho o (List.mem_cons_of_mem _ h))
      (by rw [s4]; rcases hq with h | h
          · exact .inl h
          · exact .inr (fun o ho' => h o (List.mem_cons_of_mem _ ho')))
      hm'
    rw [s4] at h1 h2 h4
    refine ⟨?_, ?_, h3, h4⟩
    · show _ :: _ = _ :: _
      rw [s1, h1]
    · rw [run_cons, QSpec.run_cons]; exact h2

/-- **the history theorem**.
For every history of push / pull / peek calls on any prefixes and sides, mixed with the
key-addressed calls (set / add / touch / incr / get / contains / pop / del / delete) on keys that
are not queue keys and with clear / evict / expire / cull, made with a clock that never goes
backwards on a cache without size limit whose queue keys leave room for the pushes of the history:
every call returns what the family of double-ended queues next to a dictionary returns, and the
final states correspond. -/
theorem qrun_refines (c : Cache) (q : QSpec.State) (n : Nat) (clock : Int) (ops : List Op)
    (hok : QOk c (n + pushCosts ops)) (hr : QRefines c q clock)
    (hk : ∀ op ∈ ops, QSpec.Covered op = true) (ho : ∀ op ∈ ops, QSpec.Ordinary c.cfg op = true)
    (hq : c.cfg.cullLimit = 0 ∨ ∀ op ∈ ops, PushNoTtl op = true) (hm : Monotone clock ops) :
    outs c ops = QSpec.outs q c.cfg ops ∧
    ∃ clock', QRefines (c.run ops) (QSpec.run q c.cfg ops) clock' := by
  obtain ⟨h1, h2, -⟩ := qrun_refines_covered_strong c q n clock ops hok hr hk ho hq hm
  exact ⟨h1, _, h2⟩

theorem qrun_refines_strong (c : Cache) (q : QSpec.State) (n : Nat) (clock : Int) (ops : List Op)
    (hok : QOk c (n + pushCosts ops)) (hr : QRefines c q clock)
    (hk : ∀ op ∈ ops, QProved op = true) (ho : ∀ op ∈ ops, QSpec.Ordinary c.cfg op = true)
    (hq : c.cfg.cullLimit = 0 ∨ ∀ op ∈ ops, PushNoTtl op = true) (hm : Monotone clock ops) :
    outs c ops = QSpec.outs q c.cfg ops ∧
    QRefines (c.run ops) (QSpec.run q c.cfg ops) (lastClock clock ops) ∧
    QOk (c.run ops) n ∧ (c.run ops).cfg = c.cfg :=
  qrun_refines_covered_strong c q n clock ops hok hr (fun op h => qproved_covered op (hk op h)) ho hq hm

theorem qrun_refines_partial (c : Cache) (q : QSpec.State) (n : Nat) (clock : Int) (ops : List Op)
    (hok : QOk c (n + pushCosts ops)) (hr : QRefines c q clock)
    (hk : ∀ op ∈ ops, QProved op = true) (ho : ∀ op ∈ ops, QSpec.Ordinary c.cfg op = true)
    (hq : c.cfg.cullLimit = 0 ∨ ∀ op ∈ ops, PushNoTtl op = true) (hm : Monotone clock ops) :
    outs c ops = QSpec.outs q c.cfg ops ∧
    ∃ clock', QRefines (c.run ops) (QSpec.run q c.cfg ops) clock' :=
  qrun_refines c q n clock ops hok hr (fun op h => qproved_covered op (hk op h)) ho hq hm

theorem queueRows_nil (c : Cache) (h : c.rows = []) (p : Option Str) : c.queueRows p = [] := by
  rw [queueRows_eq, h]; rfl

theorem qrefines_init (cf : Cfg) (st : Bool) (clock : Int) :
    QRefines ({ cfg := cf, statistics := st } : Cache) {} clock :=
  ⟨fun _ => rfl, rf_wf_nil, (fun _ h => by cases h), fun _ _ => rfl⟩

/-- the empty cache satisfies the invariant with every budget the origin leaves room for: with
the origin of core.py (500000000000000), `n ≤ 499999999999999` -/
theorem qok_init (cf : Cfg) (st : Bool) (n : Nat) (hp : cf.policy = .none) (hpg : 0 < cf.page)
    (ho : 1 ≤ cf.qorigin ∧ cf.qorigin ≤ 999999999999998)
    (hn : n ≤ cf.qorigin ∧ cf.qorigin + n ≤ 999999999999999) :
    QOk ({ cfg := cf, statistics := st } : Cache) n :=
  ⟨good_init cf st, hp, hpg, (fun _ _ h => by cases h), (fun _ _ h => by cases h), ho, hn,
    (fun _ _ h => by cases h), .inr (fun _ _ h => by cases h)⟩

/-- **what a user sees** on a fresh cache without size limit (default origin): any history of the
covered calls with at most 499999999999999 pushes returns, call by call, what the family of
queues next to a dictionary returns -/
theorem queues_after_history_covered (cf : Cfg) (st : Bool) (ops : List Op)
    (hp : cf.policy = .none) (hpg : 0 < cf.page) (hor : cf.qorigin = 500000000000000)
    (hb : pushCosts ops ≤ 499999999999999)
    (hk : ∀ op ∈ ops, QSpec.Covered op = true) (ho : ∀ op ∈ ops, QSpec.Ordinary cf op = true)
    (hq : cf.cullLimit = 0 ∨ ∀ op ∈ ops, PushNoTtl op = true) (hm : Monotone 0 ops) :
    outs ({ cfg := cf, statistics := st } : Cache) ops = QSpec.outs {} cf ops :=
  (qrun_refines _ {} 0 0 ops
    (by rw [Nat.zero_add]; exact qok_init cf st _ hp hpg (by omega) (by omega))
    (qrefines_init cf st 0) hk ho hq hm).1

theorem queues_after_history (cf : Cfg) (st : Bool) (ops : List Op)
    (hp : cf.policy = .none) (hpg : 0 < cf.page) (hor : cf.qorigin = 500000000000000)
    (hb : pushCosts ops ≤ 499999999999999)
    (hk : ∀ op ∈ ops, QProved op = true) (ho : ∀ op ∈ ops, QSpec.Ordinary cf op = true)
    (hq : cf.cullLimit = 0 ∨ ∀ op ∈ ops, PushNoTtl op = true) (hm : Monotone 0 ops) :
    outs ({ cfg := cf, statistics := st } : Cache) ops = QSpec.outs {} cf ops :=
  queues_after_history_covered cf st ops hp hpg hor hb (fun op h => qproved_covered op (hk op h)) ho hq hm

/-- `peek` returns what the next `pull` from that side would return — after any history -/
theorem peek_is_next_pull_after_history (c : Cache) (q : QSpec.State) (n : Nat) (clock now : Int)
    (E : Externals) (p : Option Str) (front et tg : Bool)
    (hok : QOk c n) (hr : QRefines c q clock) (hn : clock ≤ now) :
    (c.peek E now p front et tg).2 = (c.pull E now p front et tg).2 := by
  rw [(peek_qrefines c q n clock now E p front et tg hok hr hn).1,
    (pull_qrefines c q n clock now E p front et tg hok hr hn).1, peek_eq, pull_eq]

/-- … and a `pull` right after the `peek` (same clock) returns that item: `peek` removes
nothing but expired items -/
theorem pull_after_peek (c : Cache) (q : QSpec.State) (n : Nat) (clock now : Int)
    (E : Externals) (p : Option Str) (front et tg : Bool)
    (hok : QOk c n) (hr : QRefines c q clock) (hn : clock ≤ now) :
    ((c.peek E now p front et tg).1.pull E now p front et tg).2 = (c.peek E now p front et tg).2 := by
  obtain ⟨h1, h2, h3⟩ := peek_qrefines c q n clock now E p front et tg hok hr hn
  have hcfg := (qr_peek_step c q n clock now E p front et tg hok hr hn).2.2.2
  rw [(pull_qrefines _ _ n now now E p front et tg h3 h2 (Int.le_refl _)).1, hcfg, h1]
  rw [pull_eq, peek_eq]
  show endResult _ _ _ _ _ _ (trim now front ((q.queues.put p _).get p)) = _
  rw [get_put, if_pos rfl]
  unfold trim
  rw [trimBy_idem]

/-! ### non-vacuity and the counterexamples for the hypotheses -/

def exQCache : Cache := { cfg := { policy := .none, cullLimit := 0 } }

/-- two queues whose prefixes extend one another (`"u"` and `"u-5"`), the integer queue, an
ordinary key with an expiry time, items with expiry times discarded by `peek` / `pull` / `expire`,
pulls from both sides -/
def exQOps : List Op :=
  [ .push toyV 10 (.int 1) none true none false .null,
    .push toyV 10 (.int 2) none true (some 3) false .null,
    .push toyV 11 (.str [97]) none false none false (.text [116]),
    .push toyV 11 (.int 7) (some [117]) true none false .null,
    .push toyV 12 (.int 8) (some [117, 45, 53]) false none false .null,
    .set toyV 12 (.str [120]) (.int 100) (some 3) false .null,
    .peek toyV 13 none true false false,
    .peek toyV 13 none false true true,
    .pull toyV 14 none false false false,
    .pull toyV 14 none true false true,
    .get toyV 14 (.str [120]) false false false,
    .pull toyV 14 (some [117]) true false false,
    .pull toyV 14 (some [117]) true false false,
    .peek toyV 15 (some [117, 45, 53]) false false false,
    .get toyV 16 (.str [120]) false false false,
    .push toyV 17 (.int 3) none true (some 1) false .null,
    .expire 20,
    .push toyV 20 (.int 4) none true none false .null,
    .pull toyV 21 none true false false,
    .pull toyV 21 none true false false,
    .clear ]

example : outs exQCache exQOps = QSpec.outs {} exQCache.cfg exQOps ∧
    ∃ clock', QRefines (exQCache.run exQOps) (QSpec.run {} exQCache.cfg exQOps) clock' :=
  qrun_refines_partial exQCache {} 0 0 exQOps
    (qok_init _ _ _ rfl (by decide) (by decide) (by decide)) (qrefines_init _ _ 0)
    (by decide) (by decide +kernel) (.inl rfl) (by decide +kernel)

/-- what the reference returns along that history -/
example : (match (QSpec.outs {} exQCache.cfg exQOps).take 6 with
    | [.val (.int 500000000000000), .val (.int 500000000000001), .val (.int 499999999999999),
       .val (.str [117, 45, 53, 48, 48, 48, 48, 48, 48, 48, 48, 48, 48, 48, 48, 48, 48]),
       .val (.str [117, 45, 53, 45, 53, 48, 48, 48, 48, 48, 48, 48, 48, 48, 48, 48, 48, 48, 48]),
       .bool true] => true
    | _ => false) = true := by
  decide +kernel

example : (match ((QSpec.outs {} exQCache.cfg exQOps).drop 6).take 5 with
    | [.tup [.val (.int 499999999999999), .val (.str [97])],
       .tup [.tup [.val (.int 500000000000001), .val (.int 2)], .time (some 13), .sql .null],
       .tup [.val (.int 500000000000000), .val (.int 1)],
       .tup [.tup [.val (.int 499999999999999), .val (.str [97])], .sql (.text [116])],
       .val (.int 100)] => true
    | _ => false) = true := by
  decide +kernel

example : (match ((QSpec.outs {} exQCache.cfg exQOps).drop 11).take 4 with
    | [.tup [.val (.str [117, 45, 53, 48, 48, 48, 48, 48, 48, 48, 48, 48, 48, 48, 48, 48, 48]), .val (.int 7)],
       .default,
       .tup [.val (.str [117, 45, 53, 45, 53, 48, 48, 48, 48, 48, 48, 48, 48, 48, 48, 48, 48, 48, 48]), .val (.int 8)],
       .default] => true
    | _ => false) = true := by
  decide +kernel

example : (match (QSpec.outs {} exQCache.cfg exQOps).drop 15 with
    | [.val (.int 500000000000000), .none, .val (.int 500000000000000),
       .tup [.val (.int 500000000000000), .val (.int 4)], .default, .none] => true
    | _ => false) = true := by
  decide +kernel

/-- a history with `add`, `incr`, `touch` between the queue calls -/
def exQOps2 : List Op :=
  [ .push toyV 1 (.int 1) none true none false .null,
    .add toyV 2 (.str [121]) (.int 5) none false .null,
    .add toyV 2 (.str [121]) (.int 6) none false .null,
    .incr toyV 3 (.str [121]) 2 none,
    .incr toyV 3 (.str [122]) 1 (some 0),
    .touch toyV 4 (.str [121]) (some 5),
    .touch toyV 4 (.str [119]) none,
    .push toyV 5 (.int 2) (some [117]) false (some 1) false .null,
    .pull toyV 6 none true false false,
    .get toyV 6 (.str [121]) false true false,
    .peek toyV 7 (some [117]) true false false,
    .get toyV 10 (.str [121]) false false false ]

example : outs exQCache exQOps2 = QSpec.outs {} exQCache.cfg exQOps2 ∧
    ∃ clock', QRefines (exQCache.run exQOps2) (QSpec.run {} exQCache.cfg exQOps2) clock' :=
  qrun_refines exQCache {} 0 0 exQOps2
    (qok_init _ _ _ rfl (by decide) (by decide) (by decide)) (qrefines_init _ _ 0)
    (by decide) (by decide +kernel) (.inl rfl) (by decide +kernel)

example : (match QSpec.outs {} exQCache.cfg exQOps2 with
    | [.val (.int 500000000000000), .bool true, .bool false, .int 7, .int 1, .bool true, .bool false,
       .val (.str [117, 45, 53, 48, 48, 48, 48, 48, 48, 48, 48, 48, 48, 48, 48, 48, 48]),
       .tup [.val (.int 500000000000000), .val (.int 1)],
       .tup [.val (.int 7), .time (some 9)],
       .default, .default] => true
    | _ => false) = true := by
  decide +kernel

theorem ne_of_test {α} (d : α → Bool) {a b : α} (ha : d a = false) (hb : d b = true) : a ≠ b :=
  fun h => by rw [h] at ha; rw [ha] at hb; cases hb

/-- `Ordinary` is needed: an ordinary key in the key range of the integer queue is taken for a
queue item — `set(7, 70)`, then `peek()` returns `(7, 70)` where the reference has an empty queue -/
theorem qrun_needs_ordinary :
    ∃ (c : Cache) (ops : List Op), QOk c (0 + pushCosts ops) ∧ QRefines c {} 0 ∧
      (∀ op ∈ ops, QProved op = true) ∧ c.cfg.cullLimit = 0 ∧ Monotone 0 ops ∧
      outs c ops ≠ QSpec.outs {} c.cfg ops := by
  refine ⟨exQCache, [.set toyV 1 (.int 7) (.int 70) none false .null, .peek toyV 2 none true false false],
    qok_init _ _ _ rfl (by decide) (by decide) (by decide), qrefines_init _ _ 0, by decide, rfl,
    by decide +kernel, ?_⟩
  -- the cache answers `(7, 70)`, the reference the default
  exact ne_of_test (fun l => match l with | [_, .default] => true | _ => false)
    (by decide +kernel) (by decide +kernel)

/-- … with the key outside the range (`-7`) the same history agrees -/
example : (match outs exQCache [.set toyV 1 (.int (-7)) (.int 70) none false .null, .peek toyV 2 none true false false],
      QSpec.outs {} exQCache.cfg [.set toyV 1 (.int (-7)) (.int 70) none false .null, .peek toyV 2 none true false false] with
    | [.bool true, .default], [.bool true, .default] => true
    | _, _ => false) = true := by decide +kernel

/-- `hq` is needed: with `cull_limit = 10` the `set` at time 5 culls the expired item pushed at
time 0, and the next `push` gets the first key again — the reference (which keeps an expired item
until a `pull` / `peek` / `expire` meets it) gives the next key -/
theorem qrun_needs_quiet :
    ∃ (c : Cache) (ops : List Op), QOk c (0 + pushCosts ops) ∧ QRefines c {} 0 ∧
      (∀ op ∈ ops, QProved op = true) ∧ (∀ op ∈ ops, QSpec.Ordinary c.cfg op = true) ∧ Monotone 0 ops ∧
      outs c ops ≠ QSpec.outs {} c.cfg ops := by
  refine ⟨{ cfg := { policy := .none, cullLimit := 10 } },
    [.push toyV 0 (.int 1) none true (some 1) false .null,
     .set toyV 5 (.str [120]) (.int 0) none false .null,
     .push toyV 5 (.int 2) none true none false .null],
    qok_init _ _ _ rfl (by decide) (by decide) (by decide), qrefines_init _ _ 0, by decide,
    by decide +kernel, by decide +kernel, ?_⟩
  -- the cache answers 500000000000000 again, the reference 500000000000001
  exact ne_of_test (fun l => match l with | [_, _, .val (.int 500000000000001)] => true | _ => false)
    (by decide +kernel) (by decide +kernel)

/-- the budget is needed: with the origin at the upper end of the key range the first pushed key
(999999999999999) lies outside the (open) range, so the item is never found again — `pull`
returns the default where the reference returns the item -/
theorem qrun_needs_budget :
    ∃ (c : Cache) (ops : List Op), Good c ∧ c.cfg.policy = .none ∧ c.cfg.cullLimit = 0 ∧ QRefines c {} 0 ∧
      (∀ op ∈ ops, QProved op = true) ∧ Monotone 0 ops ∧
      outs c ops ≠ QSpec.outs {} c.cfg ops := by
  refine ⟨{ cfg := { policy := .none, cullLimit := 0, qorigin := 999999999999999 } },
    [.push toyV 0 (.int 1) none true none false .null, .pull toyV 0 none true false false],
    good_init _ _, rfl, rfl, qrefines_init _ _ 0, by decide, by decide +kernel, ?_⟩
  exact ne_of_test (fun l => match l with | [_, .tup _] => true | _ => false)
    (by decide +kernel) (by decide +kernel)

end DC.Cache
