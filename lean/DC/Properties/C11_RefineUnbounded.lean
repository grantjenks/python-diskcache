/-
C11 (refinement, continued) — deques that are longer than their bound.  `Deque(directory=…,
maxlen=k)` and `Deque.fromcache(cache, maxlen=k)` (persistent.py:78-117) do not trim what the
directory already holds, so `len > maxlen` is a reachable state of the real class (never of a
`collections.deque`).  `OkU` is the invariant `OkN` without its clause `len ≤ maxlen`.  From such a
state `append` / `appendleft` discard exactly ONE item at the other end (the length stays what it
was, it never comes down to the bound); one assignment `deque.maxlen = k` restores the bound
(`setMaxlen_bounds`), after which the refinement theorems apply.
-/
import DC.Properties.C11_Refine

namespace DC.Deque
open DC.Cache DC.Spec DC.DSpec

/-- the budgeted invariant without the clause "at most `maxlen` items": `OkN` of the same directory
seen through an unbounded handle -/
def OkU (d : Deque) (n : Nat) : Prop := OkN { d with maxlen := none } n

theorem OkN.toU {d : Deque} {n : Nat} (h : OkN d n) : OkU d n := h.unbound

/-- opening the directory of a deque with any `maxlen` (or changing the attribute behind the
model's back) keeps everything but the bound -/
theorem okU_reopen {d : Deque} {n : Nat} (h : OkN d n) (ml : Option Nat) : OkU { d with maxlen := ml } n :=
  h.toU

theorem OkU.toN {d : Deque} {n : Nat} (h : OkU d n) (hb : ∀ m, d.maxlen = some m → (items d).length ≤ m) :
    OkN d n :=
  { h with bounded := hb }

theorem OkU.mono {d : Deque} {n : Nat} (h : OkU d (n + 1)) : OkU d n := OkN.mono h

theorem append_okU (d : Deque) (n : Nat) (E : Externals) (now : Int) (v : PyVal) (left : Bool)
    (hok : OkU d (n + 1)) : OkU (d.append E now v left).1 n :=
  append_okN_unbound d n E now v left hok

/-- **from a deque that is longer than its bound `append` / `appendleft` discard exactly one item**:
after a successful call the length is `len + 1` if that fits the bound and `len` otherwise — on a
deque with `len ≥ maxlen` it stays `len`, it does not come down to `maxlen` -/
theorem append_trims_one (d : Deque) (n : Nat) (E : Externals) (now : Int) (v : PyVal) (left : Bool)
    (hok : OkU d (n + 1)) (hs : storable E d.cache.cfg v = true) :
    (d.append E now v left).2 = .none ∧
    (items (d.append E now v left).1).length =
      (if overLen d.maxlen ((items d).length + 1) then (items d).length else (items d).length + 1) := by
  rcases append_state d n E now v left hok with ⟨hef, -⟩ | ⟨e, r, num, -, hout, hap⟩
  · unfold storable at hs; rw [hef] at hs; cases hs
  · refine ⟨hout, ?_⟩
    rw [hap.items]
    unfold trimTo
    have hl : (if left then r :: items d else items d ++ [r]).length = (items d).length + 1 := by
      cases left <;> simp
    rw [hl]
    split
    · cases left <;> simp
    · exact hl

theorem append_overlong (d : Deque) (n : Nat) (E : Externals) (now : Int) (v : PyVal) (left : Bool) (k : Nat)
    (hok : OkU d (n + 1)) (hs : storable E d.cache.cfg v = true) (hk : d.maxlen = some k)
    (hlong : k ≤ (items d).length) :
    (items (d.append E now v left).1).length = (items d).length := by
  rw [(append_trims_one d n E now v left hok hs).2]
  unfold overLen
  rw [hk]
  simp only [decide_eq_true_eq]
  rw [if_pos (by omega)]

theorem setMaxlen_indep (d : Deque) (E : Externals) (now : Int) (k : Nat) (ml : Option Nat) :
    ({ d with maxlen := ml } : Deque).setMaxlen E now k = d.setMaxlen E now k := rfl

/-- **after `deque.maxlen = k` the deque has at most `k` items, whatever it held before**, the full
invariant `OkN` holds (same budget), and the items are the last `k` of the old ones -/
theorem setMaxlen_bounds (d : Deque) (n : Nat) (E : Externals) (now : Int) (k : Nat) (hok : OkU d n) :
    OkN (d.setMaxlen E now k).1 n ∧ (items (d.setMaxlen E now k).1).length ≤ k ∧
    (d.setMaxlen E now k).1.maxlen = some k ∧
    items (d.setMaxlen E now k).1 = (items d).drop ((items d).length - k) := by
  have h1 := setMaxlen_okN { d with maxlen := none } n E now k hok
  obtain ⟨-, -, -, hml, hitems, -⟩ := setMaxlen_state { d with maxlen := none } n E now k hok
  rw [setMaxlen_indep] at h1 hml hitems
  refine ⟨h1, h1.bounded k hml, hml, hitems⟩

/-- … and it represents the last `k` entries of the list the directory held -/
theorem setMaxlen_drefines_u (d : Deque) (n : Nat) (E : Externals) (now : Int) (k : Nat) (hok : OkU d n) :
    DRefines (d.setMaxlen E now k).1
      (DSpec.setMaxlen { items := (items d).map (entryOfRow d.cache), maxlen := d.maxlen } k).1 := by
  have := (setMaxlen_drefines { d with maxlen := none } { items := (items d).map (entryOfRow d.cache), maxlen := none }
    n E now k hok ⟨rfl, rfl⟩).2
  rw [setMaxlen_indep] at this
  exact this

/-- **histories from any persisted deque**: open the directory with whatever `maxlen`, assign
`deque.maxlen = k` once, and every history that fits the budget refines the bounded list that
starts with the last `k` persisted entries -/
theorem drun_refines_after_setMaxlen (d : Deque) (n : Nat) (E : Externals) (now : Int) (k : Nat) (ops : List DOp)
    (hok : OkU d n)
    (hcost : DSpec.costs (DSpec.setMaxlen (absList d) k).1 d.cache.cfg ops ≤ n)
    (hpg : 0 < d.cache.cfg.page)
    (hdisk : ∀ op ∈ ops, op.byKey = true → d.cache.cfg.disk = .pickle)
    (hrt : DSpec.restorable (DSpec.setMaxlen (absList d) k).1 d.cache.cfg ops = true) :
    Deque.outs (d.setMaxlen E now k).1 ops = DSpec.outs (DSpec.setMaxlen (absList d) k).1 d.cache.cfg ops ∧
    DRefines (Deque.run (d.setMaxlen E now k).1 ops)
      (DSpec.run (DSpec.setMaxlen (absList d) k).1 d.cache.cfg ops) := by
  have hcfg : (d.setMaxlen E now k).1.cache.cfg = d.cache.cfg := by
    have := setMaxlen_cfg { d with maxlen := none } n E now k hok
    rw [setMaxlen_indep] at this
    exact this
  have := drun_refines (d.setMaxlen E now k).1 (DSpec.setMaxlen (absList d) k).1 ops n
    (setMaxlen_bounds d n E now k hok).1 (by rw [hcfg]; exact hcost) (setMaxlen_drefines_u d n E now k hok)
    (by rw [hcfg]; exact hpg) (fun op ho hb => by rw [hcfg]; exact hdisk op ho hb) (by rw [hcfg]; exact hrt)
  rw [hcfg] at this
  exact this

/-! ### a concrete over-long deque

Three items persisted without a bound, the directory opened again with `maxlen = 1`: `append` keeps
the length 3 (one item goes at the other end), `rotate(1)` loses an item (its `appendleft` trims at
the back), `reverse()` keeps one item, `maxlen = 1` brings the length down to the bound. -/

def exLong : Deque := { ((fresh none).extend toyV 0 [.int 1, .int 2, .int 3] false).1 with maxlen := some 1 }

theorem exLong_okU : OkU exLong 5 :=
  okU_reopen (extend_okN (fresh none) 5 toyV 0 [.int 1, .int 2, .int 3] false
    (OkN.weaken (k := 499999999999991) (okN_empty none))) (some 1)

theorem overlong_examples :
    (items exLong).length = 3 ∧ ¬ OkN exLong 5 ∧
    (match (exLong.append toyV 1 (.int 4) false).1.iterVals toyV 2 false with
      | (_, .list [.val (.int 2), .val (.int 3), .val (.int 4)]) => true | _ => false) = true ∧
    (match (exLong.rotate toyV 1 1).1.iterVals toyV 2 false with
      | (_, .list [.val (.int 3), .val (.int 1)]) => true | _ => false) = true ∧
    (match (exLong.reverse toyV 1).1.iterVals toyV 2 false with
      | (_, .list [.val (.int 1)]) => true | _ => false) = true ∧
    (match (exLong.setMaxlen toyV 1 1).1.iterVals toyV 2 false with
      | (_, .list [.val (.int 3)]) => true | _ => false) = true := by
  refine ⟨by decide +kernel, ?_, by decide +kernel, by decide +kernel, by decide +kernel, by decide +kernel⟩
  intro h
  have h1 := h.bounded 1 rfl
  have h2 : (items exLong).length = 3 := by decide +kernel
  omega

end DC.Deque
