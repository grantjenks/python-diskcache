/-
C03 (refinement) — the Cache model refines the reference dictionary of
DC/Model/Spec.lean: for every history of key-addressed calls with a clock that
never goes backwards, on a cache without a size limit (eviction policy `none`;
the size-limit regime is C09), every call returns what the dictionary returns
and the final states correspond.

The dictionary has no lazy removal: an item whose expiry time has passed just
stops being visible.  The cache physically removes such rows whenever it likes
(`_cull` inside every write, `expire`, `cull`); the relation `Refines` allows
exactly that.

Statement notes.
 * `Refines` carries `m.WF` ("the bindings of `m` have pairwise different keys"): `Spec.evict` /
   `Spec.expire` drop bindings, which is only the per-key removal it looks like when a key is
   bound once.  Every dictionary built by the calls from `[]` is `WF`.
 * The per-call theorems are stated for a quiescent state (`Good c`: table and file
   invariants, no open transaction block), statistics on or off, any codec `E`
   (no codec law is needed: the dictionary stores the *stored representation*), and
   `now ≥ clock`.  Eviction policy `none` matters only where `_cull` runs (`set`, `add`,
   `incr`, `cull`).  For these calls, for one call of any kind and for histories, the statement
   for every policy (`*_refines_lossy`: the dictionary loses the keys of the evicted rows,
   `Lossy`; `Evicted` says what one call may evict) comes first, and the exact one is the
   special case in which nothing is evicted (`Loss.polNone`, `CullLoss.polNone`).  What `Evicted`
   allows is spelled out in C03_Lossy.  `get` corresponds under every policy (`get_refines_any`).
 * `0 < c.cfg.page` is assumed for the four bulk removals (and therefore for histories): the
   model's page size is a `Cfg` field (the constant 100 in core.py); with page size 0 the
   `_select_delete` loops remove nothing — `clear_refines_needs_page` is the counterexample.
 * The integer results of clear / evict / expire / cull count physically stored rows, which the
   dictionary does not determine; `Spec.step` returns `.none` for them and `outs` masks them by
   `.none` on the model side (`Spec.Determined`).
-/
import DC.Proofs.RefineOps
import DC.Proofs.RefineWrite
import DC.Proofs.RefineDel
import DC.Proofs.RefineIncr
import DC.Proofs.RefineBulk
import DC.Proofs.RefineCfg
import DC.Proofs.LossyCullOp
import DC.Properties.C01

namespace DC.Cache
open DC.Spec

def entryOfRow (c : Cache) (r : Row) : Spec.Entry :=
  { mode := r.mode, val := r.val, content := r.file.bind c.fileGet, expT := r.expT, tag := r.tag }

theorem entryOfRow_eq (c : Cache) (r : Row) : entryOfRow c r = rf_ent c r := rfl

/-- `c` represents `m` at clock `clock`: every binding of `m` is a row of `c` denoting the same
entry, or has been physically removed after it expired (strictly before `clock`); and `c` has no
row for keys unbound in `m`.  (`m.WF`: the bindings of `m` have pairwise different keys.) -/
def Refines (c : Cache) (m : Spec.Dict) (clock : Int) : Prop :=
  m.WF ∧ ∀ k : Spec.Key,
    match m.get k with
    | some e => (∃ r, c.selKey k.1 k.2 = some r ∧ entryOfRow c r = e) ∨
                (c.selKey k.1 k.2 = none ∧ e.expired clock = true)
    | none => c.selKey k.1 k.2 = none

/-- `Refines` in terms of the view of the state (DC/Proofs/RefineLemmas.lean) -/
theorem refines_iff (c : Cache) (m : Spec.Dict) (clock : Int) :
    Refines c m clock ↔ m.WF ∧ ∀ k, rf_VRel (rf_view c k) (m.get k) clock := by
  unfold Refines
  apply and_congr Iff.rfl
  apply forall_congr'
  intro k
  have hv : rf_view c k = (c.selKey k.1 k.2).map (entryOfRow c) := rfl
  rw [hv]
  unfold rf_VRel
  cases m.get k with
  | none => cases c.selKey k.1 k.2 <;> simp
  | some e => cases c.selKey k.1 k.2 <;> simp

theorem refines_init' (cf : Cfg) (st : Bool) (clock : Int) :
    Refines ({ cfg := cf, statistics := st } : Cache) [] clock :=
  ⟨rf_wf_nil, fun _ => rfl⟩

theorem refines_init : Refines {} [] 0 := refines_init' {} false 0

/-! ### what `_cull` inside a write may drop -/

/-- `c'` represents the dictionary `m'` without the keys of the evicted rows `L`; every evicted
row held an entry of `m'` that was not expired at `now` -/
structure Lossy (c' : Cache) (m' : Spec.Dict) (now : Int) (L : List Row) : Prop where
  refines : Refines c' (dropKeys m' (L.map rowKey)) now
  was : ∀ r ∈ L, ∃ e, m'.get (rowKey r) = some e ∧ EntOf r e ∧ e.expired now = false

theorem lossy_nil {c' : Cache} {m' : Spec.Dict} {now : Int} (h : Refines c' m' now) :
    Lossy c' m' now [] :=
  ⟨by rw [List.map_nil, rf_dropKeys_nil]; exact h, fun _ h => absurd h List.not_mem_nil⟩

theorem lossy_nil_iff {c' : Cache} {m' : Spec.Dict} {now : Int} :
    Lossy c' m' now [] ↔ Refines c' m' now :=
  ⟨fun h => by have := h.refines; rw [List.map_nil, rf_dropKeys_nil] at this; exact this, lossy_nil⟩

/-- the size of the value file `Disk.store` writes for a placement (0: stored in the database) -/
def placedSize : Except StoreErr Placement → Int
  | .ok (.file _ ct) => ct.size
  | _ => 0

theorem entrySize_entryOf (p : Placement) (e : Option Int) (t : SqlVal) :
    entrySize (entryOf p e t) = placedSize (.ok p) := by
  cases p <;> rfl

/-- what a writing call (`set`, `add`, `incr`) may lose to eviction: `Loss` (DC/Proofs/LossyDefs.lean),
and the size counter before the eviction (final counter + sizes of the evicted rows) is at most
the counter before the call plus the size `w` of the value file written -/
structure WriteLoss (c c' : Cache) (K : Spec.Key) (now : Int) (w : Int) (L : List Row) : Prop where
  loss : Loss c c' K now L
  size : L ≠ [] → c'.size + sumSizes L ≤ c.size + w

theorem writeLoss_nil (c c' : Cache) (K : Spec.Key) (now : Int) (w : Int) : WriteLoss c c' K now w [] :=
  ⟨loss_nil _ _ _ _, fun h => absurd rfl h⟩

theorem lossy_same {c c' : Cache} {m : Spec.Dict} {clock now : Int} {K : Spec.Key} {w : Int}
    (hr : Refines c m clock) (hn : clock ≤ now) (h : ∀ k', rf_view c' k' = rf_view c k') :
    ∃ L, Lossy c' m now L ∧ WriteLoss c c' K now w L := by
  rw [refines_iff] at hr
  refine ⟨[], lossy_nil ((refines_iff _ _ _).2 ⟨hr.1, fun k' => ?_⟩), writeLoss_nil _ _ _ _ _⟩
  rw [h k']
  exact rf_VRel_mono (hr.2 k') hn

theorem lossy_wrote {c c' : Cache} {m : Spec.Dict} {clock now : Int} {K : Spec.Key} {p : Placement}
    {x : Option Int} {t : SqlVal}
    (hr : Refines c m clock) (hn : clock ≤ now) (hW : rf_Wrote c c' K now (entryOf p x t)) :
    ∃ L, Lossy c' (m.put K (entryOf p x t)) now L ∧ WriteLoss c c' K now (placedSize (.ok p)) L := by
  obtain ⟨L, hR, hL, hW, hS⟩ := rf_wrote_refines ((refines_iff _ _ _).1 hr) hn hW
  rw [entrySize_entryOf] at hS
  exact ⟨L, ⟨(refines_iff _ _ _).2 hR, hW⟩, hL, fun _ => hS⟩

/-! ### the key-addressed calls, one at a time -/

/-- `get` returns what the dictionary returns and leaves the represented dictionary alone —
also under `lru` / `lfu`, where it rewrites access_time / access_count, and with statistics on -/
theorem get_refines_any (c : Cache) (m : Spec.Dict) (clock now : Int) (E : Externals) (k : PyVal)
    (read et tg : Bool)
    (hg : Good c) (hr : Refines c m clock) (hn : clock ≤ now) :
    (c.get E now k read et tg).2 = (Spec.get m E c.cfg now k read et tg).2 ∧
    Refines (c.get E now k read et tg).1 (Spec.get m E c.cfg now k read et tg).1 now := by
  rw [refines_iff] at hr ⊢
  rw [rf_get_spec read et tg (rf_VRel_mono (hr.2 (keyOf E c.cfg k)) hn)]
  refine ⟨rf_get_out' _ _ _ _ _ _ _ hg, hr.1, fun k' => ?_⟩
  rw [rf_get_view c E now k read et tg hg]
  exact rf_VRel_mono (hr.2 k') hn

theorem get_refines (c : Cache) (m : Spec.Dict) (clock now : Int) (E : Externals) (k : PyVal)
    (read et tg : Bool)
    (hg : Good c) (hp : c.cfg.policy = .none) (hr : Refines c m clock) (hn : clock ≤ now) :
    (c.get E now k read et tg).2 = (Spec.get m E c.cfg now k read et tg).2 ∧
    Refines (c.get E now k read et tg).1 (Spec.get m E c.cfg now k read et tg).1 now :=
  get_refines_any c m clock now E k read et tg hg hr hn

theorem contains_refines (c : Cache) (m : Spec.Dict) (clock now : Int) (E : Externals) (k : PyVal)
    (hg : Good c) (hr : Refines c m clock) (hn : clock ≤ now) :
    (c.contains E now k).2 = (Spec.contains m E c.cfg now k).2 ∧
    Refines (c.contains E now k).1 (Spec.contains m E c.cfg now k).1 now := by
  rw [refines_iff] at hr ⊢
  have hK := rf_VRel_mono (hr.2 (keyOf E c.cfg k)) hn
  refine ⟨?_, ?_⟩
  · rw [rf_contains_out _ _ _ _ hg]
    exact congrArg Out.bool ((rf_has_rel hK).trans (rf_has_dict _ _ _).symm)
  · refine ⟨hr.1, fun k' => ?_⟩
    rw [rf_view_core (rf_contains_core c E now k)]
    exact rf_VRel_mono (hr.2 k') hn

theorem set_refines_lossy (c : Cache) (m : Spec.Dict) (clock now : Int) (E : Externals) (k v : PyVal)
    (ttl : Option Int) (read : Bool) (tag : SqlVal)
    (hg : Good c) (hr : Refines c m clock) (hn : clock ≤ now) :
    (c.set E now k v ttl read tag).2 = (Spec.set m E c.cfg now k v ttl read tag).2 ∧
    ∃ L, Lossy (c.set E now k v ttl read tag).1 (Spec.set m E c.cfg now k v ttl read tag).1 now L ∧
      WriteLoss c (c.set E now k v ttl read tag).1 (keyOf E c.cfg k) now
        (placedSize (place E c.cfg.disk c.cfg.minFileSize v read)) L := by
  have hA := rf_set_view_gen c E now k v ttl read tag hg
  unfold Spec.set
  revert hA
  cases place E c.cfg.disk c.cfg.minFileSize v read with
  | error e =>
    intro hA
    simp only at hA ⊢
    rw [hA]
    exact ⟨rfl, lossy_same hr hn (fun _ => rfl)⟩
  | ok p =>
    simp only
    split
    · exact fun hA => ⟨hA.1, lossy_wrote hr hn hA.2⟩
    · exact fun hA => ⟨hA.1, lossy_same hr hn hA.2⟩

theorem set_refines (c : Cache) (m : Spec.Dict) (clock now : Int) (E : Externals) (k v : PyVal)
    (ttl : Option Int) (read : Bool) (tag : SqlVal)
    (hg : Good c) (hp : c.cfg.policy = .none) (hr : Refines c m clock) (hn : clock ≤ now) :
    (c.set E now k v ttl read tag).2 = (Spec.set m E c.cfg now k v ttl read tag).2 ∧
    Refines (c.set E now k v ttl read tag).1 (Spec.set m E c.cfg now k v ttl read tag).1 now := by
  obtain ⟨ho, L, hL, hW⟩ := set_refines_lossy c m clock now E k v ttl read tag hg hr hn
  rw [hW.loss.polNone hp] at hL
  exact ⟨ho, lossy_nil_iff.1 hL⟩

/-- `add` on the dictionary is `set` unless it finds a live item under a key the database can bind -/
theorem spec_add_eq_set {m : Spec.Dict} {E : Externals} {cfg : Cfg} {now : Int} {k : PyVal}
    (v : PyVal) (ttl : Option Int) (read : Bool) (tag : SqlVal)
    (h : ¬ (bindable (keyOf E cfg k).1 = true ∧ rf_has now (m.get (keyOf E cfg k)) = true)) :
    Spec.add m E cfg now k v ttl read tag = Spec.set m E cfg now k v ttl read tag := by
  unfold Spec.add Spec.set
  cases place E cfg.disk cfg.minFileSize v read with
  | error e => rfl
  | ok p =>
    simp only
    rw [rf_has_dict]
    cases hb : bindable (keyOf E cfg k).1 with
    | false => rfl
    | true =>
      cases hh : rf_has now (m.get (keyOf E cfg k)) with
      | false => simp only [Bool.not_true, Bool.false_eq_true, if_false, Bool.true_and]
      | true => exact absurd ⟨hb, hh⟩ h

/-- `add` is `set`, in the cache and in the dictionary it represents, or it changes nothing and
returns the same in both (a live item is there, or the value cannot be written) -/
theorem add_set_or_same {c : Cache} {m : Spec.Dict} {now : Int} (E : Externals) (k v : PyVal)
    (ttl : Option Int) (read : Bool) (tag : SqlVal) (hg : Good c)
    (hK : rf_VRel (rf_view c (keyOf E c.cfg k)) (m.get (keyOf E c.cfg k)) now) :
    (c.add E now k v ttl read tag = c.set E now k v ttl read tag ∧
      Spec.add m E c.cfg now k v ttl read tag = Spec.set m E c.cfg now k v ttl read tag) ∨
    ((c.add E now k v ttl read tag).2 = (Spec.add m E c.cfg now k v ttl read tag).2 ∧
      (Spec.add m E c.cfg now k v ttl read tag).1 = m ∧
      ∀ k', rf_view (c.add E now k v ttl read tag).1 k' = rf_view c k') := by
  by_cases hlive : bindable (keyOf E c.cfg k).1 = true ∧
      rf_has now (rf_view c (keyOf E c.cfg k)) = true
  · right
    cases hpl : place E c.cfg.disk c.cfg.minFileSize v read with
    | error e =>
      unfold Spec.add
      rw [hpl, rf_add_error c E now k v ttl read tag hg hpl]
      exact ⟨rfl, rfl, fun _ => rfl⟩
    | ok p =>
      unfold Spec.add
      rw [hpl]
      simp only [hlive.1, rf_has_dict, ← rf_has_rel hK, hlive.2, Bool.not_true, Bool.false_eq_true,
        if_false, if_true]
      exact ⟨(rf_add_live c E now k v ttl read tag hg hpl hlive.1 hlive.2).1, trivial,
        (rf_add_live c E now k v ttl read tag hg hpl hlive.1 hlive.2).2⟩
  · exact .inl ⟨rf_add_eq_set c E now k v ttl read tag hg hlive,
      spec_add_eq_set v ttl read tag (by rw [← rf_has_rel hK]; exact hlive)⟩

theorem add_refines_lossy (c : Cache) (m : Spec.Dict) (clock now : Int) (E : Externals) (k v : PyVal)
    (ttl : Option Int) (read : Bool) (tag : SqlVal)
    (hg : Good c) (hr : Refines c m clock) (hn : clock ≤ now) :
    (c.add E now k v ttl read tag).2 = (Spec.add m E c.cfg now k v ttl read tag).2 ∧
    ∃ L, Lossy (c.add E now k v ttl read tag).1 (Spec.add m E c.cfg now k v ttl read tag).1 now L ∧
      WriteLoss c (c.add E now k v ttl read tag).1 (keyOf E c.cfg k) now
        (placedSize (place E c.cfg.disk c.cfg.minFileSize v read)) L := by
  rcases add_set_or_same E k v ttl read tag hg
    (rf_VRel_mono (((refines_iff _ _ _).1 hr).2 (keyOf E c.cfg k)) hn) with ⟨h1, h2⟩ | ⟨h1, h2, h3⟩
  · rw [h1, h2]
    exact set_refines_lossy c m clock now E k v ttl read tag hg hr hn
  · rw [h2]
    exact ⟨h1, lossy_same hr hn h3⟩

theorem add_refines (c : Cache) (m : Spec.Dict) (clock now : Int) (E : Externals) (k v : PyVal)
    (ttl : Option Int) (read : Bool) (tag : SqlVal)
    (hg : Good c) (hp : c.cfg.policy = .none) (hr : Refines c m clock) (hn : clock ≤ now) :
    (c.add E now k v ttl read tag).2 = (Spec.add m E c.cfg now k v ttl read tag).2 ∧
    Refines (c.add E now k v ttl read tag).1 (Spec.add m E c.cfg now k v ttl read tag).1 now := by
  obtain ⟨ho, L, hL, hW⟩ := add_refines_lossy c m clock now E k v ttl read tag hg hr hn
  rw [hW.loss.polNone hp] at hL
  exact ⟨ho, lossy_nil_iff.1 hL⟩

/-- the (re)creation branch of `Spec.incr` -/
def specIncrFresh (m : Spec.Dict) (E : Externals) (cfg : Cfg) (k : PyVal) (delta : Int)
    (dflt : Option Int) : Spec.Dict × Out :=
  match dflt with
  | none => (m, .exc "KeyError")
  | some d =>
    match place E cfg.disk cfg.minFileSize (.int (d + delta)) false with
    | .error _ => (m, .exc "UnicodeEncodeError")
    | .ok p => (m.put (keyOf E cfg k) (entryOf p none .null), .int (d + delta))

theorem specIncr_eq (m : Spec.Dict) (E : Externals) (cfg : Cfg) (now : Int) (k : PyVal) (delta : Int)
    (dflt : Option Int) :
    Spec.incr m E cfg now k delta dflt =
      match m.get (keyOf E cfg k) with
      | none => specIncrFresh m E cfg k delta dflt
      | some e =>
        if e.expired now then specIncrFresh m E cfg k delta dflt
        else match e.val with
          | .int i =>
            if inI64 (i + delta) then
              (m.put (keyOf E cfg k) { e with val := .int (i + delta) }, .int (i + delta))
            else (m, .exc "OverflowError")
          | _ => (m, .exc "TypeError") := rfl

/-- the case tree of `incr`.  The state `c` holds for the key what the dictionary `m` holds (`hK`),
so `incr` takes the same branch on both (`hA`: the branches of the model); `R` is what is to be
shown of the dictionary afterwards, given for each way a branch ends: (re)creation (`hF`), nothing
changed (`hS`), the entry rewritten (`hW`). -/
theorem incr_cases {c c' : Cache} {m : Spec.Dict} {now : Int} {E : Externals} {k : PyVal} {delta : Int}
    {dflt : Option Int} {o : Out} {F : Prop} {R : Spec.Dict → Prop}
    (hK : rf_VRel (rf_view c (keyOf E c.cfg k)) (m.get (keyOf E c.cfg k)) now)
    (hA : rf_IncrView c c' o (keyOf E c.cfg k) now delta F)
    (hF : F → o = (specIncrFresh m E c.cfg k delta dflt).2 ∧ R (specIncrFresh m E c.cfg k delta dflt).1)
    (hS : (∀ k', rf_view c' k' = rf_view c k') → R m)
    (hW : ∀ e, (∀ k', rf_view c' k' = rf_at (keyOf E c.cfg k) (some e) (rf_view c) k') →
      R (m.put (keyOf E c.cfg k) e)) :
    o = (Spec.incr m E c.cfg now k delta dflt).2 ∧ R (Spec.incr m E c.cfg now k delta dflt).1 := by
  unfold rf_IncrView at hA
  rw [specIncr_eq]
  rcases rf_VRel_cases hK with h | ⟨h, e, hd, he, -⟩
  · rw [← h]
    revert hA
    cases rf_view c (keyOf E c.cfg k) with
    | none => exact hF
    | some e =>
      simp only
      split
      · exact hF
      · cases e.val with
        | int i =>
          simp only
          split
          · exact fun hA => ⟨hA.1, hW _ hA.2⟩
          · exact fun hA => ⟨hA.1, hS hA.2⟩
        | _ => exact fun hA => ⟨hA.1, hS hA.2⟩
  · rw [h] at hA
    rw [hd]
    simp only
    rw [if_pos he]
    exact hF hA

/-- the size of the value file the (re)creating branch of `incr` writes -/
def incrWriteSize (E : Externals) (cfg : Cfg) (delta : Int) (dflt : Option Int) : Int :=
  match dflt with
  | some d => placedSize (place E cfg.disk cfg.minFileSize (.int (d + delta)) false)
  | none => 0

theorem incr_fresh_refines_lossy {c c' : Cache} {m : Spec.Dict} {clock now : Int} {o : Out}
    {E : Externals} {k : PyVal} {delta : Int} {dflt : Option Int}
    (hr : m.WF ∧ ∀ k, rf_VRel (rf_view c k) (m.get k) clock) (hn : clock ≤ now)
    (hF : rf_IncrFreshG c c' o E (keyOf E c.cfg k) now delta dflt) :
    o = (specIncrFresh m E c.cfg k delta dflt).2 ∧
    ∃ L, Lossy c' (specIncrFresh m E c.cfg k delta dflt).1 now L ∧
      WriteLoss c c' (keyOf E c.cfg k) now (incrWriteSize E c.cfg delta dflt) L := by
  rw [← refines_iff] at hr
  unfold rf_IncrFreshG at hF
  unfold specIncrFresh incrWriteSize
  cases dflt with
  | none => exact ⟨hF.1, lossy_same hr hn hF.2⟩
  | some d =>
    simp only at hF ⊢
    cases hpl : place E c.cfg.disk c.cfg.minFileSize (.int (d + delta)) false with
    | error e =>
      rw [hpl] at hF
      exact ⟨hF.1, lossy_same hr hn hF.2⟩
    | ok p =>
      rw [hpl] at hF
      exact ⟨hF.1, lossy_wrote hr hn hF.2⟩

theorem incr_refines_lossy (c : Cache) (m : Spec.Dict) (clock now : Int) (E : Externals) (k : PyVal)
    (delta : Int) (dflt : Option Int)
    (hg : Good c) (hr : Refines c m clock) (hn : clock ≤ now) :
    (c.incr E now k delta dflt).2 = (Spec.incr m E c.cfg now k delta dflt).2 ∧
    ∃ L, Lossy (c.incr E now k delta dflt).1 (Spec.incr m E c.cfg now k delta dflt).1 now L ∧
      WriteLoss c (c.incr E now k delta dflt).1 (keyOf E c.cfg k) now (incrWriteSize E c.cfg delta dflt) L := by
  have hv := (refines_iff _ _ _).1 hr
  refine incr_cases (R := fun m' => ∃ L, Lossy (c.incr E now k delta dflt).1 m' now L ∧
      WriteLoss c (c.incr E now k delta dflt).1 (keyOf E c.cfg k) now (incrWriteSize E c.cfg delta dflt) L)
    (rf_VRel_mono (hv.2 (keyOf E c.cfg k)) hn) (rf_incr_view_gen c E now k delta dflt hg)
    (incr_fresh_refines_lossy hv hn) (lossy_same hr hn) (fun e hV => ?_)
  refine ⟨[], lossy_nil ((refines_iff _ _ _).2 ⟨rf_wf_put hv.1 _ _, ?_⟩), writeLoss_nil _ _ _ _ _⟩
  exact rf_assemble (upd := fun _ => some e) hv.2 hn (fun k' => .inl (hV k'))
    (fun k' => rf_get_put _ _ _ _) (fun _ _ _ => rf_VRel_refl _ _)

theorem incr_refines (c : Cache) (m : Spec.Dict) (clock now : Int) (E : Externals) (k : PyVal)
    (delta : Int) (dflt : Option Int)
    (hg : Good c) (hp : c.cfg.policy = .none) (hr : Refines c m clock) (hn : clock ≤ now) :
    (c.incr E now k delta dflt).2 = (Spec.incr m E c.cfg now k delta dflt).2 ∧
    Refines (c.incr E now k delta dflt).1 (Spec.incr m E c.cfg now k delta dflt).1 now := by
  obtain ⟨ho, L, hL, hW⟩ := incr_refines_lossy c m clock now E k delta dflt hg hr hn
  rw [hW.loss.polNone hp] at hL
  exact ⟨ho, lossy_nil_iff.1 hL⟩

theorem touch_refines (c : Cache) (m : Spec.Dict) (clock now : Int) (E : Externals) (k : PyVal)
    (ttl : Option Int)
    (hg : Good c) (hr : Refines c m clock) (hn : clock ≤ now) :
    (c.touch E now k ttl).2 = (Spec.touch m E c.cfg now k ttl).2 ∧
    Refines (c.touch E now k ttl).1 (Spec.touch m E c.cfg now k ttl).1 now := by
  rw [refines_iff] at hr ⊢
  obtain ⟨hO, hV⟩ := rf_touch_view c E now k ttl hg
  obtain ⟨hR, hP, hG⟩ := rf_touch_spec m E c.cfg now k ttl
  have hK := rf_VRel_mono (hr.2 (keyOf E c.cfg k)) hn
  refine ⟨by rw [hO, hR, rf_has_rel hK], hP _ hr.1 (fun _ => rf_wf_put hr.1 _ _), ?_⟩
  exact rf_assemble (upd := rf_touchU now (ttl.map (now + ·))) hr.2 hn (fun k' => .inl (hV k'))
    hG (fun _ _ h => rf_touchU_rel _ h)

theorem delitem_refines (c : Cache) (m : Spec.Dict) (clock now : Int) (E : Externals) (k : PyVal)
    (hg : Good c) (hr : Refines c m clock) (hn : clock ≤ now) :
    (c.delitem E now k).2 = (Spec.delitem m E c.cfg now k).2 ∧
    Refines (c.delitem E now k).1 (Spec.delitem m E c.cfg now k).1 now := by
  rw [refines_iff] at hr ⊢
  obtain ⟨hO, hV⟩ := rf_delitem_view c E now k hg
  have hK := rf_VRel_mono (hr.2 (keyOf E c.cfg k)) hn
  rw [rf_delitem_spec]
  refine ⟨by rw [hO, rf_has_rel hK], rf_del_wf hr.1 _ _, ?_⟩
  exact rf_assemble (upd := rf_delU now) hr.2 hn (fun k' => .inl (hV k'))
    (fun k' => rf_del_spec m _ now k') (fun _ _ h => rf_delU_rel h)

theorem delete_refines (c : Cache) (m : Spec.Dict) (clock now : Int) (E : Externals) (k : PyVal)
    (hg : Good c) (hr : Refines c m clock) (hn : clock ≤ now) :
    (c.delete E now k).2 = (Spec.delete m E c.cfg now k).2 ∧
    Refines (c.delete E now k).1 (Spec.delete m E c.cfg now k).1 now := by
  have hK := rf_VRel_mono (((refines_iff _ _ _).1 hr).2 (keyOf E c.cfg k)) hn
  -- the state is that of `delitem`, on both sides
  rw [rf_delete_spec, delete_fst]
  exact ⟨by rw [(rf_delete_view c E now k hg).1, rf_has_rel hK],
    (delitem_refines c m clock now E k hg hr hn).2⟩

theorem pop_refines (c : Cache) (m : Spec.Dict) (clock now : Int) (E : Externals) (k : PyVal)
    (et tg : Bool)
    (hg : Good c) (hr : Refines c m clock) (hn : clock ≤ now) :
    (c.pop E now k et tg).2 = (Spec.pop m E c.cfg now k et tg).2 ∧
    Refines (c.pop E now k et tg).1 (Spec.pop m E c.cfg now k et tg).1 now := by
  rw [refines_iff] at hr ⊢
  obtain ⟨hO, hV⟩ := rf_pop_view c E now k et tg hg
  rw [rf_pop_spec, rf_get_spec false et tg (rf_VRel_mono (hr.2 (keyOf E c.cfg k)) hn)]
  refine ⟨hO, rf_del_wf hr.1 _ _, ?_⟩
  exact rf_assemble (upd := rf_delU now) hr.2 hn (fun k' => .inl (hV k'))
    (fun k' => rf_del_spec m _ now k') (fun _ _ h => rf_delU_rel h)

/-! ### bulk removal: `clear`, `evict`, `expire`, `cull`

Only the state half: the integer these calls return counts the rows physically present, which
the dictionary does not determine (an expired item may or may not have been removed already).
`0 < c.cfg.page`: the page size of the `_select_delete` loops (100 in core.py, never
changed by a call).  With page size 0 the loops remove nothing (first page empty), so the
hypothesis is necessary; every cache created by `Cache(...)` satisfies it. -/

/-- the hypothesis `0 < c.cfg.page` is necessary: with page size 0 `clear` removes nothing, so the
statement without it is false (not a finding about the code — core.py pages by the
constant 100, and no call changes it) -/
theorem clear_refines_needs_page :
    ∃ (c : Cache) (m : Spec.Dict), Good c ∧ c.cfg.policy = .none ∧ Refines c m 0 ∧
      ¬ Refines (c.clear).1 (Spec.clear m).1 0 := by
  let c0 : Cache := { cfg := { policy := .none, page := 0 } }
  have hg0 : Good c0 := good_init _ _
  have hr0 : Refines c0 [] 0 := refines_init' _ _ 0
  refine ⟨(c0.set toyV 0 (.str [97]) (.int 1) none false .null).1,
    (Spec.set [] toyV c0.cfg 0 (.str [97]) (.int 1) none false .null).1,
    set_good _ _ _ _ _ _ _ _ hg0, by decide +kernel,
    (set_refines c0 [] 0 0 toyV (.str [97]) (.int 1) none false .null hg0 rfl hr0 (Int.le_refl _)).2, ?_⟩
  intro h
  have h1 := h.2 (.text [97], true)
  have h2 : ((c0.set toyV 0 (.str [97]) (.int 1) none false .null).1.clear).1.selKey (.text [97]) true ≠ none := by
    decide +kernel
  exact h2 h1

theorem clear_refines (c : Cache) (m : Spec.Dict) (clock : Int)
    (hg : Good c)
    (hpg : 0 < c.cfg.page) -- page size of the removal loop (counterexample above)
    (_hr : Refines c m clock) :
    Refines (c.clear).1 (Spec.clear m).1 clock := by
  rw [refines_iff]
  have h := (clear_all c hg.tinv.tbl.asc hg.tinv.tbl.pos hpg).1
  refine ⟨rf_wf_nil, fun k => ?_⟩
  rw [rf_view_nil h]
  exact rf_VRel_refl _ _

theorem evict_refines (c : Cache) (m : Spec.Dict) (clock : Int) (tag : SqlVal)
    (hg : Good c)
    (hpg : 0 < c.cfg.page)
    (hr : Refines c m clock) :
    Refines (c.evict tag).1 (Spec.evict m tag).1 clock := by
  rw [refines_iff] at hr ⊢
  have h := (evict_exact c tag hg.tinv.tbl.asc hg.tinv.tbl.pos hpg).1
  exact rf_filter_refines (fun e => !e.tag.eqv tag) hr
    (rf_view_filter hg (evict_good c tag hg) _ _ (fun _ => rfl) h (rf_evict_files c tag))

theorem expire_refines (c : Cache) (m : Spec.Dict) (clock now : Int)
    (hg : Good c)
    (hpg : 0 < c.cfg.page)
    (hr : Refines c m clock) (hn : clock ≤ now) :
    Refines (c.expire now).1 (Spec.expire m now).1 now := by
  rw [refines_iff] at hr ⊢
  have h := (expire_exact c now hg.tinv.tbl.asc hpg).1
  exact rf_filter_refines (fun e => !e.expired now) ⟨hr.1, fun k => rf_VRel_mono (hr.2 k) hn⟩
    (rf_view_filter hg (expire_good c now hg) _ _ (fun _ => rfl) h (rf_expire_files c now))

/-- `cull()`: the expired entries go (as in the dictionary's `cull`), and the keys of the rows
evicted by the policy loop are dropped; `CullLoss` says which rows these can be, when the loop
starts and stops, and what the call returns -/
theorem cull_refines_lossy (c : Cache) (m : Spec.Dict) (clock now : Int)
    (hg : Good c) (hpg : 0 < c.cfg.page) (hr : Refines c m clock) (hn : clock ≤ now) :
    ∃ L, Lossy (c.cull now).1 (Spec.cull m now).1 now L ∧
      CullLoss c (c.cull now).1 (c.cull now).2 now L := by
  rw [refines_iff] at hr
  obtain ⟨hsub, -, hloss⟩ := rf_cull_lossy c now hg hpg
  have hview := rf_cull_view c now hg hpg
  have hv1 : ∀ k, rf_VRel ((rf_view c k).filter (fun e => !e.expired now))
      ((Spec.cull m now).1.get k) now := by
    intro k
    show rf_VRel _ (Dict.get (m.filter (fun p => !p.2.expired now)) k) now
    rw [rf_get_filter hr.1 (fun e => !e.expired now)]
    exact rf_VRel_filter _ (rf_VRel_mono (hr.2 k) hn)
  refine ⟨_, ⟨?_, ?_⟩, hloss⟩
  · rw [refines_iff]
    exact ⟨rf_wf_dropKeys (rf_wf_filter hr.1 _) _, rf_VRel_lossy hview hv1⟩
  · intro r hrL
    obtain ⟨hrX, hre, -⟩ := mem_lostRows.1 hrL
    have hrc : r ∈ c.rows := (List.mem_filter.1 hrX).1
    have hkm : keyMatch r.key r.raw r = true := rf_keyMatch_self (hg.tinv.tbl.nonnull r hrc)
    have hvr : (rf_view c (rowKey r)).filter (fun e => !e.expired now) = some (rf_ent c r) := by
      unfold rf_view rf_look
      show ((c.rows.find? (keyMatch r.key r.raw)).map (rf_ent c)).filter _ = _
      rw [rf_find_of_mem hg.tinv.tbl.uniq hrc hkm]
      simp [Option.filter, rf_ent_expired, hre]
    refine ⟨rf_ent c r, rf_VRel_some (hv1 (rowKey r)) hvr, ⟨rfl, rfl, rfl, rfl⟩, ?_⟩
    rw [rf_ent_expired]; exact hre

theorem cull_refines (c : Cache) (m : Spec.Dict) (clock now : Int)
    (hg : Good c) (hp : c.cfg.policy = .none)
    (hpg : 0 < c.cfg.page)
    (hr : Refines c m clock) (hn : clock ≤ now) :
    Refines (c.cull now).1 (Spec.cull m now).1 now := by
  obtain ⟨L, hL, hC⟩ := cull_refines_lossy c m clock now hg hpg hr hn
  rw [hC.polNone hp] at hL
  exact lossy_nil_iff.1 hL

/-! ### histories -/

/-- the clock value a call is made with (`clear` and `evict` have none) -/
def opClock : Op → Option Int
  | .set _ now .. | .add _ now .. | .touch _ now .. | .incr _ now .. | .get _ now ..
  | .contains _ now .. | .pop _ now .. | .delitem _ now .. | .delete _ now ..
  | .push _ now .. | .pull _ now .. | .peek _ now .. | .peekitem _ now ..
  | .expire now | .cull now => some now
  | _ => none

/-- `Monotone` as a boolean function -/
def monotoneB : Int → List Op → Bool
  | _, [] => true
  | t, op :: ops =>
    match opClock op with
    | some n => decide (t ≤ n) && monotoneB n ops
    | none => monotoneB t ops

/-- clocks of a history never go backwards: each call's `now` is ≥ the previous clock (calls
without a clock keep it) -/
def Monotone (t : Int) (ops : List Op) : Prop := monotoneB t ops = true

instance (t : Int) (ops : List Op) : Decidable (Monotone t ops) :=
  inferInstanceAs (Decidable (monotoneB t ops = true))

theorem monotone_cons (t : Int) (op : Op) (ops : List Op) :
    Monotone t (op :: ops) ↔
      (∀ n, opClock op = some n → t ≤ n) ∧ Monotone ((opClock op).getD t) ops := by
  unfold Monotone
  rw [monotoneB]
  cases opClock op with
  | none => simp
  | some n => simp

def lastClock (t : Int) (ops : List Op) : Int := ops.foldl (fun t op => (opClock op).getD t) t

theorem monotone_append (t : Int) (ops : List Op) (op : Op) (h : Monotone t (ops ++ [op])) :
    Monotone t ops ∧ ∀ n, opClock op = some n → lastClock t ops ≤ n := by
  induction ops generalizing t with
  | nil =>
    have := (monotone_cons t op []).1 h
    exact ⟨rfl, this.1⟩
  | cons o os ih =>
    have h' := (monotone_cons t o (os ++ [op])).1 h
    obtain ⟨h1, h2⟩ := ih _ h'.2
    exact ⟨(monotone_cons t o os).2 ⟨h'.1, h1⟩, h2⟩

/-- the results of a history; the integer results of the four bulk removals (which count
physically stored rows) are masked by `.none`, as in `Spec.step` -/
def outs (c : Cache) : List Op → List Out
  | [] => []
  | op :: ops => (if Determined op then (c.step op).2 else .none) :: outs (c.step op).1 ops

theorem step_good (c : Cache) (op : Op) (hk : Keyed op = true) (hg : Good c) : Good (c.step op).1 := by
  cases op <;> cases hk
  · exact set_good _ _ _ _ _ _ _ _ hg
  · exact add_good _ _ _ _ _ _ _ _ hg
  · exact touch_good _ _ _ _ _ hg
  · exact incr_good _ _ _ _ _ _ hg
  · exact get_good _ _ _ _ _ _ _ hg
  · exact ⟨hg.tinv.same rfl rfl rfl rfl, ⟨hg.finv.ref, hg.finv.inj, hg.finv.fresh, hg.finv.nodup⟩,
      hg.noOrphan, hg.depth, hg.snap, hg.pending, hg.created⟩
  · exact pop_good _ _ _ _ _ _ hg
  · exact delitem_good _ _ _ _ hg
  · exact delete_good _ _ _ _ hg
  · exact clear_good _ hg
  · exact evict_good _ _ hg
  · exact expire_good _ _ hg
  · exact cull_good _ _ hg

theorem lossy_of_refines {o1 o2 : Out} {c' : Cache} {m' : Spec.Dict} {now : Int}
    (h : o1 = o2 ∧ Refines c' m' now) : o1 = o2 ∧ ∃ L, Lossy c' m' now L ∧ L = [] :=
  ⟨h.1, [], lossy_nil h.2, rfl⟩

/-- what one call may evict: `L` are the rows evicted by `op` in state `c` -/
def Evicted (c : Cache) (op : Op) (L : List Row) : Prop :=
  match op with
  | .set E now k v _ read _ => WriteLoss c (c.step op).1 (keyOf E c.cfg k) now
      (placedSize (place E c.cfg.disk c.cfg.minFileSize v read)) L
  | .add E now k v _ read _ => WriteLoss c (c.step op).1 (keyOf E c.cfg k) now
      (placedSize (place E c.cfg.disk c.cfg.minFileSize v read)) L
  | .incr E now k delta dflt => WriteLoss c (c.step op).1 (keyOf E c.cfg k) now
      (incrWriteSize E c.cfg delta dflt) L
  | .cull now => CullLoss c (c.step op).1 (c.step op).2 now L
  | _ => L = []

/-- **one call, every policy**: its result is the dictionary's result, and the state after it
represents the dictionary after it minus the keys of the rows `L` the call evicted -/
theorem step_refines_lossy (c : Cache) (m : Spec.Dict) (clock : Int) (op : Op)
    (hg : Good c)
    (hpg : 0 < c.cfg.page) -- page size of the bulk-removal loops, see `clear_refines`
    (hr : Refines c m clock) (hk : Keyed op = true)
    (hm : ∀ n, opClock op = some n → clock ≤ n) :
    (if Determined op then (c.step op).2 else .none) = (Spec.step m c.cfg op).2 ∧
    ∃ L, Lossy (c.step op).1 (Spec.step m c.cfg op).1 ((opClock op).getD clock) L ∧
      Evicted c op L := by
  cases op <;> cases hk
  · exact set_refines_lossy c m clock _ _ _ _ _ _ _ hg hr (hm _ rfl)
  · exact add_refines_lossy c m clock _ _ _ _ _ _ _ hg hr (hm _ rfl)
  · exact lossy_of_refines (touch_refines c m clock _ _ _ _ hg hr (hm _ rfl))
  · exact incr_refines_lossy c m clock _ _ _ _ _ hg hr (hm _ rfl)
  · exact lossy_of_refines (get_refines_any c m clock _ _ _ _ _ _ hg hr (hm _ rfl))
  · exact lossy_of_refines (contains_refines c m clock _ _ _ hg hr (hm _ rfl))
  · exact lossy_of_refines (pop_refines c m clock _ _ _ _ _ hg hr (hm _ rfl))
  · exact lossy_of_refines (delitem_refines c m clock _ _ _ hg hr (hm _ rfl))
  · exact lossy_of_refines (delete_refines c m clock _ _ _ hg hr (hm _ rfl))
  · exact ⟨rfl, [], lossy_nil (clear_refines c m clock hg hpg hr), rfl⟩
  · exact ⟨rfl, [], lossy_nil (evict_refines c m clock _ hg hpg hr), rfl⟩
  · exact ⟨rfl, [], lossy_nil (expire_refines c m clock _ hg hpg hr (hm _ rfl)), rfl⟩
  · exact ⟨rfl, cull_refines_lossy c m clock _ hg hpg hr (hm _ rfl)⟩

theorem evicted_cases {c : Cache} {op : Op} {L : List Row} (h : Evicted c op L) :
    (∃ K now w, WriteLoss c (c.step op).1 K now w L) ∨
    (∃ now, op = .cull now ∧ CullLoss c (c.step op).1 (c.step op).2 now L) ∨ L = [] := by
  cases op with
  | set | add | incr => exact .inl ⟨_, _, _, h⟩
  | cull now => exact .inr (.inl ⟨now, rfl, h⟩)
  | _ => exact .inr (.inr h)

/-- policy `none` never evicts (the other limits on what may be dropped: C03_Lossy) -/
theorem evicted_policy_none {c : Cache} {op : Op} {L : List Row} (h : Evicted c op L)
    (hp : c.cfg.policy = .none) : L = [] := by
  rcases evicted_cases h with ⟨_, _, _, hW⟩ | ⟨_, _, hC⟩ | h
  · exact hW.loss.polNone hp
  · exact hC.polNone hp
  · exact h

/-- one call: its result is the dictionary's result, and the states correspond at the call's
clock -/
theorem step_refines (c : Cache) (m : Spec.Dict) (clock : Int) (op : Op)
    (hg : Good c) (hp : c.cfg.policy = .none)
    (hpg : 0 < c.cfg.page) -- page size of the bulk-removal loops, see `clear_refines`
    (hr : Refines c m clock) (hk : Keyed op = true)
    (hm : ∀ n, opClock op = some n → clock ≤ n) :
    (if Determined op then (c.step op).2 else .none) = (Spec.step m c.cfg op).2 ∧
    Refines (c.step op).1 (Spec.step m c.cfg op).1 ((opClock op).getD clock) := by
  obtain ⟨ho, L, hL, hE⟩ := step_refines_lossy c m clock op hg hpg hr hk hm
  rw [evicted_policy_none hE hp] at hL
  exact ⟨ho, lossy_nil_iff.1 hL⟩

/-- no call of the specification changes the configuration: the eviction policy stays `none`,
the page size stays positive -/
theorem step_cfg (c : Cache) (op : Op) (hk : Keyed op = true) (hp : c.cfg.policy = .none) :
    (c.step op).1.cfg = c.cfg := rf_step_cfg_gen c op hk

theorem step_policy (c : Cache) (op : Op) (hk : Keyed op = true) (hp : c.cfg.policy = .none) :
    (c.step op).1.cfg.policy = .none := by rw [step_cfg c op hk hp]; exact hp

theorem run_cons (c : Cache) (op : Op) (ops : List Op) : c.run (op :: ops) = (c.step op).1.run ops := rfl

theorem spec_run_cons (m : Spec.Dict) (cfg : Cfg) (op : Op) (ops : List Op) :
    Spec.run m cfg (op :: ops) = Spec.run (Spec.step m cfg op).1 cfg ops := rfl

/-- the rows evicted along a history, one list per call -/
def EvictedRun (c : Cache) : List Op → List (List Row) → Prop
  | [], Ls => Ls = []
  | op :: ops, L :: Ls => Evicted c op L ∧ EvictedRun (c.step op).1 ops Ls
  | _ :: _, [] => False

/-- the history theorem for every eviction policy, with everything the induction carries: the
final state is quiescent and has the configuration of the initial one -/
theorem run_refines_lossy_strong (c : Cache) (m : Spec.Dict) (clock : Int) (ops : List Op)
    (hg : Good c) (hpg : 0 < c.cfg.page)
    (hr : Refines c m clock) (hk : ∀ op ∈ ops, Keyed op = true) (hm : Monotone clock ops) :
    ∃ Ls : List (List Row), EvictedRun c ops Ls ∧
      outs c ops = Spec.outsLossy m c.cfg ops (Ls.map (·.map rowKey)) ∧
      Refines (c.run ops) (Spec.runLossy m c.cfg ops (Ls.map (·.map rowKey))) (lastClock clock ops) ∧
      Good (c.run ops) ∧ (c.run ops).cfg = c.cfg := by
  induction ops generalizing c m clock with
  | nil => exact ⟨[], rfl, rfl, hr, hg, rfl⟩
  | cons op ops ih =>
    have hkop := hk op (List.mem_cons_self)
    have hcfg := rf_step_cfg_gen c op hkop
    obtain ⟨hm1, hm'⟩ := (monotone_cons clock op ops).1 hm
    obtain ⟨ho, L, hL, hE⟩ := step_refines_lossy c m clock op hg hpg hr hkop hm1
    obtain ⟨Ls, h0, h1, h3, h4, h5⟩ := ih (c.step op).1 (dropKeys (Spec.step m c.cfg op).1 (L.map rowKey))
      ((opClock op).getD clock) (step_good c op hkop hg)
      (by rw [hcfg]; exact hpg) hL.refines (fun o ho => hk o (List.mem_cons_of_mem _ ho)) hm'
    rw [hcfg] at h1 h3 h5
    refine ⟨L :: Ls, ⟨hE, h0⟩, ?_, ?_, h4, h5⟩
    · show _ :: _ = _ :: _
      rw [ho, h1]; rfl
    · rw [run_cons]; exact h3

theorem evictedRun_policy_none (c : Cache) (ops : List Op) (Ls : List (List Row))
    (hk : ∀ op ∈ ops, Keyed op = true) (hp : c.cfg.policy = .none) (h : EvictedRun c ops Ls) :
    ∀ L ∈ Ls, L = [] := by
  induction ops generalizing c Ls with
  | nil => intro L hL; rw [show Ls = [] from h] at hL; exact absurd hL List.not_mem_nil
  | cons op ops ih =>
    cases Ls with
    | nil => exact absurd h id
    | cons L0 Ls =>
      intro L hL
      rcases List.mem_cons.1 hL with rfl | hL
      · exact evicted_policy_none h.1 hp
      · exact ih (c.step op).1 Ls (fun o ho => hk o (List.mem_cons_of_mem _ ho))
          (by rw [rf_step_cfg_gen c op (hk op List.mem_cons_self)]; exact hp) h.2 L hL

theorem runLossy_nils (m : Spec.Dict) (cfg : Cfg) (ops : List Op) (drops : List (List Spec.Key))
    (h : ∀ d ∈ drops, d = []) :
    Spec.runLossy m cfg ops drops = Spec.run m cfg ops ∧
    Spec.outsLossy m cfg ops drops = Spec.outs m cfg ops := by
  induction ops generalizing m drops with
  | nil => exact ⟨rfl, rfl⟩
  | cons op ops ih =>
    have hh : drops.headD [] = [] := by
      cases drops with
      | nil => rfl
      | cons d ds => exact h d List.mem_cons_self
    have ht : ∀ d ∈ drops.tail, d = [] := fun d hd => h d (List.mem_of_mem_tail hd)
    obtain ⟨i1, i2⟩ := ih (dropKeys (Spec.step m cfg op).1 (drops.headD [])) drops.tail ht
    rw [hh, rf_dropKeys_nil] at i1 i2
    refine ⟨?_, ?_⟩
    · show Spec.runLossy (dropKeys (Spec.step m cfg op).1 (drops.headD [])) cfg ops drops.tail = _
      rw [hh, rf_dropKeys_nil, i1]; rfl
    · show _ :: Spec.outsLossy (dropKeys (Spec.step m cfg op).1 (drops.headD [])) cfg ops drops.tail = _
      rw [hh, rf_dropKeys_nil, i2]; rfl

/-- without an eviction policy every drop list is empty and the lossy dictionary is the
dictionary: the results agree, the final states correspond at the clock of the last call, the
final state is quiescent and has the configuration of the initial one -/
theorem run_refines_strong (c : Cache) (m : Spec.Dict) (clock : Int) (ops : List Op)
    (hg : Good c) (hp : c.cfg.policy = .none) (hpg : 0 < c.cfg.page)
    (hr : Refines c m clock) (hk : ∀ op ∈ ops, Keyed op = true) (hm : Monotone clock ops) :
    outs c ops = Spec.outs m c.cfg ops ∧
    Refines (c.run ops) (Spec.run m c.cfg ops) (lastClock clock ops) ∧
      Good (c.run ops) ∧ (c.run ops).cfg = c.cfg := by
  obtain ⟨Ls, h0, h1, h2, h3⟩ := run_refines_lossy_strong c m clock ops hg hpg hr hk hm
  have hnil : ∀ d ∈ Ls.map (·.map rowKey), d = [] := by
    intro d hd
    obtain ⟨L, hL, rfl⟩ := List.mem_map.1 hd
    rw [evictedRun_policy_none c ops Ls hk hp h0 L hL]; rfl
  obtain ⟨e1, e2⟩ := runLossy_nils m c.cfg ops _ hnil
  rw [e2] at h1
  rw [e1] at h2
  exact ⟨h1, h2, h3⟩

/-- **the history theorem**: on a cache without size limit, every call of a history of
key-addressed calls with a non-decreasing clock returns what the reference dictionary returns,
and the final states correspond.
(`outs`/`Spec.outs` mask the integer results of clear/evict/expire/cull by `.none` on both
sides: they count physically stored rows, which the dictionary does not determine.) -/
theorem run_refines (c : Cache) (m : Spec.Dict) (clock : Int) (ops : List Op)
    (hg : Good c) (hp : c.cfg.policy = .none)
    (hpg : 0 < c.cfg.page) -- page size of the bulk-removal loops, see `clear_refines`
    (hr : Refines c m clock) (hk : ∀ op ∈ ops, Keyed op = true) (hm : Monotone clock ops) :
    outs c ops = Spec.outs m c.cfg ops ∧
    ∃ clock', Refines (c.run ops) (Spec.run m c.cfg ops) clock' := by
  obtain ⟨h1, h2, -⟩ := run_refines_strong c m clock ops hg hp hpg hr hk hm
  exact ⟨h1, _, h2⟩

/-! ### the empty cache, the user-level corollary, non-vacuity -/

/-- **what a user sees**: after any history of key-addressed calls with a non-decreasing clock
on a fresh cache without size limit, `get` returns exactly what `get` on the dictionary built
by that history returns — the stored value (with expiry time / tag if asked for) if the key
was set and neither removed nor expired at `now`, the default otherwise. -/
theorem get_after_history (cf : Cfg) (st : Bool) (ops : List Op) (E : Externals) (now : Int)
    (k : PyVal) (read et tg : Bool)
    (hp : cf.policy = .none) (hpg : 0 < cf.page)
    (hk : ∀ op ∈ ops, Keyed op = true)
    (hm : Monotone 0 (ops ++ [.get E now k read et tg])) :
    ((({ cfg := cf, statistics := st } : Cache).run ops).get E now k read et tg).2 =
      (Spec.get (Spec.run [] cf ops) E cf now k read et tg).2 := by
  obtain ⟨hm1, hm2⟩ := monotone_append 0 ops _ hm
  obtain ⟨-, h2, h3, h4⟩ := run_refines_strong ({ cfg := cf, statistics := st } : Cache) [] 0 ops
    (good_init cf st) hp hpg (refines_init' cf st 0) hk hm1
  have := (get_refines _ _ _ now E k read et tg h3 (by rw [h4]; exact hp) h2 (hm2 now rfl)).1
  rw [h4] at this
  exact this

/-- non-vacuity: a concrete history on a fresh cache without size limit.  `a` is set with a
ttl, incremented, read with its expiry time, re-added after it expired (with a tag), a missing
key is read, expired items are dropped, `a` is popped, everything is cleared. -/
def exCache : Cache := { cfg := { policy := .none } }

def exOps : List Op :=
  [ .set toyV 10 (.str [97]) (.int 7) (some 5) false .null,
    .incr toyV 12 (.str [97]) 1 none,
    .get toyV 14 (.str [97]) false true false,
    .add toyV 14 (.str [97]) (.int 1) none false (.text [116]),
    .add toyV 20 (.str [97]) (.int 1) (some 3) false (.text [116]),
    .get toyV 20 (.str [98]) false false false,
    .touch toyV 21 (.str [97]) none,
    .expire 30,
    .pop toyV 31 (.str [97]) false true,
    .delete toyV 31 (.str [97]),
    .clear ]

example : outs exCache exOps = Spec.outs [] exCache.cfg exOps ∧
    ∃ clock', Refines (exCache.run exOps) (Spec.run [] exCache.cfg exOps) clock' :=
  run_refines exCache [] 0 exOps (good_init _ _) rfl (by decide) (refines_init' _ _ 0)
    (by decide) (by decide +kernel)

/-- what the cache (and the dictionary) returns along that history -/
example : outs exCache exOps =
    [.bool true, .int 8, .tup [.val (.int 8), .time (some 15)], .bool false, .bool true, .default,
     .bool true, .none, .tup [.val (.int 1), .sql (.text [116])], .bool false, .none] :=
  (run_refines exCache [] 0 exOps (good_init _ _) rfl (by decide) (refines_init' _ _ 0)
    (by decide) (by decide +kernel)).1.trans (by rfl)

/-- what the dictionary returns along that history -/
example : Spec.outs [] exCache.cfg exOps =
    [.bool true, .int 8, .tup [.val (.int 8), .time (some 15)], .bool false, .bool true, .default,
     .bool true, .none, .tup [.val (.int 1), .sql (.text [116])], .bool false, .none] := by
  rfl

end DC.Cache
