/-
C03 / C08 (sequential part) — every public method keeps the table well formed:
rowids ascending and positive, no two rows with equal (key, raw), no NULL key,
Settings.count = number of rows, Settings.size = sum of the rows' sizes — for
every state, every argument, every clock value, every observation, inside and
outside transaction blocks (the snapshot a ROLLBACK restores is well formed too).
By induction this holds after every finite call history (`run_inv`).
-/
import DC.Proofs.Inv
import DC.Model.Run

namespace DC.Cache

theorem inv_init (c : Cfg) (st : Bool) : TableInv ({ cfg := c, statistics := st } : Cache) := by
  exact ⟨TableOk.nil, nofun⟩

theorem set_inv (s : Cache) (E : Externals) (now : Int) (k v : PyVal) (ttl : Option Int) (read : Bool)
    (tag : SqlVal) (h : TableInv s) : TableInv (s.set E now k v ttl read tag).1 := by
  unfold set
  have hnn := put_ne_null' E s.cfg.disk k
  generalize DC.put E s.cfg.disk k = p at hnn ⊢
  obtain ⟨dbk, raw⟩ := p
  simp only at hnn ⊢
  split
  · exact h
  · rename_i s' c hst
    refine transact_inv _ _ (store_inv hst h).1 fun t ht _ => ?_
    have ht1 := logSql_inv "selKey" ht
    split; · exact log_inv _ ht
    split; · exact log_inv _ ht1
    split
    · exact cullW_inv now none (updRow_inv _ now _ ht1)
    · rename_i hold
      exact cullW_inv now none (insRow_inv _ _ _ _ ht1 ((selKey_rows rfl dbk raw).trans hold) hnn)

theorem add_inv (s : Cache) (E : Externals) (now : Int) (k v : PyVal) (ttl : Option Int) (read : Bool)
    (tag : SqlVal) (h : TableInv s) : TableInv (s.add E now k v ttl read tag).1 := by
  unfold add
  have hnn := put_ne_null' E s.cfg.disk k
  generalize DC.put E s.cfg.disk k = p at hnn ⊢
  obtain ⟨dbk, raw⟩ := p
  simp only at hnn ⊢
  split
  · exact h
  · rename_i s' c hst
    refine transact_inv _ _ (store_inv hst h).1 fun t ht _ => ?_
    have ht1 := logSql_inv "selKey" ht
    split; · exact log_inv _ ht
    split
    · split; · exact ht1
      split; · exact log_inv _ ht1
      exact cullW_inv now none (updRow_inv _ now _ ht1)
    · rename_i hold
      split; · exact log_inv _ ht1
      exact cullW_inv now none (insRow_inv _ _ _ _ ht1 ((selKey_rows rfl dbk raw).trans hold) hnn)

theorem touch_inv (s : Cache) (E : Externals) (now : Int) (k : PyVal) (ttl : Option Int)
    (h : TableInv s) : TableInv (s.touch E now k ttl).1 := by
  unfold touch
  rcases DC.put E s.cfg.disk k with ⟨dbk, raw⟩
  simp only
  refine transact_inv _ _ h fun t ht _ => ?_
  have ht1 := logSql_inv "selKey" ht
  split
  · split
    · exact updExp_inv _ _ ht1
    · exact ht1
  · exact ht1

theorem incr_inv (s : Cache) (E : Externals) (now : Int) (k : PyVal) (delta : Int) (dflt : Option Int)
    (h : TableInv s) : TableInv (s.incr E now k delta dflt).1 := by
  rw [incr_eq]
  refine transact_inv _ _ h fun t ht _ => ?_
  have ht1 := logSql_inv "selKey" ht
  rcases incrBody_exits E _ _ now delta dflt t _ rfl with
    ⟨-, tr, e⟩ | ⟨r, v, -, -, -, e⟩ | ⟨v, s1, c, hst, -, ⟨hsel, e, -⟩ | ⟨r, -, e, -⟩⟩ <;> rw [e]
  · exact ht.same rfl rfl rfl rfl
  · exact updIncr_inv _ _ _ ht1
  · obtain ⟨h', hrows⟩ := store_inv hst ht1
    exact cullW_inv now none (insRow_inv _ _ _ _ (regCreated_inv _ h')
      ((selKey_rows ((regCreated_rows _ _).trans hrows) _ _).trans hsel) (put_ne_null' E s.cfg.disk k))
  · exact cullW_inv now none (updRow_inv _ now _ (regCreated_inv _ (store_inv hst ht1).1))

theorem get_inv (s : Cache) (E : Externals) (now : Int) (k : PyVal) (read et tg : Bool)
    (h : TableInv s) : TableInv (s.get E now k read et tg).1 := by
  rw [get_eq]
  split
  · obtain ⟨tr, e⟩ := getFast_fst E _ _ now read et tg s
    rw [e]
    exact h.same rfl rfl rfl rfl
  · refine transact_inv _ _ h fun t ht _ => ?_
    obtain ⟨-, -, tr, hh, m, e | ⟨id, e⟩⟩ := getBody_exits E _ _ now read et tg t <;> rw [e]
    · exact ht.same rfl rfl rfl rfl
    · exact updGet_inv _ _ (ht.same rfl rfl rfl rfl)

theorem contains_inv (s : Cache) (E : Externals) (now : Int) (k : PyVal)
    (h : TableInv s) : TableInv (s.contains E now k).1 := by
  exact logSql_inv _ h

theorem pop_inv (s : Cache) (E : Externals) (now : Int) (k : PyVal) (et tg : Bool)
    (h : TableInv s) : TableInv (s.pop E now k et tg).1 := by
  exact pop_keeps queueSteps_inv E now k et tg h

theorem delitem_inv (s : Cache) (E : Externals) (now : Int) (k : PyVal)
    (h : TableInv s) : TableInv (s.delitem E now k).1 := by
  unfold delitem
  rcases DC.put E s.cfg.disk k with ⟨dbk, raw⟩
  simp only
  refine transact_inv _ _ h fun t ht _ => ?_
  have h1 := logSql_inv "selLive" ht
  split
  · exact h1
  · exact delRow_inv _ h1

theorem delete_fst (s : Cache) (E : Externals) (now : Int) (k : PyVal) :
    (s.delete E now k).1 = (s.delitem E now k).1 := by
  unfold delete
  split <;> simp_all

theorem delete_inv (s : Cache) (E : Externals) (now : Int) (k : PyVal)
    (h : TableInv s) : TableInv (s.delete E now k).1 := by
  rw [delete_fst]
  exact delitem_inv s E now k h

theorem push_inv (s : Cache) (E : Externals) (now : Int) (v : PyVal) (pfx : Option Str) (back : Bool)
    (ttl : Option Int) (read : Bool) (tag : SqlVal) (h : TableInv s) :
    TableInv (s.push E now v pfx back ttl read tag).1 := by
  unfold push
  split
  · exact h
  · rename_i s' c hst
    refine transact_inv _ _ (store_inv hst h).1 fun t ht _ => ?_
    have ht1 := logSql_inv "selQueueEnd" ht
    simp only
    split; · exact ht1
    split; · exact log_inv _ ht1
    split; · exact log_inv _ ht1
    rename_i hsel _
    exact cullW_inv now none (insRow_inv _ _ _ _ ht1 (Option.not_isSome_iff_eq_none.1 hsel)
      (queueKey_ne_null _ _))

theorem pull_inv (s : Cache) (E : Externals) (now : Int) (pfx : Option Str) (front et tg : Bool)
    (h : TableInv s) : TableInv (s.pull E now pfx front et tg).1 := by
  exact pullLoop_inv E now pfx front et tg _ h

theorem peek_inv (s : Cache) (E : Externals) (now : Int) (pfx : Option Str) (front et tg : Bool)
    (h : TableInv s) : TableInv (s.peek E now pfx front et tg).1 := by
  exact peekLoop_inv E now pfx front et tg _ h

theorem peekitem_inv (s : Cache) (E : Externals) (now : Int) (last et tg : Bool)
    (h : TableInv s) : TableInv (s.peekitem E now last et tg).1 := by
  exact peekitemLoop_keeps queueSteps_inv E now last et tg _ h

theorem clear_inv (s : Cache) (h : TableInv s) : TableInv (s.clear).1 := by
  show TableInv (clearLoop (s.rows.length + 1) s 0 0).1
  exact clearLoop_keeps pageStep_inv _ _ _ h

theorem evict_inv (s : Cache) (tag : SqlVal) (h : TableInv s) : TableInv (s.evict tag).1 := by
  show TableInv (evictLoop tag (s.rows.length + 1) s 0 0).1
  exact evictLoop_keeps pageStep_inv tag _ _ _ h

theorem expire_inv (s : Cache) (now : Int) (h : TableInv s) : TableInv (s.expire now).1 := by
  show TableInv (expireLoop now (s.rows.length + 1) s none 0).1
  exact expireLoop_inv now _ _ _ h

theorem cull_inv (s : Cache) (now : Int) (h : TableInv s) : TableInv (s.cull now).1 := by
  rw [cull_eq]
  split
  · exact expireLoop_inv now _ _ _ h
  · exact cullLoop_keeps (P := TableInv) volume_inv (fun sel h => transact_log_inv h sel .none true)
      (fun _ _ h => transact_inv _ _ h fun _ ht _ => logSql_inv _ (delIn_inv _ (logSql_inv _ ht)))
      _ _ (expireLoop_inv now _ _ _ h)

theorem iter_inv (s : Cache) (E : Externals) (asc : Bool) (h : TableInv s) : TableInv (s.iter E asc).1 := by
  unfold iter
  simp only
  split
  · exact logSql_inv _ h
  · exact iterLoop_keeps logSql_inv asc _ _ _ _ (logSql_inv _ h)

theorem iterkeys_inv (s : Cache) (E : Externals) (rev : Bool) (h : TableInv s) :
    TableInv (s.iterkeys E rev).1 := by
  unfold iterkeys
  simp only
  split
  · exact logSql_inv _ h
  · exact iterkeysLoop_keeps logSql_inv rev _ _ _ (logSql_inv _ h)

theorem len_inv (s : Cache) (h : TableInv s) : TableInv (s.len).1 := by
  exact logSql_inv _ h

theorem stats_inv (s : Cache) (enable reset : Bool) (h : TableInv s) : TableInv (s.stats enable reset).1 := by
  have h1 : TableInv ((s.logSql "getHits").logSql "getMisses") := logSql_inv _ (logSql_inv _ h)
  -- peel the statements from the outside: the state below each stays a variable
  refine logSql_inv _ (TableInv.same (s := if reset then _ else _) ?_ rfl rfl rfl rfl)
  split
  · exact logSql_inv _ (logSql_inv _ (h1.same rfl rfl rfl rfl))
  · exact h1

theorem tbegin_inv (s : Cache) (h : TableInv s) : TableInv s.tbegin := by
  exact tbegin_inv' h

theorem tend_inv (s : Cache) (h : TableInv s) : TableInv s.tend := by
  exact tend_inv' h

theorem traise_inv (s : Cache) (n : Nat) (h : TableInv s) : TableInv (s.traise n) := by
  exact traise_inv' n h

/-- `len()` is the number of stored rows in every reachable state -/
theorem len_exact (s : Cache) (h : TableInv s) : (s.len).2 = .int s.rows.length := by
  show Out.int s.count = _
  rw [h.tbl.count]

/-- a look-up addresses at most one row: the row found by key is the only row with that key -/
theorem lookup_unique (s : Cache) (h : TableInv s) (k : SqlVal) (raw : Bool) (r r' : Row)
    (hr : r ∈ s.rows) (hr' : r' ∈ s.rows) (hk : keyMatch k raw r = true) (hk' : keyMatch k raw r' = true)
    (hnn : k ≠ .null) : r = r' := by
  have _ := hnn
  exact keysUnique_eq h.tbl.uniq hr hr' hk hk'

/-- nothing else is touched by `set`: every other row is unchanged, unless the lazy cull of
this write removed it (C04/C09 say which rows that can be) -/
theorem set_other_rows (s : Cache) (E : Externals) (now : Int) (k v : PyVal) (ttl : Option Int)
    (read : Bool) (tag : SqlVal) (h : TableInv s) :
    ∀ r ∈ (s.set E now k v ttl read tag).1.rows,
      keyMatch (DC.put E s.cfg.disk k).1 (DC.put E s.cfg.disk k).2 r = false → r ∈ s.rows := by
  unfold set
  have hnn := put_ne_null' E s.cfg.disk k
  generalize DC.put E s.cfg.disk k = p at hnn ⊢
  rcases p with ⟨dbk, raw⟩
  simp only at hnn ⊢
  split
  · intro r hr _; exact hr
  · rename_i s' c hst
    obtain ⟨h', hrows⟩ := store_inv hst h
    refine transact_rows_of _ _ (fun l => ∀ r ∈ l, keyMatch dbk raw r = false → r ∈ s.rows) ?_
    intro t hr hc hz hs
    have ht : TableInv t := h'.same hr hc hz hs
    have hts : t.rows = s.rows := hr.trans hrows
    refine ⟨?_, fun _ => by rw [hrows]; intro r hr _; exact hr⟩
    split
    · intro r hr _; rw [← hts]; exact hr
    · split
      · intro r hr _; rw [← hts]; exact hr
      · cases hold : t.selKey dbk raw with
        | none =>
          intro r hr hkm
          have hI := insRow_inv dbk raw now
            { c with expT := ttl.map (now + ·), tag := tag } (logSql_inv "selKey" ht) hold hnn
          have hsub := cullW_sublist _ now hI.tbl.asc
          rcases insRow_mem _ _ _ _ (hsub.subset hr) with ⟨h1, h2⟩ | hm
          · simp [keyMatch, h1, h2, eqv_self hnn] at hkm
          · rw [← hts]; exact hm
        | some r0 =>
          intro r hr hkm
          have hr0 : r0 ∈ t.rows := List.mem_of_find?_eq_some hold
          have hk0 : keyMatch dbk raw r0 = true := List.find?_some hold
          have hU := updRow_inv r0.rowid now
            { c with expT := ttl.map (now + ·), tag := tag } (logSql_inv "selKey" ht)
          have hsub := cullW_sublist _ now hU.tbl.asc
          rcases updRow_mem (s := t.logSql "selKey") ht.tbl.asc hr0 now _ (hsub.subset hr) with ⟨h1, h2⟩ | hm
          · simp only [keyMatch, h1, h2] at hkm hk0
            rw [hk0] at hkm; cases hkm
          · rw [← hts]; exact hm

/-- nothing else is touched by `delete`/`del`: exactly the live row of that key leaves -/
theorem delete_rows (s : Cache) (E : Externals) (now : Int) (k : PyVal) (h : TableInv s) :
    (s.delete E now k).1.rows =
      match s.selLive (DC.put E s.cfg.disk k).1 (DC.put E s.cfg.disk k).2 now with
      | some r => s.rows.filter (fun x => x.rowid != r.rowid)
      | none => s.rows := by
  have _ := h
  rw [delete_fst]
  unfold delitem
  generalize DC.put E s.cfg.disk k = p
  rcases p with ⟨dbk, raw⟩
  simp only
  refine transact_rows_of _ _ (fun l => l = match s.selLive dbk raw now with
      | some r => s.rows.filter (fun x => x.rowid != r.rowid)
      | none => s.rows) ?_
  intro t hrows _ _ _
  rw [selLive_rows hrows]
  cases hsel : s.selLive dbk raw now with
  | none => exact ⟨hrows, fun _ => rfl⟩
  | some r =>
    refine ⟨?_, fun hc => by cases hc⟩
    show ((t.logSql "selLive").delRowQuiet r.rowid).rows = _
    rw [delRowQuiet_rows, logSql_rows, hrows]

/-- reads never change the set of stored keys and values -/
theorem get_rows_keys (s : Cache) (E : Externals) (now : Int) (k : PyVal) (read et tg : Bool) :
    (s.get E now k read et tg).1.rows.map (fun r => (r.rowid, r.key, r.raw, r.val, r.file, r.expT, r.tag)) =
    s.rows.map (fun r => (r.rowid, r.key, r.raw, r.val, r.file, r.expT, r.tag)) := by
  show (s.get E now k read et tg).1.rows.map readProj = s.rows.map readProj
  rw [get_eq]
  split
  · obtain ⟨tr, e⟩ := getFast_fst E _ _ now read et tg s
    rw [e]
  · refine transact_rows_of _ _ (fun l => l.map readProj = s.rows.map readProj) fun t hrows _ _ _ =>
      ⟨?_, fun _ => rfl⟩
    obtain ⟨-, -, tr, hh, m, e | ⟨id, e⟩⟩ := getBody_exits E _ _ now read et tg t <;> rw [e, ← hrows]
    exact updGet_readProj _ _ _

end DC.Cache

namespace DC.Cache

/-- every single call keeps the table well formed -/
theorem step_inv (s : Cache) (op : Op) (h : TableInv s) : TableInv (s.step op).1 := by
  cases op with
  | set => exact set_inv (h := h) ..
  | add => exact add_inv (h := h) ..
  | touch => exact touch_inv (h := h) ..
  | incr => exact incr_inv (h := h) ..
  | get => exact get_inv (h := h) ..
  | contains => exact contains_inv (h := h) ..
  | pop => exact pop_inv (h := h) ..
  | delitem => exact delitem_inv (h := h) ..
  | delete => exact delete_inv (h := h) ..
  | push => exact push_inv (h := h) ..
  | pull => exact pull_inv (h := h) ..
  | peek => exact peek_inv (h := h) ..
  | peekitem => exact peekitem_inv (h := h) ..
  | clear => exact clear_inv (h := h) ..
  | evict => exact evict_inv (h := h) ..
  | expire => exact expire_inv (h := h) ..
  | cull => exact cull_inv (h := h) ..
  | iter => exact iter_inv (h := h) ..
  | iterkeys => exact iterkeys_inv (h := h) ..
  | len => exact len_inv (h := h) ..
  | stats => exact stats_inv (h := h) ..
  | tbegin => exact tbegin_inv (h := h) ..
  | tend => exact tend_inv (h := h) ..
  | traise => exact traise_inv (h := h) ..
  | observe => exact ⟨h.tbl, h.snap⟩

/-- C03/C08: after EVERY finite call history — any methods, any arguments, any clock
trajectory, any observations, any nesting of transaction blocks, commits and aborts —
the table is well formed: no two rows for one key, `len` = number of rows,
Settings.size = Σ row sizes. -/
theorem run_inv (s : Cache) (ops : List Op) (h : TableInv s) : TableInv (s.run ops) := by
  induction ops generalizing s with
  | nil => exact h
  | cons op ops ih => exact ih _ (step_inv s op h)

/-- in particular for every history from an empty cache -/
theorem reachable_inv (c : Cfg) (st : Bool) (ops : List Op) :
    TableInv (({ cfg := c, statistics := st } : Cache).run ops) :=
  run_inv _ ops (inv_init c st)

end DC.Cache
