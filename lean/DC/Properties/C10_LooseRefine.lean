/-
C10 (loose refinement) — the regime outside `qrun_refines`: `cull_limit > 0` AND expiry
times on pushed items (eviction policy `none`).  There the lazy cull of any write may
physically remove expired queue rows, and the key the next `push` hands out (`last physical
key ± 1`) depends on which ones are gone: `qrun_needs_quiet` (C10_Refine.lean) shows a key handed
out twice.  What holds — for EVERY history of the covered calls — is `qrun_loose`:

  there is a run of the reference in which each `push` takes the number of its item from the
  cache's answer (`QSpec.pushAt`; everything else is `QSpec.step`) such that
   * every call returns what that reference run returns (pull, peek, all key-addressed calls;
     the pushes by construction; bulk-removal counts masked as everywhere);
   * at every step `QLoose` holds: for EVERY prefix the cache's queue is the reference's queue
     `Thinned` — the same list without some items that are expired at the clock — and the
     dictionary part is related as in `Refines`;
   * (`QSpec.FreshRun`) the number a push takes is the number of no item of that queue that is
     still live (not expired at the time of the push).  It MAY be the number — hence the key —
     of an item that expired and was physically removed by a lazy cull: that is exactly the
     `qrun_needs_quiet` scenario (`exLooseOps` below runs it through `qrun_loose`).

Consequences (`QLoose.live_present`, `QLoose.sublist`, `QLoose.live_order`): no live (unexpired)
item is ever lost — every item of the reference's queue that is not expired is in the cache's
queue —; none is duplicated and the order is kept — the cache's queue is a sublist of the
reference's, and its live items are exactly the reference's live items in the same order —; and
since the results of pull / peek are the reference's, live items come out exactly once, in queue
order per side, whatever the lazy cull removed.

Hypotheses: `QOkL` (`QOk` without `quiet`: table and file invariants, policy `none`, page size,
well-formed queue keys, key budget `n` for the pushes, readable items); `QSpec.Covered`,
`QSpec.Ordinary`, `Monotone` as in `qrun_refines`; and
 * `PushTtlOk`: no push carries a NEGATIVE ttl (`expire < 0`, an item born expired).  The
   relation `Thinned` compares items by value; an item born expired can be equal to a removed
   expired one, which a value filter cannot tell apart.  `TtlOk` is the hypothesis of `push_back`
   in C10.lean as well.
   `qrun_loose` as stated needs it: `qrun_loose_needs_ttl` (C10_LooseNeeds.lean).
-/
import DC.Properties.C10_Loose

namespace DC.QSpec
open DC.Cache

/-- along the annotated run, the number given to a push is the number of no live item of that
queue -/
def FreshRun (q : State) (cfg : Cfg) : List (Cache.Op × Int) → Prop
  | [] => True
  | x :: xs =>
    (∀ E now v p back ttl read tag, x.1 = .push E now v p back ttl read tag →
      ∀ it ∈ q.queues.get p, it.ent.expired now = false → it.num ≠ x.2) ∧
    FreshRun (stepAt q cfg x.1 x.2).1 cfg xs

end DC.QSpec

namespace DC.Cache
open DC.Spec DC.QSpec

def PushTtlOk : Op → Prop
  | .push _ _ _ _ _ ttl _ _ => TtlOk ttl
  | _ => True

/-- no live item is lost: an item of the reference's queue that is not expired is in the cache -/
theorem QLoose.live_present {c : Cache} {q : QSpec.State} {clock : Int} (h : QLoose c q clock)
    {p : Option Str} {it : Item} (hit : it ∈ q.queues.get p) (hl : it.ent.expired clock = false) :
    it ∈ absQueue c p :=
  (h.queues p).live_mem hit hl

/-- nothing is duplicated or reordered: the cache's queue is a sublist of the reference's -/
theorem QLoose.sublist {c : Cache} {q : QSpec.State} {clock : Int} (h : QLoose c q clock) (p : Option Str) :
    (absQueue c p).Sublist (q.queues.get p) :=
  (h.queues p).sublist

theorem QLoose.live_order {c : Cache} {q : QSpec.State} {clock : Int} (h : QLoose c q clock) (p : Option Str) :
    (absQueue c p).filter (fun it => !it.ent.expired clock) =
      (q.queues.get p).filter (fun it => !it.ent.expired clock) := by
  obtain ⟨keep, e, hk⟩ := h.queues p
  rw [e, List.filter_filter]
  apply List.filter_congr
  intro it hit
  cases h1 : keep it with
  | true => simp
  | false => simp [hk it hit h1]

theorem no_push {op : Op} (h : (match op with | .push .. => false | _ => true) = true)
    {P : Externals → Int → PyVal → Option Str → Bool → Option Int → Bool → SqlVal → Prop} :
    ∀ E now v p back ttl read tag, op = .push E now v p back ttl read tag → P E now v p back ttl read tag := by
  intro E now v p back ttl read tag he
  subst he
  cases h

theorem qstep_loose (c : Cache) (q : QSpec.State) (n : Nat) (clock : Int) (op : Op)
    (hok : QOkL c (n + pushCost op)) (hr : QLoose c q clock)
    (hk : QSpec.Covered op = true) (ho : QSpec.Ordinary c.cfg op = true) (ht : PushTtlOk op)
    (hm : ∀ t, opClock op = some t → clock ≤ t) :
    ∃ num : Int,
      (if Determined op then (c.step op).2 else .none) = (QSpec.stepAt q c.cfg op num).2 ∧
      QLoose (c.step op).1 (QSpec.stepAt q c.cfg op num).1 ((opClock op).getD clock) ∧
      QOkL (c.step op).1 n ∧ (c.step op).1.cfg = c.cfg ∧
      (∀ E now v p back ttl read tag, op = .push E now v p back ttl read tag →
        ∀ it ∈ q.queues.get p, it.ent.expired now = false → it.num ≠ num) := by
  revert hok hr ho ht hm
  refine covered_cases ?_ ?_ ?_ ?_ ?_ ?_ ?_ ?_ op hk
  · intro E now v p back ttl read tag hok hr _ ht hm
    obtain ⟨num, h1, h2, h3, h4, h5⟩ := ql_push_step c q n clock now E v p back ttl read tag hok hr (hm _ rfl) ht
    refine ⟨num, h1, h2, h3, h4, ?_⟩
    intro E' now' v' p' back' ttl' read' tag' he it hit hl
    cases he
    exact h5 it (((hr.queues p).mono (hm _ rfl)).live_mem hit hl)
  · intro E now p front et tg hok hr _ _ hm
    have h := ql_pull_step c q n clock now E p front et tg hok hr (hm _ rfl)
    exact ⟨0, h.1, h.2.1, h.2.2.1, h.2.2.2, no_push rfl⟩
  · intro E now p front et tg hok hr _ _ hm
    have h := ql_peek_step c q n clock now E p front et tg hok hr (hm _ rfl)
    exact ⟨0, h.1, h.2.1, h.2.2.1, h.2.2.2, no_push rfl⟩
  · intro op hk hd _ hok hr ho _ hm
    have hok := hok.le (Nat.le_add_right n (pushCost op))
    obtain ⟨h1, h2, h3⟩ := keyed_qkeeps c q n clock op hok hr hk hd ho hm
    have hne : ∀ {E now v p back ttl read tag}, op ≠ .push E now v p back ttl read tag := by
      intro E now v p back ttl read tag he; subst he; cases hk
    have hst : QSpec.stepAt q c.cfg op 0 = QSpec.step q c.cfg op := by
      unfold QSpec.stepAt; split
      · exact absurd rfl hne
      · rfl
    refine ⟨0, ?_⟩
    rw [hd, hst]
    exact ⟨h1, h2, h3.okL hok, h3.cfg, fun _ _ _ _ _ _ _ _ he => absurd he hne⟩
  · intro hok hr _ _ _
    obtain ⟨hsh, hrows⟩ := clear_shrunk hok
    exact ⟨0, rfl, (qrefines_nil hrows clock).loose, hok.shrunk hsh, hsh.cfg, no_push rfl⟩
  · intro tag hok hr _ _ _
    have hsh := evict_shrunk hok tag
    have h := ql_bulk hok hr (Int.le_refl _) hsh (fun e => !e.tag.eqv tag) (fun _ => rfl)
    exact ⟨0, rfl, h.1, h.2, hsh.cfg, no_push rfl⟩
  · intro now hok hr _ _ hm
    have hsh := expire_shrunk hok now
    have h := ql_bulk hok hr (hm _ rfl) hsh (fun e => !e.expired now) (fun _ => rfl)
    exact ⟨0, rfl, h.1, h.2, hsh.cfg, no_push rfl⟩
  · intro now hok hr _ _ hm
    have hsh := cull_shrunk hok now
    have h := ql_bulk hok hr (hm _ rfl) hsh (fun e => !e.expired now) (fun _ => rfl)
    exact ⟨0, rfl, h.1, h.2, hsh.cfg, no_push rfl⟩

theorem QOkL.weaken {c : Cache} {n m : Nat} (h : QOkL c (n + m)) : QOkL c n :=
  h.le (Nat.le_add_right n m)

/-- the history theorem with everything the induction carries -/
theorem qrun_loose_strong (c : Cache) (q : QSpec.State) (n : Nat) (clock : Int) (ops : List Op)
    (hok : QOkL c (n + pushCosts ops)) (hr : QLoose c q clock)
    (hk : ∀ op ∈ ops, QSpec.Covered op = true) (ho : ∀ op ∈ ops, QSpec.Ordinary c.cfg op = true)
    (ht : ∀ op ∈ ops, PushTtlOk op) (hm : Monotone clock ops) :
    ∃ ns : List Int, ns.length = ops.length ∧
      outs c ops = QSpec.outsAt q c.cfg (ops.zip ns) ∧
      QLoose (c.run ops) (QSpec.runAt q c.cfg (ops.zip ns)) (lastClock clock ops) ∧
      QOkL (c.run ops) n ∧ (c.run ops).cfg = c.cfg ∧ QSpec.FreshRun q c.cfg (ops.zip ns) := by
  induction ops generalizing c q clock with
  | nil => exact ⟨[], rfl, rfl, hr, hok, rfl, trivial⟩
  | cons op ops ih =>
    have hcost : pushCosts (op :: ops) = pushCost op + pushCosts ops := by
      simp [pushCosts]
    rw [hcost, ← Nat.add_assoc, Nat.add_right_comm] at hok
    obtain ⟨hm1, hm'⟩ := (monotone_cons clock op ops).1 hm
    obtain ⟨num, s1, s2, s3, s4, s5⟩ := qstep_loose c q (n + pushCosts ops) clock op hok hr
      (hk op List.mem_cons_self) (ho op List.mem_cons_self) (ht op List.mem_cons_self) hm1
    obtain ⟨ns, h0, h1, h2, h3, h4, h5⟩ := ih (c.step op).1 (QSpec.stepAt q c.cfg op num).1
      ((opClock op).getD clock) s3 s2
      (fun o h => hk o (List.mem_cons_of_mem _ h))
      (fun o h => by rw [s4]; exact ho o (List.mem_cons_of_mem _ h))
      (fun o h => ht o (List.mem_cons_of_mem _ h)) hm'
    rw [s4] at h1 h2 h4 h5
    refine ⟨num :: ns, by simp [h0], ?_, ?_, h3, h4, ?_⟩
    · show _ :: _ = _ :: _
      rw [s1, h1]; rfl
    · exact h2
    · exact ⟨s5, h5⟩

/-- **the loose history theorem**: for every history of push / pull / peek on any prefixes and
sides — any ttl ≥ 0, any `cull_limit` — mixed with the key-addressed calls on ordinary keys and the
bulk removals, on a cache without size-based eviction, there is a run of the reference taking the
pushed items' numbers from the cache's answers such that all results agree, the final states
correspond loosely, and no push was given the number of a live item -/
theorem qrun_loose (c : Cache) (q : QSpec.State) (n : Nat) (clock : Int) (ops : List Op)
    (hok : QOkL c (n + pushCosts ops)) (hr : QLoose c q clock)
    (hk : ∀ op ∈ ops, QSpec.Covered op = true) (ho : ∀ op ∈ ops, QSpec.Ordinary c.cfg op = true)
    (ht : ∀ op ∈ ops, PushTtlOk op) (hm : Monotone clock ops) :
    ∃ ns : List Int, ns.length = ops.length ∧
      outs c ops = QSpec.outsAt q c.cfg (ops.zip ns) ∧
      (∃ clock', QLoose (c.run ops) (QSpec.runAt q c.cfg (ops.zip ns)) clock') ∧
      QSpec.FreshRun q c.cfg (ops.zip ns) := by
  obtain ⟨ns, h0, h1, h2, -, -, h5⟩ := qrun_loose_strong c q n clock ops hok hr hk ho ht hm
  exact ⟨ns, h0, h1, ⟨_, h2⟩, h5⟩

/-- … on a fresh cache (any `cull_limit`), with the consequences spelled out for the final state:
every live item of every reference queue is in the cache, and the cache's queues are sublists of
the reference's -/
theorem loose_after_history (cf : Cfg) (st : Bool) (ops : List Op)
    (hp : cf.policy = .none) (hpg : 0 < cf.page) (hor : cf.qorigin = 500000000000000)
    (hb : pushCosts ops ≤ 499999999999999)
    (hk : ∀ op ∈ ops, QSpec.Covered op = true) (ho : ∀ op ∈ ops, QSpec.Ordinary cf op = true)
    (ht : ∀ op ∈ ops, PushTtlOk op) (hm : Monotone 0 ops) :
    ∃ ns : List Int, ns.length = ops.length ∧
      outs ({ cfg := cf, statistics := st } : Cache) ops = QSpec.outsAt {} cf (ops.zip ns) ∧
      QSpec.FreshRun {} cf (ops.zip ns) ∧
      ∀ p, (absQueue (({ cfg := cf, statistics := st } : Cache).run ops) p).Sublist
            ((QSpec.runAt {} cf (ops.zip ns)).queues.get p) ∧
        ∀ it ∈ (QSpec.runAt {} cf (ops.zip ns)).queues.get p,
          it.ent.expired (lastClock 0 ops) = false →
          it ∈ absQueue (({ cfg := cf, statistics := st } : Cache).run ops) p := by
  obtain ⟨ns, h0, h1, h2, -, -, h5⟩ := qrun_loose_strong ({ cfg := cf, statistics := st } : Cache) {} 0 0 ops
    (by rw [Nat.zero_add]; exact (qok_init cf st _ hp hpg (by omega) (by omega)).toL)
    (qrefines_init cf st 0).loose hk ho ht hm
  exact ⟨ns, h0, h1, h5, fun p => ⟨h2.sublist p, fun it hit hl => h2.live_present hit hl⟩⟩

/-! ### non-vacuity: the scenario of `qrun_needs_quiet`, run through `qrun_loose` -/

/-- `cull_limit = 10`: push with ttl 1 at time 0, `set` at time 5 (its lazy cull removes the
expired item), push at time 5 (gets the first key AGAIN), pull at time 6 -/
def exLooseCache : Cache := { cfg := { policy := .none, cullLimit := 10 } }

def exLooseOps : List Op :=
  [ .push toyV 0 (.int 1) none true (some 1) false .null,
    .set toyV 5 (.str [120]) (.int 0) none false .null,
    .push toyV 5 (.int 2) none true none false .null,
    .pull toyV 6 none true false false,
    .pull toyV 6 none true false false ]

example : ∃ ns : List Int, ns.length = exLooseOps.length ∧
    outs exLooseCache exLooseOps = QSpec.outsAt {} exLooseCache.cfg (exLooseOps.zip ns) ∧
    (∃ clock', QLoose (exLooseCache.run exLooseOps) (QSpec.runAt {} exLooseCache.cfg (exLooseOps.zip ns)) clock') ∧
    QSpec.FreshRun {} exLooseCache.cfg (exLooseOps.zip ns) :=
  qrun_loose exLooseCache {} 0 0 exLooseOps
    ((qok_init _ _ _ rfl (by decide) (by decide) (by decide)).toL) (qrefines_init _ _ 0).loose
    (by decide) (by decide +kernel)
    (by
      intro op hop
      simp only [exLooseOps, List.mem_cons, List.mem_nil_iff, or_false] at hop
      rcases hop with rfl | rfl | rfl | rfl | rfl
      · intro t ht; cases ht; decide
      · trivial
      · intro t ht; cases ht
      · trivial
      · trivial)
    (by decide +kernel)

/-- the reference run with the numbers the cache gave (500000000000000 twice): the second item
gets the number of the expired, physically removed first one; the pull skips the expired ghost and
returns the live item, as the cache does -/
example : (match outs exLooseCache exLooseOps,
      QSpec.outsAt {} exLooseCache.cfg (exLooseOps.zip [500000000000000, 0, 500000000000000, 0, 0]) with
    | [.val (.int 500000000000000), .bool true, .val (.int 500000000000000),
       .tup [.val (.int 500000000000000), .val (.int 2)], .default],
      [.val (.int 500000000000000), .bool true, .val (.int 500000000000000),
       .tup [.val (.int 500000000000000), .val (.int 2)], .default] => true
    | _, _ => false) = true := by
  decide +kernel

end DC.Cache
