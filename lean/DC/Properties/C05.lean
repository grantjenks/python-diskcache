/-
C05 / C06 / C07 / C08 / C14 — the locking protocol, for every number of clients,
every program, every operation body and EVERY schedule (no bound on anything).

`run s sched` interleaves micro-steps of the clients of `s` as `sched` dictates.
The ghost `log` records each call at its linearization point (COMMIT, ROLLBACK,
or the single SELECT of a lock-free look-up), which is one of the call's own
steps — hence between its invocation and its return, so the log order respects
real-time precedence.
-/
import DC.Proofs.ConcLemmas

namespace DC.Conc

variable {DB Res : Type}

structure Init (s : Sys DB Res) : Prop where
  lock : s.lock = none
  idle : ∀ c ∈ s.clients, c.pc = Pc.idle ∧ c.results = []
  log : s.log = []
  fresh : ∀ f ∈ s.files, f < s.nextFile

theorem Init.inv {s0 : Sys DB Res} (h : Init s0) : Inv s0.db s0 := Inv_init h.lock h.log h.idle

theorem Init.resInv {s0 : Sys DB Res} (h : Init s0) : ResInv s0 := ResInv_init h.log h.idle

/-- C05 `lock_excl`: at any instant at most one client holds a private working copy, and it
is the lock holder; when the lock is free nobody is inside a transaction -/
theorem lock_excl (s0 : Sys DB Res) (h : Init s0) (sched : List Nat) :
    let s := run s0 sched
    (∀ (i j : Nat) (ci cj : Client DB Res), s.clients[i]? = some ci → s.clients[j]? = some cj →
        inTxn ci = true → inTxn cj = true → i = j) ∧
    (∀ (i : Nat) (ci : Client DB Res), s.clients[i]? = some ci → inTxn ci = true → s.lock = some i) := by
  intro s
  have hI : Inv s0.db s := Inv_run h.inv sched
  have key : ∀ (i : Nat) (ci : Client DB Res), s.clients[i]? = some ci → inTxn ci = true →
      s.lock = some i := fun i ci hi ht => (hI.pc i ci hi).inTxn_lock ht
  refine ⟨fun i j ci cj hi hj hti htj => ?_, key⟩
  exact Option.some.inj ((key i ci hi hti).symm.trans (key j cj hj htj))

/-- C05 `linearizable` (state): at any instant the committed database is exactly what executing
the logged calls ONE AT A TIME, in log order, produces -/
theorem serializable_db (s0 : Sys DB Res) (h : Init s0) (sched : List Nat) :
    (run s0 sched).db = replay s0.db (run s0 sched).log := by
  exact (Inv_run h.inv sched).hdb

/-- C05 `linearizable` (results): the result every logged call returned is the result it has
in that sequential execution — so concurrent add succeeds for exactly one caller, incr loses no
update, pop/delete succeeds once, whatever the bodies are -/
theorem serializable_results (s0 : Sys DB Res) (h : Init s0) (sched : List Nat) :
    (run s0 sched).log.map (·.res) = replayRes s0.db (run s0 sched).log := by
  exact (Inv_run h.inv sched).hres

/-- C05: every result a client has received (other than Timeout) is the result of one of its logged
calls, in program order -/
theorem results_logged (s0 : Sys DB Res) (h : Init s0) (sched : List Nat) (cid : Nat)
    (c : Client DB Res) (hc : (run s0 sched).clients[cid]? = some c) :
    (c.results.filterMap id).IsPrefix
      (((run s0 sched).log.filter (fun e => e.cid == cid)).map (·.res)) := by
  have := ResInv_run h.resInv sched cid c hc
  rw [← this]
  exact List.prefix_append _ _

/-- C06 `isolated`: between a client's BEGIN and its COMMIT no other client's write takes
effect: while a client holds a private copy, that copy started from the committed database,
and the committed database has not changed since -/
theorem isolated (s0 : Sys DB Res) (h : Init s0) (sched : List Nat) (cid : Nat) (c : Client DB Res)
    (hc : (run s0 sched).clients[cid]? = some c) :
    (∀ f w, c.pc = .begun f w → w = (run s0 sched).db) ∧
    (∀ f w r ok cl fr rt b rest, c.pc = .ran f w r ok cl → c.prog = .txn fr rt b :: rest →
        b.run (run s0 sched).db f = (w, r, ok, cl)) := by
  have hpcOk := (Inv_run h.inv sched).pc cid c hc
  refine ⟨?_, ?_⟩
  · intro f w hpc
    simp only [PcOk, hpc] at hpcOk
    exact hpcOk.2.1
  · intro f w r ok cl fr rt b rest hpc hprog
    simp only [PcOk, hpc] at hpcOk
    obtain ⟨_, fr', rt', b', rest', hp', hb⟩ := hpcOk
    cases hp'.symm.trans hprog
    exact hb

/-- C14 `timeout_no_effect`: a call that cannot get the lock and does not retry returns Timeout
and changes nothing: not the database, not the log, not the lock -/
theorem timeout_no_effect (s : Sys DB Res) (cid other : Nat) (c : Client DB Res) (b : Body DB Res)
    (rest : List (Op DB Res)) (hc : s.clients[cid]? = some c) (hpc : c.pc = .idle)
    (hp : c.prog = .txn false false b :: rest) (hl : s.lock = some other) :
    (step s cid).db = s.db ∧ (step s cid).log = s.log ∧ (step s cid).lock = s.lock ∧
    (step s cid).files = s.files ∧
    (step s cid).clients[cid]? = some (finish c none) := by
  have hlen : cid < s.clients.length := (List.getElem?_eq_some_iff.1 hc).1
  have hs : step s cid = setClient s cid (finish c none) := by simp [step, hc, hpc, hp, hl]
  rw [hs]
  simp [setClient, List.getElem?_set_self hlen]

/-- C14: ... and when it had written a value file first, the file is removed again before the
call returns Timeout (three steps: BEGIN fails, FREMOVE, return) -/
theorem timeout_removes_file (s : Sys DB Res) (cid other : Nat) (c : Client DB Res) (f : FName)
    (fr : Bool) (b : Body DB Res) (rest : List (Op DB Res)) (hc : s.clients[cid]? = some c)
    (hpc : c.pc = .wrote f) (hp : c.prog = .txn fr false b :: rest) (hl : s.lock = some other)
    (hne : other ≠ cid) :
    let s3 := step (step (step s cid) cid) cid
    s3.db = s.db ∧ s3.log = s.log ∧ s3.lock = s.lock ∧ s3.files = s.files.filter (· != f) ∧
    s3.clients[cid]? = some (finish c none) := by
  have _ := hne
  have hlen : cid < s.clients.length := (List.getElem?_eq_some_iff.1 hc).1
  have h1 : step s cid = setClient s cid { c with pc := .undo none (some f) } := by
    simp [step, hc, hpc, hp, hl]
  have h2 := step_unlink (s := step s cid) (r := none) (f := f)
    (by rw [h1]; exact List.getElem?_set_self hlen) rfl
  have h3 := step_undone (s := step (step s cid) cid) (r := none)
    (by rw [h2, h1]; exact List.getElem?_set_self (by simpa only [setClient, List.length_set] using hlen)) rfl
  intro s3
  simp only [s3]
  rw [h3, h2, h1]
  exact ⟨rfl, rfl, rfl, rfl, List.getElem?_set_self (by simpa only [setClient, List.length_set] using hlen)⟩

/-- C14 `retry_waits`: with retry, a call that finds the lock held changes nothing at all and
will try again -/
theorem retry_waits (s : Sys DB Res) (cid other : Nat) (c : Client DB Res) (fr : Bool) (b : Body DB Res)
    (rest : List (Op DB Res)) (hc : s.clients[cid]? = some c)
    (hpc : c.pc = .idle ∧ fr = false ∨ ∃ f, c.pc = .wrote f)
    (hp : c.prog = .txn fr true b :: rest) (hl : s.lock = some other) :
    step s cid = s := by
  rcases hpc with ⟨hpc, rfl⟩ | ⟨f, hpc⟩ <;> simp [step, hc, hpc, hp, hl]

/-- C14 `reads_need_no_lock`: a lock-free look-up completes in one step whoever holds the lock,
and sees the committed database -/
theorem reads_need_no_lock (s : Sys DB Res) (cid : Nat) (c : Client DB Res) (g : DB → Res)
    (rest : List (Op DB Res)) (hc : s.clients[cid]? = some c) (hpc : c.pc = .idle)
    (hp : c.prog = .read g :: rest) :
    (step s cid).clients[cid]? = some (finish c (some (g s.db))) ∧ (step s cid).db = s.db ∧
    (step s cid).lock = s.lock := by
  have hlen : cid < s.clients.length := (List.getElem?_eq_some_iff.1 hc).1
  have hs : step s cid = { (setClient s cid (finish c (some (g s.db)))) with
      log := s.log ++ [⟨cid, .read g, none, g s.db⟩] } := by simp [step, hc, hpc, hp]
  rw [hs]
  simp [setClient, List.getElem?_set_self hlen]

/-- a body is file-safe w.r.t. `refs` (the files a database state names) when the new state
names only files the old one named or the fresh file, never a file it hands to cleanup, and
hands to cleanup only files the old state named or its own fresh file -/
def BodyOk (refs : DB → List FName) (b : Body DB Res) : Prop :=
  ∀ db f w r ok cl, b.run db f = (w, r, ok, cl) → ok = true →
    (∀ x ∈ refs w, x ∈ refs db ∨ some x = f) ∧ (∀ x ∈ cl, x ∉ refs w) ∧
    (∀ x ∈ cl, x ∈ refs db ∨ some x = f)

def OpOk (refs : DB → List FName) : Op DB Res → Prop
  | .txn _ _ b => BodyOk refs b
  | .read _ => True

def ProgsOk (refs : DB → List FName) (s : Sys DB Res) : Prop :=
  ∀ c ∈ s.clients, ∀ op ∈ c.prog, OpOk refs op

theorem ProgsOk.safe {refs : DB → List FName} {s : Sys DB Res} (hp : ProgsOk refs s) :
    ProgsSafe refs s := fun c hc _ _ _ hm => hp c hc _ hm

theorem Init.finv {refs : DB → List FName} {s0 : Sys DB Res} (h : Init s0) (hp : ProgsOk refs s0)
    (h0 : ∀ x ∈ refs s0.db, x ∈ s0.files) : FInv refs s0 :=
  FInv_init hp.safe h.idle h.fresh h0

/-- C05/C07/C08 `ref_complete`: at EVERY instant of EVERY schedule every value file the committed
database names exists (files are written before BEGIN and removed only after COMMIT, fresh
names never repeat) — so a reader never finds a key whose file is gone except through the
tolerated overlap, and a process killed at any instant leaves no listed key without its value -/
theorem ref_complete (refs : DB → List FName) (s0 : Sys DB Res) (h : Init s0)
    (hp : ProgsOk refs s0) (h0 : ∀ x ∈ refs s0.db, x ∈ s0.files) (sched : List Nat) :
    ∀ x ∈ refs (run s0 sched).db, x ∈ (run s0 sched).files := by
  exact (FInv_run h.inv (h.finv hp h0) sched).refd

/-- C07 `crash_safe`: killing any client at any instant keeps the committed database (every
completed call is reflected, the interrupted one is all-or-nothing: the database is still the
replay of the log), keeps every referenced file, and frees the lock if the victim held it -/
theorem crash_safe (refs : DB → List FName) (s0 : Sys DB Res) (h : Init s0)
    (hp : ProgsOk refs s0) (h0 : ∀ x ∈ refs s0.db, x ∈ s0.files) (sched : List Nat) (victim : Nat) :
    let s := crash (run s0 sched) victim
    s.db = replay s0.db s.log ∧ (∀ x ∈ refs s.db, x ∈ s.files) ∧ s.lock ≠ some victim := by
  have hI := Inv_run h.inv sched
  have hF := FInv_run h.inv (h.finv hp h0) sched
  exact ⟨(Inv_crash hI victim).hdb, (FInv_crash hF victim).refd, crash_lock hI victim⟩

/-- C07: the survivors carry on: after a crash the protocol invariants still hold for every
further schedule (the lock is free or held by a live client inside its transaction) -/
theorem crash_then_run (refs : DB → List FName) (s0 : Sys DB Res) (h : Init s0)
    (hp : ProgsOk refs s0) (h0 : ∀ x ∈ refs s0.db, x ∈ s0.files) (sched sched' : List Nat) (victim : Nat) :
    let s := run (crash (run s0 sched) victim) sched'
    s.db = replay s0.db s.log ∧ (∀ x ∈ refs s.db, x ∈ s.files) := by
  have hI := Inv_crash (Inv_run h.inv sched) victim
  have hF := FInv_crash (FInv_run h.inv (h.finv hp h0) sched) victim
  exact ⟨(Inv_run hI sched').hdb, (FInv_run hI hF sched').refd⟩

/-- non-vacuity: two clients incrementing one counter under an adversarial schedule lose no
update (database = Nat, incr body) -/
def incrBody (d : Nat) : Body Nat Nat := ⟨fun db _ => (db + d, db + d, true, [])⟩

def exSys : Sys Nat Nat :=
  { db := 5, clients := [{ prog := [.txn false true (incrBody 1)] }, { prog := [.txn false true (incrBody 10)] }] }

example : (run exSys [0, 1, 1, 0, 1, 0, 0, 1, 1, 1, 1]).db = 16 ∧
    ((run exSys [0, 1, 1, 0, 1, 0, 0, 1, 1, 1, 1]).log.map (·.res)) = [6, 16] := by decide

end DC.Conc
