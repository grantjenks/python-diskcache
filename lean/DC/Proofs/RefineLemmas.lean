/-
Helper lemmas for C03_Refine (the Cache model refines the reference dictionary
of DC/Model/Spec.lean).

 * the dictionary: `get` after `put` / `del` / removal of bindings;
 * the *view* of a cache state: the partial map key ↦ entry it denotes
   (`rf_view`), and how look-ups in a row list behave under the row-list
   transformations the statements perform (`rf_look_*`);
 * `rf_Culled`: a view that lost some entries that were expired.
-/
import DC.Model.Spec
import DC.Properties.C08_Seq
import DC.Properties.C04
import DC.Properties.C09
import DC.Properties.C03_Paging

namespace DC.Cache
open DC.Spec

theorem rf_sameKey_symm {a b : Key} (h : sameKey a b = true) : sameKey b a = true := by
  simp only [sameKey, Bool.and_eq_true, beq_iff_eq] at h ⊢
  exact ⟨SqlVal.eqv_symm _ _ h.1, h.2.symm⟩

theorem rf_sameKey_trans {a b c : Key} (h1 : sameKey a b = true) (h2 : sameKey b c = true) :
    sameKey a c = true := by
  simp only [sameKey, Bool.and_eq_true, beq_iff_eq] at h1 h2 ⊢
  exact ⟨SqlVal.eqv_trans _ _ _ h1.1 h2.1, h1.2.trans h2.2⟩

theorem rf_sameKey_congr_left {a b : Key} (h : sameKey a b = true) (c : Key) :
    sameKey a c = sameKey b c := by
  cases h1 : sameKey a c <;> cases h2 : sameKey b c <;> try rfl
  · rw [rf_sameKey_trans h h2] at h1; cases h1
  · rw [rf_sameKey_trans (rf_sameKey_symm h) h1] at h2; cases h2

theorem rf_sameKey_comm (a b : Key) : sameKey a b = sameKey b a := by
  cases h1 : sameKey a b <;> cases h2 : sameKey b a <;> try rfl
  · rw [rf_sameKey_symm h2] at h1; cases h1
  · rw [rf_sameKey_symm h1] at h2; cases h2

theorem rf_sameKey_congr_right {a b : Key} (h : sameKey a b = true) (c : Key) :
    sameKey c a = sameKey c b := by
  rw [rf_sameKey_comm c a, rf_sameKey_comm c b]
  exact rf_sameKey_congr_left h c

theorem rf_keyMatch_sameKey (k : Key) (r : Row) : keyMatch k.1 k.2 r = sameKey (r.key, r.raw) k := rfl

theorem rf_find_congr {α} {l : List α} {p q : α → Bool} (h : ∀ a ∈ l, p a = q a) :
    l.find? p = l.find? q := by
  induction l with
  | nil => rfl
  | cons a t ih =>
    simp only [List.find?_cons, h a (List.mem_cons_self)]
    rw [ih (fun b hb => h b (List.mem_cons_of_mem _ hb))]

theorem rf_get_filterKey (m : Dict) (P : Key → Bool) (hP : ∀ a b, sameKey a b = true → P a = P b)
    (k : Key) : Dict.get (m.filter (fun p => P p.1)) k = if P k then m.get k else none := by
  unfold Dict.get
  rw [List.find?_filter]
  cases h : P k with
  | true =>
    simp only [if_true]
    congr 1
    apply rf_find_congr
    intro p _
    cases h1 : sameKey p.1 k with
    | false => simp
    | true => rw [hP _ _ h1, h]; simp
  | false =>
    simp only [Bool.false_eq_true, if_false, Option.map_eq_none_iff, List.find?_eq_none]
    intro p _ hc
    simp only [decide_eq_true_eq] at hc
    rw [hP _ _ hc.2, h] at hc
    exact absurd hc.1 (by simp)

theorem rf_get_del (m : Dict) (k k' : Key) :
    (m.del k).get k' = if sameKey k k' then none else m.get k' := by
  unfold Dict.del
  rw [rf_get_filterKey m (fun a => !sameKey a k) (fun a b h => by rw [rf_sameKey_congr_left h]),
    rf_sameKey_comm k' k]
  cases sameKey k k' <;> rfl

theorem rf_get_put (m : Dict) (k : Key) (e : Entry) (k' : Key) :
    (m.put k e).get k' = if sameKey k k' then some e else m.get k' := by
  have hd := rf_get_del m k k'
  unfold Dict.put Dict.get at hd ⊢
  rw [List.find?_cons]
  cases h : sameKey k k' with
  | true => simp
  | false =>
    rw [h] at hd
    exact hd

theorem rf_wf_nil : Dict.WF [] := List.Pairwise.nil

theorem rf_wf_filter {m : Dict} (h : m.WF) (p : Key × Entry → Bool) : Dict.WF (m.filter p) :=
  List.Pairwise.filter p h

theorem rf_wf_del {m : Dict} (h : m.WF) (k : Key) : (m.del k).WF := rf_wf_filter h _

theorem rf_wf_put {m : Dict} (h : m.WF) (k : Key) (e : Entry) : (m.put k e).WF := by
  unfold Dict.put Dict.WF
  rw [List.pairwise_cons]
  refine ⟨?_, rf_wf_del h k⟩
  intro p hp
  have := (List.mem_filter.1 hp).2
  rw [rf_sameKey_comm]
  simpa using this

theorem rf_find_filter {α} {l : List α} {R : α → α → Prop} (hl : l.Pairwise R) (q p : α → Bool)
    (hR : ∀ a b, R a b → q a = true → q b = true → False) :
    (l.filter p).find? q = (l.find? q).filter p := by
  induction l with
  | nil => rfl
  | cons a t ih =>
    have hw := List.pairwise_cons.1 hl
    rw [List.filter_cons, List.find?_cons]
    cases ha : q a with
    | false =>
      rw [← ih hw.2]
      cases hp : p a with
      | true => simp only [if_true, List.find?_cons, ha]
      | false => simp only [Bool.false_eq_true, if_false]
    | true =>
      cases hp : p a with
      | true => simp [Option.filter, ha, hp]
      | false =>
        simp only [Bool.false_eq_true, if_false, Option.filter, hp, List.find?_eq_none]
        intro b hb hqb
        exact hR a b (hw.1 b (List.mem_filter.1 hb).1) ha hqb

theorem rf_get_filter {m : Dict} (h : m.WF) (p : Entry → Bool) (k : Key) :
    (Dict.get (m.filter (fun x => p x.2)) k) = (m.get k).filter p := by
  unfold Dict.get
  rw [rf_find_filter h _ _ (fun a b hab ha hb => by
    rw [rf_sameKey_trans ha (rf_sameKey_symm hb)] at hab; cases hab)]
  cases m.find? (fun q => sameKey q.1 k) with
  | none => rfl
  | some x => simp only [Option.filter, Option.map_some]; split <;> rfl

def rf_ent (c : Cache) (r : Row) : Entry :=
  { mode := r.mode, val := r.val, content := r.file.bind c.fileGet, expT := r.expT, tag := r.tag }

def rf_look (X : List Row) (c : Cache) (k : Key) : Option Entry :=
  (X.find? (keyMatch k.1 k.2)).map (rf_ent c)

def rf_view (c : Cache) (k : Key) : Option Entry := rf_look c.rows c k

/-- `v` (what the cache holds for a key) represents `d` (what the dictionary holds) at `clock` -/
def rf_VRel (v d : Option Entry) (clock : Int) : Prop :=
  match d with
  | some e => v = some e ∨ (v = none ∧ e.expired clock = true)
  | none => v = none

def rf_Culled (now : Int) (v1 v2 : Key → Option Entry) : Prop :=
  ∀ k, v2 k = v1 k ∨ (v2 k = none ∧ ∃ e, v1 k = some e ∧ e.expired now = true)

theorem rf_expired_mono {e : Entry} {clock now : Int} (h : e.expired clock = true) (hn : clock ≤ now) :
    e.expired now = true := by
  unfold Entry.expired at h ⊢
  split at h
  · cases h
  · simp only [decide_eq_true_eq] at h ⊢; omega

theorem rf_expired_not_live {e : Entry} {clock now : Int} (h : e.expired clock = true) (hn : clock ≤ now) :
    e.live now = false := by
  unfold Entry.expired at h
  unfold Entry.live
  split at h
  · cases h
  · simp only [decide_eq_true_eq, gt_iff_lt, decide_eq_false_iff_not] at h ⊢; omega

theorem rf_VRel_mono {v d : Option Entry} {clock now : Int} (h : rf_VRel v d clock) (hn : clock ≤ now) :
    rf_VRel v d now := by
  unfold rf_VRel at h ⊢
  split
  · rename_i e
    rcases h with h | ⟨h1, h2⟩
    · exact .inl h
    · exact .inr ⟨h1, rf_expired_mono h2 hn⟩
  · exact h

theorem rf_VRel_culled {v1 v2 : Key → Option Entry} {now : Int} (hc : rf_Culled now v1 v2)
    {k : Key} {d : Option Entry} (h : rf_VRel (v1 k) d now) : rf_VRel (v2 k) d now := by
  unfold rf_VRel at h ⊢
  rcases hc k with h2 | ⟨h2, e, h3, h4⟩
  · rw [h2]; exact h
  · split
    · rename_i e'
      simp only at h
      rcases h with h | ⟨h, h5⟩
      · rw [h3] at h; cases h
        exact .inr ⟨h2, h4⟩
      · exact .inr ⟨h2, h5⟩
    · exact h2

theorem rf_Culled_refl (now : Int) (v : Key → Option Entry) : rf_Culled now v v := fun _ => .inl rfl

theorem rf_ent_expired (c : Cache) (r : Row) (now : Int) : (rf_ent c r).expired now = expired now r := rfl
theorem rf_ent_live (c : Cache) (r : Row) (now : Int) : (rf_ent c r).live now = live now r := rfl

theorem rf_find_of_mem {X : List Row} (hu : KeysUnique X) {k : SqlVal} {raw : Bool} {x : Row}
    (hx : x ∈ X) (hk : keyMatch k raw x = true) : X.find? (keyMatch k raw) = some x := by
  cases h : X.find? (keyMatch k raw) with
  | none =>
    have := List.find?_eq_none.1 h x hx
    exact absurd hk this
  | some y =>
    have hy := List.mem_of_find?_eq_some h
    have hky : keyMatch k raw y = true := List.find?_some h
    rw [keysUnique_eq hu hy hx hky hk]

theorem rf_look_congr {X : List Row} {a b : Cache} (h : ∀ r ∈ X, rf_ent a r = rf_ent b r) (k : Key) :
    rf_look X a k = rf_look X b k := by
  unfold rf_look
  cases hf : X.find? (keyMatch k.1 k.2) with
  | none => rfl
  | some x => simp only [Option.map_some]; rw [h x (List.mem_of_find?_eq_some hf)]

theorem rf_look_map (X : List Row) (c : Cache) (f : Row → Row)
    (hf : ∀ r, (f r).key = r.key ∧ (f r).raw = r.raw) (k : Key) :
    rf_look (X.map f) c k = (X.find? (keyMatch k.1 k.2)).map (fun r => rf_ent c (f r)) := by
  unfold rf_look
  rw [List.find?_map]
  have : (keyMatch k.1 k.2 ∘ f) = keyMatch k.1 k.2 := by
    funext r
    simp only [Function.comp, keyMatch, (hf r).1, (hf r).2]
  rw [this]
  cases X.find? (keyMatch k.1 k.2) <;> rfl

theorem rf_look_append (X : List Row) (r : Row) (c : Cache) (k : Key) :
    rf_look (X ++ [r]) c k =
      (rf_look X c k).or (if keyMatch k.1 k.2 r then some (rf_ent c r) else none) := by
  unfold rf_look
  rw [List.find?_append]
  cases X.find? (keyMatch k.1 k.2) with
  | some x => simp
  | none =>
    simp only [Option.none_or, Option.map_none, List.find?_cons]
    cases keyMatch k.1 k.2 r <;> simp

theorem rf_keyMatch_both {k : SqlVal} {raw : Bool} {a b : Row} (ha : keyMatch k raw a = true)
    (hb : keyMatch k raw b = true) : a.key.eqv b.key = true ∧ a.raw = b.raw := by
  simp only [keyMatch, Bool.and_eq_true, beq_iff_eq] at ha hb
  exact ⟨SqlVal.eqv_trans _ _ _ ha.1 (SqlVal.eqv_symm _ _ hb.1), ha.2.trans hb.2.symm⟩

theorem rf_look_filter {X : List Row} (hu : KeysUnique X) (p : Row → Bool) (c : Cache) (k : Key) :
    rf_look (X.filter p) c k = ((X.find? (keyMatch k.1 k.2)).filter p).map (rf_ent c) := by
  unfold rf_look
  rw [rf_find_filter hu _ p (fun a b hab ha hb => hab (rf_keyMatch_both ha hb))]

theorem rf_find_and {X : List Row} (hu : KeysUnique X) (k : SqlVal) (raw : Bool) (p : Row → Bool) :
    X.find? (fun r => keyMatch k raw r && p r) = (X.find? (keyMatch k raw)).filter p := by
  rw [← rf_find_filter hu _ p (fun a b hab ha hb => hab (rf_keyMatch_both ha hb)), List.find?_filter]
  congr 1
  funext r
  rw [Bool.decide_and, Bool.decide_eq_true, Bool.decide_eq_true, Bool.and_comm]

theorem rf_ent_mono {a b : Cache} (hsub : ∀ p ∈ a.files, p ∈ b.files)
    (hnd : (b.files.map (·.1)).Nodup) {r : Row}
    (href : ∀ f, r.file = some f → ∃ ct, a.fileGet f = some ct) : rf_ent a r = rf_ent b r := by
  unfold rf_ent
  cases hf : r.file with
  | none => rfl
  | some f =>
    obtain ⟨ct, hct⟩ := href f hf
    have h1 := hsub _ (mem_of_fileGet hct)
    have h2 := fileGet_of_mem hnd h1
    simp only [Option.bind_some, hct, h2]

theorem rf_good_ref {c : Cache} (hg : Good c) {r : Row} (hr : r ∈ c.rows) :
    ∀ f, r.file = some f → ∃ ct, c.fileGet f = some ct := by
  intro f hf
  obtain ⟨ct, h1, -⟩ := hg.finv.ref r hr f hf
  exact ⟨ct, h1⟩

theorem rf_same {c' b : Cache} (hg' : Good c')
    (hfiles : ∀ p ∈ c'.files, p ∈ b.files)
    (hnd : (b.files.map (·.1)).Nodup) (k : Key) :
    rf_view c' k = rf_look c'.rows b k := by
  have hent : ∀ r ∈ c'.rows, rf_ent c' r = rf_ent b r :=
    fun r hr => rf_ent_mono hfiles hnd (rf_good_ref hg' hr)
  unfold rf_view
  exact rf_look_congr hent k

theorem rf_keyMatch_congr {K k' : Key} (h : sameKey K k' = true) (r : Row) :
    keyMatch K.1 K.2 r = keyMatch k'.1 k'.2 r := by
  rw [rf_keyMatch_sameKey, rf_keyMatch_sameKey]
  exact rf_sameKey_congr_right h _

theorem rf_look_sameKey {K k' : Key} (h : sameKey K k' = true) (X : List Row) (c : Cache) :
    rf_look X c K = rf_look X c k' := by
  unfold rf_look
  rw [rf_find_congr (fun r _ => rf_keyMatch_congr h r)]

theorem rf_view_sameKey {K k' : Key} (h : sameKey K k' = true) (c : Cache) :
    rf_view c K = rf_view c k' := rf_look_sameKey h _ _

theorem rf_get_sameKey {K k' : Key} (h : sameKey K k' = true) (m : Dict) : m.get K = m.get k' := by
  unfold Dict.get
  rw [rf_find_congr (fun p _ => rf_sameKey_congr_right h p.1)]

def rf_at (K : Key) (d : Option Entry) (v : Key → Option Entry) (k' : Key) : Option Entry :=
  if sameKey K k' then d else v k'

theorem rf_at_self {K : Key} {v : Key → Option Entry} (hv : ∀ k', sameKey K k' = true → v K = v k')
    (k' : Key) : rf_at K (v K) v k' = v k' := by
  unfold rf_at
  split
  · rename_i h; exact hv k' h
  · rfl

theorem rf_VRel_cases {v d : Option Entry} {now : Int} (h : rf_VRel v d now) :
    v = d ∨ (v = none ∧ ∃ e, d = some e ∧ e.expired now = true ∧ e.live now = false) := by
  unfold rf_VRel at h
  split at h
  · rename_i e
    rcases h with h | ⟨h1, h2⟩
    · exact .inl h
    · exact .inr ⟨h1, e, rfl, h2, rf_expired_not_live h2 (Int.le_refl _)⟩
  · exact .inl h

/-- assembling a per-key step: the cache view changes at `K` by `upd` (up to culling), the
dictionary changes at `K` by `upd`, and `upd` respects the representation relation -/
theorem rf_assemble {v v' : Key → Option Entry} {m m' : Dict} {clock now : Int} {K : Key}
    {upd : Option Entry → Option Entry}
    (hr : ∀ k, rf_VRel (v k) (m.get k) clock) (hn : clock ≤ now)
    (hA : rf_Culled now (rf_at K (upd (v K)) v) v')
    (hB : ∀ k', m'.get k' = rf_at K (upd (m.get K)) m.get k')
    (hC : ∀ a d, rf_VRel a d now → rf_VRel (upd a) (upd d) now) :
    ∀ k, rf_VRel (v' k) (m'.get k) now := by
  intro k
  apply rf_VRel_culled hA
  rw [hB k]
  unfold rf_at
  split
  · exact hC _ _ (rf_VRel_mono (hr K) hn)
  · exact rf_VRel_mono (hr k) hn

def rf_has (now : Int) (v : Option Entry) : Bool :=
  match v with
  | some e => e.live now
  | none => false

theorem rf_has_rel {v d : Option Entry} {now : Int} (h : rf_VRel v d now) : rf_has now v = rf_has now d := by
  rcases rf_VRel_cases h with h | ⟨h, e, hd, -, hl⟩
  · rw [h]
  · rw [h, hd]; simp [rf_has, hl]

theorem rf_VRel_refl (v : Option Entry) (now : Int) : rf_VRel v v now := by
  unfold rf_VRel
  split
  · exact .inl rfl
  · rfl

end DC.Cache
