/-
Facts about the reference of C10 alone (DC/Model/QSpec.lean); nothing here mentions the Cache
model.  First what the refinement proofs use: the list functions `endOf`, `dropEnd`, `trimBy`,
the finite map of queues, `Thinned` (one queue is the other without some expired items) and
`Culled` (what the lazy cull of a write leaves of a queue), and that `pull` / `peek` do not
depend on which expired items are already gone (`thinned_pull_core`).  Then what the user-level
corollaries of DC/Properties/C10_History.lean use: what a run of pushes at the back builds,
what a run of pulls returns, which calls touch the queue of a prefix.
-/
import DC.Proofs.QRefineDefs
import DC.Model.DSpec

namespace DC.QSpec

theorem endOf_map {α β} (f : α → β) (front : Bool) (l : List α) :
    endOf front (l.map f) = (endOf front l).map f := by
  unfold endOf; cases front <;> simp

theorem dropEnd_map {α β} (f : α → β) (front : Bool) (l : List α) :
    dropEnd front (l.map f) = (dropEnd front l).map f := by
  unfold dropEnd; cases front <;> simp

theorem trimBy_map {α β} (dead : β → Bool) (f : α → β) (front : Bool) (l : List α) :
    trimBy dead front (l.map f) = (trimBy (dead ∘ f) front l).map f := by
  unfold trimBy
  cases front with
  | true => simp only [if_true, List.dropWhile_map]
  | false => simp only [Bool.false_eq_true, if_false, ← List.map_reverse, List.dropWhile_map]

theorem trimBy_congr {α} {d1 d2 : α → Bool} (front : Bool) (l : List α) (h : ∀ a ∈ l, d1 a = d2 a) :
    trimBy d1 front l = trimBy d2 front l := by
  have key : ∀ l : List α, (∀ a ∈ l, d1 a = d2 a) → l.dropWhile d1 = l.dropWhile d2 := by
    intro l
    induction l with
    | nil => intro _; rfl
    | cons a t ih =>
      intro h
      simp only [List.dropWhile_cons, h a List.mem_cons_self]
      rw [ih (fun b hb => h b (List.mem_cons_of_mem _ hb))]
  unfold trimBy
  cases front with
  | true => simp only [if_true]; exact key l h
  | false =>
    simp only [Bool.false_eq_true, if_false]
    rw [key l.reverse (fun a ha => h a (List.mem_reverse.1 ha))]

theorem trimBy_sub {α} (dead : α → Bool) (front : Bool) (l : List α) : ∀ a ∈ trimBy dead front l, a ∈ l := by
  intro a ha
  unfold trimBy at ha
  cases front with
  | true => exact (List.dropWhile_sublist _).subset ha
  | false =>
    simp only [Bool.false_eq_true, if_false] at ha
    exact List.mem_reverse.1 ((List.dropWhile_sublist _).subset (List.mem_reverse.1 ha))

theorem trimBy_nil {α} (dead : α → Bool) (front : Bool) : trimBy dead front [] = [] := by
  unfold trimBy; cases front <;> rfl

theorem endOf_nil {α} (front : Bool) : endOf front ([] : List α) = none := by
  unfold endOf; cases front <;> rfl

theorem dropEnd_nil {α} (front : Bool) : dropEnd front ([] : List α) = [] := by
  unfold dropEnd; cases front <;> rfl

theorem dropEnd_length_eq {α} (front : Bool) (l : List α) : (dropEnd front l).length = l.length - 1 := by
  unfold dropEnd; cases front <;> simp

theorem endOf_none {α} {front : Bool} {l : List α} (h : endOf front l = none) : l = [] := by
  unfold endOf at h; cases front <;> simpa using h

theorem endOf_mem {α} {front : Bool} {l : List α} {a : α} (h : endOf front l = some a) : a ∈ l := by
  unfold endOf at h
  cases front with
  | true => exact List.mem_of_head? h
  | false => exact List.mem_of_getLast? h

theorem end_shape {α} {front : Bool} {l : List α} {a : α} (h : endOf front l = some a) :
    l = (if front then a :: dropEnd front l else dropEnd front l ++ [a]) := by
  unfold endOf at h
  unfold dropEnd
  cases front with
  | true =>
    obtain ⟨t, rfl⟩ := List.head?_eq_some_iff.1 h
    rfl
  | false =>
    obtain ⟨t, rfl⟩ := List.getLast?_eq_some_iff.1 h
    simp only [Bool.false_eq_true, if_false, List.dropLast_concat]

theorem endOf_cons_or_snoc {α} (front : Bool) (a : α) (t : List α) :
    endOf front (if front then a :: t else t ++ [a]) = some a ∧
    dropEnd front (if front then a :: t else t ++ [a]) = t := by
  unfold endOf dropEnd
  cases front <;> simp

theorem dropEnd_length {α} {front : Bool} {l : List α} {a : α} (h : endOf front l = some a) :
    (dropEnd front l).length + 1 = l.length := by
  have := congrArg List.length (end_shape h)
  cases front <;> simp at this <;> omega

theorem dropEnd_sub {α} (front : Bool) (l : List α) : ∀ a ∈ dropEnd front l, a ∈ l := by
  intro a ha
  unfold dropEnd at ha
  cases front with
  | true => exact List.mem_of_mem_tail ha
  | false => exact (List.dropLast_sublist l).subset ha

theorem trimBy_step {α} (dead : α → Bool) {front : Bool} {l : List α} {a : α}
    (h : endOf front l = some a) :
    trimBy dead front l = if dead a then trimBy dead front (dropEnd front l) else l := by
  have hs := end_shape h
  cases front with
  | true =>
    simp only [if_true] at hs
    generalize dropEnd true l = t at hs ⊢
    subst hs
    unfold trimBy
    simp only [if_true, List.dropWhile_cons]
  | false =>
    simp only [Bool.false_eq_true, if_false] at hs
    generalize dropEnd false l = t at hs ⊢
    subst hs
    unfold trimBy
    simp only [Bool.false_eq_true, if_false, List.reverse_append, List.reverse_cons, List.reverse_nil,
      List.nil_append, List.singleton_append, List.dropWhile_cons]
    split
    · rfl
    · simp

theorem trimBy_end_live {α} (dead : α → Bool) (front : Bool) (l : List α) {a : α}
    (h : endOf front (trimBy dead front l) = some a) : dead a = false := by
  unfold endOf trimBy at h
  cases front with
  | true =>
    simp only [if_true] at h
    have := List.head?_dropWhile_not dead l
    rw [h] at this; exact this
  | false =>
    simp only [Bool.false_eq_true, if_false, List.getLast?_reverse] at h
    have := List.head?_dropWhile_not dead l.reverse
    rw [h] at this; exact this

theorem trimBy_idem {α} (dead : α → Bool) (front : Bool) (l : List α) :
    trimBy dead front (trimBy dead front l) = trimBy dead front l := by
  cases he : endOf front (trimBy dead front l) with
  | none => rw [endOf_none he, trimBy_nil]
  | some a => rw [trimBy_step dead he, trimBy_end_live dead front l he]; rfl

/-- what `pull` / `peek` return on the trimmed queue `l`: its end item, or the default -/
def endResult (E : Externals) (cfg : Cfg) (p : Option Str) (front et tg : Bool) (l : List Item) : Out :=
  match endOf front l with
  | none => Cache.defaultFlags et tg
  | some it => result E cfg p et tg it

theorem pull_eq (q : State) (E : Externals) (cfg : Cfg) (now : Int) (p : Option Str) (front et tg : Bool) :
    pull q E cfg now p front et tg =
      ({ q with queues := q.queues.put p (dropEnd front (trim now front (q.queues.get p))) },
       endResult E cfg p front et tg (trim now front (q.queues.get p))) := by
  unfold pull endResult
  simp only
  cases he : endOf front (trim now front (q.queues.get p)) with
  | none => rw [endOf_none he, dropEnd_nil]
  | some it => rfl

theorem peek_eq (q : State) (E : Externals) (cfg : Cfg) (now : Int) (p : Option Str) (front et tg : Bool) :
    peek q E cfg now p front et tg =
      ({ q with queues := q.queues.put p (trim now front (q.queues.get p)) },
       endResult E cfg p front et tg (trim now front (q.queues.get p))) := by
  unfold peek endResult
  simp only
  cases endOf front (trim now front (q.queues.get p)) <;> rfl

theorem get_put (qs : Queues) (p p' : Option Str) (l : List Item) :
    (qs.put p l).get p' = if p = p' then l else qs.get p' := by
  unfold Queues.put Queues.get
  by_cases h : p = p'
  · subst h; simp
  · have h1 : ((p, l).1 == p') = false := by simpa using h
    -- only the queue `p'` is looked up, so that the old queue `p` was dropped changes nothing
    have h2 : (fun a : Option Str × List Item => decide ((!a.1 == p) = true ∧ (a.1 == p') = true)) =
        fun x => x.1 == p' := by
      funext x
      by_cases hx : x.1 = p'
      · subst hx; simp [Ne.symm h]
      · simp [hx]
    rw [if_neg h, List.find?_cons, h1, List.find?_filter, h2]

theorem get_keep (qs : Queues) (keep : Spec.Entry → Bool) (p : Option Str) :
    (qs.keep keep).get p = (qs.get p).filter (fun it => keep it.ent) := by
  unfold Queues.keep Queues.get
  rw [List.find?_map]
  have : ((fun x : Option Str × List Item => x.1 == p) ∘
      fun x : Option Str × List Item => (x.1, x.2.filter (fun it => keep it.ent))) =
      (fun x => x.1 == p) := rfl
  rw [this]
  cases List.find? (fun x : Option Str × List Item => x.1 == p) qs <;> rfl

theorem Thinned.refl (now : Int) (l : List Item) : Thinned now l l :=
  ⟨fun _ => true, (DC.Cache.filter_true' l).symm, fun _ _ h => by cases h⟩

theorem Thinned.mono {clock now : Int} {l' l : List Item} (h : Thinned clock l' l) (hn : clock ≤ now) :
    Thinned now l' l := by
  obtain ⟨keep, h1, h2⟩ := h
  exact ⟨keep, h1, fun it hit hk => Cache.rf_expired_mono (h2 it hit hk) hn⟩

theorem Thinned.trans {now : Int} {a b c : List Item} (h1 : Thinned now a b) (h2 : Thinned now b c) :
    Thinned now a c := by
  obtain ⟨k1, e1, x1⟩ := h1
  obtain ⟨k2, e2, x2⟩ := h2
  refine ⟨fun it => k1 it && k2 it, by rw [e1, e2, List.filter_filter], ?_⟩
  intro it hit hk
  simp only at hk
  cases hk2 : k2 it with
  | false => exact x2 it hit hk2
  | true =>
    rw [hk2] at hk
    simp only [Bool.and_true] at hk
    exact x1 it (by rw [e2]; exact List.mem_filter.2 ⟨hit, hk2⟩) hk

theorem Thinned.filter {now : Int} {l' l : List Item} (h : Thinned now l' l) (k : Item → Bool) :
    Thinned now (l'.filter k) (l.filter k) := by
  obtain ⟨keep, e, x⟩ := h
  refine ⟨keep, ?_, fun it hit hk => x it (List.mem_filter.1 hit).1 hk⟩
  rw [e, List.filter_filter, List.filter_filter]
  apply List.filter_congr
  intro a _
  exact Bool.and_comm _ _

theorem mem_pushed {α} {back : Bool} {x a : α} {l : List α}
    (h : x ∈ (if back then l ++ [a] else a :: l)) : x ∈ l ∨ x = a := by
  cases back with
  | true =>
    simp only [if_true] at h
    exact (List.mem_append.1 h).imp id List.mem_singleton.1
  | false =>
    simp only [Bool.false_eq_true, if_false] at h
    exact (List.mem_cons.1 h).symm

theorem map_pushed {α β} (f : α → β) (back : Bool) (a : α) (l : List α) :
    (if back then l ++ [a] else a :: l).map f = if back then l.map f ++ [f a] else f a :: l.map f := by
  cases back <;> simp

theorem Thinned.add {now : Int} {l' l : List Item} (h : Thinned now l' l) (x : Item)
    (hx : x.ent.expired now = false) (back : Bool) :
    Thinned now (if back then l' ++ [x] else x :: l') (if back then l ++ [x] else x :: l) := by
  obtain ⟨keep, e, hk⟩ := h
  have hkx : ∀ it ∈ l, (keep it || decide (it = x)) = keep it := by
    intro it hit
    cases h1 : keep it with
    | true => rfl
    | false =>
      have := hk it hit h1
      have hne : it ≠ x := by intro e'; rw [e', hx] at this; cases this
      simp [hne]
  refine ⟨fun it => keep it || decide (it = x), ?_, ?_⟩
  · cases back with
    | true =>
      simp only [if_true, List.filter_append, List.filter_cons, List.filter_nil, decide_true, Bool.or_true]
      rw [e, List.filter_congr hkx]
    | false =>
      simp only [Bool.false_eq_true, if_false, List.filter_cons, decide_true, Bool.or_true, if_true]
      rw [e, List.filter_congr hkx]
  · intro it hit hf
    simp only [Bool.or_eq_false_iff, decide_eq_false_iff_not] at hf
    have hmem : it ∈ l := (mem_pushed hit).resolve_right hf.2
    exact hk it hmem hf.1

/-- rows dropped by `g` (expired ones only), read as items by an injective `f` -/
theorem thinned_map_filter {α} (now : Int) (L : List α) (f : α → Item) (g : α → Bool)
    (hinj : ∀ x ∈ L, ∀ y ∈ L, f x = f y → x = y)
    (hg : ∀ x ∈ L, g x = false → (f x).ent.expired now = true) :
    Thinned now ((L.filter g).map f) (L.map f) := by
  refine ⟨fun b => L.any (fun x => g x && decide (f x = b)), ?_, ?_⟩
  · rw [List.filter_map]
    congr 1
    apply List.filter_congr
    intro x hx
    simp only [Function.comp]
    cases hgx : g x with
    | true =>
      symm
      rw [List.any_eq_true]
      exact ⟨x, hx, by simp [hgx]⟩
    | false =>
      symm
      rw [List.any_eq_false]
      intro y hy
      simp only [Bool.and_eq_true, decide_eq_true_eq, not_and]
      intro hgy hfy
      have := hinj y hy x hx hfy
      subst this
      rw [hgx] at hgy; cases hgy
  · intro b hb hk
    simp only at hk
    obtain ⟨x, hx, rfl⟩ := List.mem_map.1 hb
    apply hg x hx
    cases hgx : g x with
    | false => rfl
    | true =>
      have : (L.any fun y => g y && decide (f y = f x)) = true := by
        rw [List.any_eq_true]; exact ⟨x, hx, by simp [hgx]⟩
      rw [this] at hk; cases hk

theorem Thinned.live_mem {now : Int} {l' l : List Item} (h : Thinned now l' l) {it : Item} (hit : it ∈ l)
    (hl : it.ent.expired now = false) : it ∈ l' := by
  obtain ⟨keep, e, hk⟩ := h
  rw [e]
  refine List.mem_filter.2 ⟨hit, ?_⟩
  cases h1 : keep it with
  | true => rfl
  | false => rw [hk it hit h1] at hl; cases hl

theorem Thinned.sublist {now : Int} {l' l : List Item} (h : Thinned now l' l) : l'.Sublist l := by
  obtain ⟨keep, e, -⟩ := h
  rw [e]; exact List.filter_sublist

/-- what the lazy cull of a write at `now` (`_cull`: up to `lim` expired rows) leaves of a queue:
the queue without some expired items, and all of it when `lim = 0` -/
def Culled (lim : Nat) (now : Int) (l' l : List Item) : Prop := Thinned now l' l ∧ (lim = 0 → l' = l)

theorem Culled.refl (lim : Nat) (now : Int) (l : List Item) : Culled lim now l l :=
  ⟨Thinned.refl now l, fun _ => rfl⟩

theorem Culled.eq {lim : Nat} {now : Int} {l' l : List Item} (h : Culled lim now l' l)
    (hq : lim = 0 ∨ ∀ it ∈ l, it.ent.expT = none) : l' = l := by
  rcases hq with h0 | h0
  · exact h.2 h0
  · obtain ⟨keep, e, hk⟩ := h.1
    rw [e, List.filter_eq_self]
    intro it hit
    cases h1 : keep it with
    | true => rfl
    | false =>
      have := hk it hit h1
      unfold Spec.Entry.expired at this
      rw [h0 it hit] at this; cases this

/-! ### `pull` / `peek` do not depend on which expired items are already gone -/

theorem dropWhile_filter {α} (dead keep : α → Bool) : ∀ l : List α,
    (∀ a ∈ l, keep a = false → dead a = true) →
    (l.filter keep).dropWhile dead = (l.dropWhile dead).filter keep
  | [], _ => rfl
  | a :: t, h => by
    have ih := dropWhile_filter dead keep t (fun b hb => h b (List.mem_cons_of_mem _ hb))
    cases hk : keep a with
    | false =>
      rw [List.filter_cons_of_neg (by simp [hk]), List.dropWhile_cons_of_pos (h a List.mem_cons_self hk)]
      exact ih
    | true =>
      rw [List.filter_cons_of_pos hk]
      cases hd : dead a with
      | true => rw [List.dropWhile_cons_of_pos hd, List.dropWhile_cons_of_pos hd]; exact ih
      | false =>
        rw [List.dropWhile_cons_of_neg (by simp [hd]), List.dropWhile_cons_of_neg (by simp [hd]),
          List.filter_cons_of_pos hk]

theorem trimBy_filter {α} (dead keep : α → Bool) (front : Bool) (l : List α)
    (h : ∀ a ∈ l, keep a = false → dead a = true) :
    trimBy dead front (l.filter keep) = (trimBy dead front l).filter keep := by
  unfold trimBy
  cases front with
  | true => exact dropWhile_filter dead keep l h
  | false =>
    simp only [Bool.false_eq_true, if_false]
    rw [← List.filter_reverse, dropWhile_filter dead keep l.reverse (fun a ha => h a (List.mem_reverse.1 ha)),
      List.filter_reverse]

theorem endOf_filter_live {α} (keep : α → Bool) {front : Bool} {l : List α} {a : α}
    (h : endOf front l = some a) (hka : keep a = true) :
    endOf front (l.filter keep) = some a ∧
    dropEnd front (l.filter keep) = (dropEnd front l).filter keep := by
  have hs := end_shape h
  generalize dropEnd front l = t at hs ⊢
  subst hs
  unfold endOf dropEnd
  cases front with
  | true => simp only [if_true, List.filter_cons_of_pos hka, List.head?_cons, List.tail_cons, and_self]
  | false =>
    simp only [Bool.false_eq_true, if_false, List.filter_append, List.filter_cons_of_pos hka, List.filter_nil,
      List.getLast?_append, List.getLast?_singleton, Option.some_or, List.dropLast_concat, and_self]

theorem thinned_pull_core (now : Int) (front : Bool) {l' l : List Item} (h : Thinned now l' l) :
    endOf front (trim now front l') = endOf front (trim now front l) ∧
    Thinned now (trim now front l') (trim now front l) ∧
    Thinned now (dropEnd front (trim now front l')) (dropEnd front (trim now front l)) := by
  obtain ⟨keep, rfl, hk⟩ := h
  have ht : trim now front (l.filter keep) = (trim now front l).filter keep :=
    trimBy_filter _ keep front l hk
  have hk' : ∀ it ∈ trim now front l, keep it = false → it.ent.expired now = true :=
    fun it hit => hk it (trimBy_sub _ _ _ it hit)
  rw [ht]
  cases he : endOf front (trim now front l) with
  | none =>
    rw [endOf_none he]
    simp only [List.filter_nil, dropEnd_nil]
    exact ⟨endOf_nil front, ⟨keep, rfl, (fun _ h => by cases h)⟩, ⟨keep, rfl, (fun _ h => by cases h)⟩⟩
  | some a =>
    have hlive : a.ent.expired now = false := trimBy_end_live _ front l he
    have hka : keep a = true := by
      cases h : keep a with
      | true => rfl
      | false => rw [hk' a (endOf_mem he) h] at hlive; cases hlive
    obtain ⟨e1, e2⟩ := endOf_filter_live keep he hka
    exact ⟨e1, ⟨keep, rfl, hk'⟩, ⟨keep, e2, fun it hit => hk' it (dropEnd_sub _ _ it hit)⟩⟩

end DC.QSpec

namespace DC.QSpec
open DC.Cache

def mkItems (a : Int) : List Spec.Entry → List Item
  | [] => []
  | e :: es => ⟨a, e⟩ :: mkItems (a + 1) es

def NoExp (l : List Item) : Prop := ∀ it ∈ l, it.ent.expT = none

def storedAs (E : Externals) (cfg : Cfg) (v : PyVal) : Spec.Entry := (DSpec.entryFor E cfg v).getD default

def touches (p : Option Str) : Cache.Op → Bool
  | .push _ _ _ p' _ _ _ _ => p' == p
  | .pull _ _ p' _ _ _ => p' == p
  | .peek _ _ p' _ _ _ => p' == p
  | .clear | .evict _ | .expire _ | .cull _ => true
  | _ => false

def pick (p : Option Str) (ops : List Cache.Op) (os : List Out) : List Out :=
  ((ops.zip os).filter (fun x => touches p x.1)).map (·.2)

@[elab_as_elim]
theorem covered_cases {motive : Cache.Op → Prop}
    (push : ∀ E now v p back ttl read tag, motive (.push E now v p back ttl read tag))
    (pull : ∀ E now p front et tg, motive (.pull E now p front et tg))
    (peek : ∀ E now p front et tg, motive (.peek E now p front et tg))
    (keyed : ∀ op, Spec.Keyed op = true → Spec.Determined op = true →
      (∀ q cfg, (step q cfg op).1.queues = q.queues) → motive op)
    (clear : motive .clear) (evict : ∀ tag, motive (.evict tag)) (expire : ∀ now, motive (.expire now))
    (cull : ∀ now, motive (.cull now)) : ∀ op, Covered op = true → motive op := by
  intro op hk
  cases op with
  | push => exact push ..
  | pull => exact pull ..
  | peek => exact peek ..
  | set | add | touch | incr | get | contains | pop | delitem | delete => exact keyed _ rfl rfl (fun _ _ => rfl)
  | clear => exact clear
  | evict => exact evict _
  | expire => exact expire _
  | cull => exact cull _
  | _ => cases hk

theorem run_append (q : State) (cfg : Cfg) (a b : List Cache.Op) :
    run q cfg (a ++ b) = run (run q cfg a) cfg b := by
  unfold run; rw [List.foldl_append]

theorem outs_append (q : State) (cfg : Cfg) (a b : List Cache.Op) :
    outs q cfg (a ++ b) = outs q cfg a ++ outs (run q cfg a) cfg b := by
  induction a generalizing q with
  | nil => rfl
  | cons op a ih =>
    show _ :: outs _ cfg (a ++ b) = _ :: _ ++ _
    rw [ih]; rfl

theorem run_cons (q : State) (cfg : Cfg) (op : Cache.Op) (ops : List Cache.Op) :
    run q cfg (op :: ops) = run (step q cfg op).1 cfg ops := rfl

theorem outs_cons (q : State) (cfg : Cfg) (op : Cache.Op) (ops : List Cache.Op) :
    outs q cfg (op :: ops) = (step q cfg op).2 :: outs (step q cfg op).1 cfg ops := rfl

theorem mkItems_append (a : Int) (es : List Spec.Entry) (e : Spec.Entry) :
    mkItems a (es ++ [e]) = mkItems a es ++ [⟨a + es.length, e⟩] := by
  induction es generalizing a with
  | nil => simp [mkItems]
  | cons x t ih =>
    simp only [List.cons_append, mkItems, ih, List.length_cons]
    have : a + 1 + (t.length : Int) = a + ((t.length + 1 : Nat) : Int) := by push_cast; omega
    rw [this]

theorem mkItems_length (a : Int) (es : List Spec.Entry) : (mkItems a es).length = es.length := by
  induction es generalizing a with
  | nil => rfl
  | cons x t ih => simp [mkItems, ih]

theorem mkItems_noExp (a : Int) (es : List Spec.Entry) (h : ∀ e ∈ es, e.expT = none) :
    NoExp (mkItems a es) := by
  induction es generalizing a with
  | nil => intro _ h; cases h
  | cons x t ih =>
    intro it hit
    rcases List.mem_cons.1 hit with rfl | hit
    · exact h x List.mem_cons_self
    · exact ih (a + 1) (fun e he => h e (List.mem_cons_of_mem _ he)) it hit

theorem mkItems_last (a : Int) (es : List Spec.Entry) :
    (mkItems a es).getLast? = es.getLast?.map (fun e => ⟨a + es.length - 1, e⟩) := by
  rcases List.eq_nil_or_concat es with rfl | ⟨t, x, rfl⟩
  · rfl
  · rw [List.concat_eq_append, mkItems_append]
    simp only [List.getLast?_append, List.getLast?_singleton, Option.some_or, List.length_append,
      List.length_cons, List.length_nil, Option.map_some]
    congr 2
    push_cast
    omega

theorem nextNum_mkItems (cfg : Cfg) (es : List Spec.Entry) :
    nextNum cfg true (mkItems cfg.qorigin es) = cfg.qorigin + es.length := by
  unfold nextNum endOf
  simp only [Bool.not_true, Bool.false_eq_true, if_false, mkItems_last]
  rcases List.eq_nil_or_concat es with rfl | ⟨t, x, rfl⟩
  · simp
  · simp only [List.concat_eq_append, List.getLast?_append, List.getLast?_singleton, Option.some_or,
      Option.map_some, if_true, List.length_append, List.length_cons, List.length_nil]
    push_cast
    omega

theorem storedAs_spec {E : Externals} {cfg : Cfg} {v : PyVal} (h : DSpec.storable E cfg v = true) :
    DSpec.entryFor E cfg v = some (storedAs E cfg v) := by
  unfold DSpec.storable at h
  unfold storedAs
  cases he : DSpec.entryFor E cfg v with
  | none => rw [he] at h; cases h
  | some e => rfl

theorem entryFor_expT {E : Externals} {cfg : Cfg} {v : PyVal} {e : Spec.Entry}
    (h : DSpec.entryFor E cfg v = some e) : e.expT = none := by
  unfold DSpec.entryFor at h
  split at h
  · cases h
  · split at h
    · cases h
      rename_i pl _ _
      cases pl <;> rfl
    · cases h

theorem push_back_spec (q : State) (E : Externals) (cfg : Cfg) (now : Int) (v : PyVal) (p : Option Str)
    {e : Spec.Entry} (h : DSpec.entryFor E cfg v = some e)
    (hb : bindable (queueKey p (nextNum cfg true (q.queues.get p))) = true) :
    push q E cfg now v p true none false .null =
      ({ q with queues := q.queues.put p (q.queues.get p ++ [⟨nextNum cfg true (q.queues.get p), e⟩]) },
       .val (column (queueKey p (nextNum cfg true (q.queues.get p))))) := by
  unfold DSpec.entryFor at h
  unfold push
  cases hpl : place E cfg.disk cfg.minFileSize v false with
  | error x => rw [hpl] at h; cases h
  | ok pl =>
    rw [hpl] at h
    simp only at h ⊢
    split at h
    · rename_i hv
      cases h
      have ht : bindable (Spec.entryOf pl (Option.map (fun x => now + x) none) SqlVal.null).tag = true := by
        cases pl <;> rfl
      have hv' : bindable (Spec.entryOf pl (Option.map (fun x => now + x) none) SqlVal.null).val = true := hv
      simp only [ht, hv', hb, Bool.and_self, if_true]
      rfl
    · cases h

theorem trimBy_none {α} (dead : α → Bool) (front : Bool) (l : List α) (h : ∀ a ∈ l, dead a = false) :
    trimBy dead front l = l := by
  cases he : endOf front l with
  | none => rw [endOf_none he, trimBy_nil]
  | some a => rw [trimBy_step dead he, h a (endOf_mem he)]; rfl

theorem trim_noExp (now : Int) (front : Bool) {l : List Item} (h : NoExp l) : trim now front l = l := by
  unfold trim
  apply trimBy_none
  intro it hit
  unfold Spec.Entry.expired
  rw [h it hit]

theorem pushes_spec (E : Externals) (cfg : Cfg) (now : Int) (p : Option Str) :
    ∀ (vs : List PyVal) (es0 : List Spec.Entry) (q : State),
      (∀ k : Nat, k < es0.length + vs.length → bindable (queueKey p (cfg.qorigin + k)) = true) →
      (∀ v ∈ vs, DSpec.storable E cfg v = true) → q.queues.get p = mkItems cfg.qorigin es0 →
      (run q cfg (vs.map (fun v => Cache.Op.push E now v p true none false .null))).queues.get p =
        mkItems cfg.qorigin (es0 ++ vs.map (storedAs E cfg)) ∧
      outs q cfg (vs.map (fun v => Cache.Op.push E now v p true none false .null)) =
        (mkItems (cfg.qorigin + es0.length) (vs.map (storedAs E cfg))).map
          (fun it => .val (column (queueKey p it.num))) := by
  intro vs
  induction vs with
  | nil => intro es0 q _ _ hq; simp [run, outs, mkItems, hq]
  | cons v vs ih =>
    intro es0 q hp hs hq
    have hv := storedAs_spec (hs v List.mem_cons_self)
    have hstep : step q cfg (.push E now v p true none false .null) = _ :=
      push_back_spec q E cfg now v p hv (by
        rw [hq, nextNum_mkItems]
        exact hp es0.length (by simp))
    rw [hq, nextNum_mkItems] at hstep
    simp only [List.map_cons, run_cons, outs_cons, hstep]
    obtain ⟨h1, h2⟩ := ih (es0 ++ [storedAs E cfg v])
      { q with queues := (q.queues.put p (mkItems cfg.qorigin es0 ++ [⟨cfg.qorigin + es0.length, storedAs E cfg v⟩])) }
      (fun k hk => hp k (by simp only [List.length_append, List.length_cons, List.length_nil] at hk ⊢; omega))
      (fun w hw => hs w (List.mem_cons_of_mem _ hw))
      (by
        show (q.queues.put p _).get p = _
        rw [get_put, if_pos rfl, mkItems_append])
    refine ⟨by rw [h1]; simp, ?_⟩
    rw [h2]
    simp only [mkItems, List.map_cons, List.length_append, List.length_cons, List.length_nil]
    congr 3

/-- `k` pulls (sides `fs`) on a queue of `l.length ≤ k` never-expiring items return every item
exactly once — `picked` is a permutation of the queue —, then the default; from the front only,
in queue order; from the back only, in reverse order -/
theorem pulls_spec (E : Externals) (cfg : Cfg) (now : Int) (p : Option Str) (et tg : Bool) :
    ∀ (fs : List Bool) (l : List Item) (q : State), q.queues.get p = l → NoExp l → l.length ≤ fs.length →
      ∃ picked : List Item, picked.Perm l ∧
        outs q cfg (fs.map (fun f => Cache.Op.pull E now p f et tg)) =
          picked.map (result E cfg p et tg) ++ List.replicate (fs.length - l.length) (defaultFlags et tg) ∧
        ((∀ f ∈ fs, f = true) → picked = l) ∧ ((∀ f ∈ fs, f = false) → picked = l.reverse) ∧
        (run q cfg (fs.map (fun f => Cache.Op.pull E now p f et tg))).queues.get p = [] := by
  intro fs
  induction fs with
  | nil =>
    intro l q hq _ hl
    have : l = [] := List.length_eq_zero_iff.1 (by simpa using hl)
    subst this
    exact ⟨[], List.Perm.refl _, rfl, fun _ => rfl, fun _ => rfl, hq⟩
  | cons f fs ih =>
    intro l q hq hne hl
    have hstep : step q cfg (.pull E now p f et tg) =
        ({ q with queues := q.queues.put p (dropEnd f l) }, endResult E cfg p f et tg l) := by
      show pull q E cfg now p f et tg = _
      rw [pull_eq, hq, trim_noExp now f hne]
    simp only [List.map_cons, outs_cons, run_cons, List.length_cons, hstep] at hl ⊢
    obtain ⟨pk, h1, h2, h3, h4, h5⟩ := ih (dropEnd f l) { q with queues := q.queues.put p (dropEnd f l) }
      (by show (q.queues.put p (dropEnd f l)).get p = _; rw [get_put, if_pos rfl])
      (fun x hx => hne x (dropEnd_sub f l x hx)) (by rw [dropEnd_length_eq]; omega)
    rw [h2]
    unfold endResult
    cases he : endOf f l with
    | none =>
      -- the queue is empty: the default, and nothing is picked later either
      have hnil := endOf_none he
      subst hnil
      rw [dropEnd_nil] at h1 h5
      rw [List.Perm.eq_nil h1, dropEnd_nil]
      exact ⟨[], List.Perm.refl _, rfl, fun _ => rfl, fun _ => rfl, h5⟩
    | some it =>
      have hsh := end_shape he
      have hlen := dropEnd_length he
      refine ⟨it :: pk, ?_, ?_, ?_, ?_, h5⟩
      · cases f with
        | true =>
          simp only [if_true] at hsh
          rw [hsh]; exact List.Perm.cons _ h1
        | false =>
          simp only [Bool.false_eq_true, if_false] at hsh
          rw [hsh]
          exact (List.Perm.cons _ h1).trans (List.perm_append_singleton _ _).symm
      · simp only [List.map_cons, List.cons_append]
        have : fs.length - (dropEnd f l).length = fs.length + 1 - l.length := by omega
        rw [this]
      · intro hall
        have hf : f = true := hall f List.mem_cons_self
        subst hf
        simp only [if_true] at hsh
        rw [h3 (fun g hg => hall g (List.mem_cons_of_mem _ hg))]
        exact hsh.symm
      · intro hall
        have hf : f = false := hall f List.mem_cons_self
        subst hf
        simp only [Bool.false_eq_true, if_false] at hsh
        rw [h4 (fun g hg => hall g (List.mem_cons_of_mem _ hg))]
        conv => rhs; rw [hsh]
        simp

theorem beq_false_ne {p' p : Option Str} (h : (p' == p) = false) : p' ≠ p := by
  intro e; subst e; simp at h

theorem step_untouched (q : State) (cfg : Cfg) (p : Option Str) (op : Cache.Op) (h : touches p op = false) :
    (step q cfg op).1.queues.get p = q.queues.get p := by
  unfold step
  split
  next E now v p' back ttl read tag =>
    simp only [push]
    split
    · rfl
    · split
      · show (q.queues.put p' _).get p = _
        rw [get_put, if_neg (beq_false_ne h)]
      · rfl
  next E now p' front et tg =>
    rw [pull_eq]
    show (q.queues.put p' _).get p = _
    rw [get_put, if_neg (beq_false_ne h)]
  next E now p' front et tg =>
    rw [peek_eq]
    show (q.queues.put p' _).get p = _
    rw [get_put, if_neg (beq_false_ne h)]
  next => cases h
  next => cases h
  next => cases h
  next => cases h
  next => rfl

theorem step_touched (q q' : State) (cfg : Cfg) (p : Option Str) (op : Cache.Op) (h : touches p op = true)
    (hq : q.queues.get p = q'.queues.get p) :
    (step q cfg op).2 = (step q' cfg op).2 ∧
    (step q cfg op).1.queues.get p = (step q' cfg op).1.queues.get p := by
  have hput : ∀ l, (q.queues.put p l).get p = (q'.queues.put p l).get p := fun l => by
    rw [get_put, get_put, if_pos rfl, if_pos rfl]
  have hkeep : ∀ keep, (q.queues.keep keep).get p = (q'.queues.keep keep).get p := fun keep => by
    rw [get_keep, get_keep, hq]
  unfold touches at h
  split at h
  next E now v p' back ttl read tag =>
    have hp : p' = p := by simpa using h
    subst hp
    simp only [step, push, hq]
    split
    · exact ⟨rfl, hq⟩
    · split
      · exact ⟨rfl, hput _⟩
      · exact ⟨rfl, hq⟩
  next E now p' front et tg =>
    have hp : p' = p := by simpa using h
    subst hp
    simp only [step, pull_eq, hq]
    exact ⟨trivial, hput _⟩
  next E now p' front et tg =>
    have hp : p' = p := by simpa using h
    subst hp
    simp only [step, peek_eq, hq]
    exact ⟨trivial, hput _⟩
  next => exact ⟨rfl, rfl⟩
  next tag => exact ⟨rfl, hkeep (fun e => !e.tag.eqv tag)⟩
  next now => exact ⟨rfl, hkeep (fun e => !e.expired now)⟩
  next now => exact ⟨rfl, hkeep (fun e => !e.expired now)⟩
  next => cases h

theorem run_untouched (cfg : Cfg) (p : Option Str) (ops : List Cache.Op) (q : State)
    (h : ∀ op ∈ ops, touches p op = false) : (run q cfg ops).queues.get p = q.queues.get p := by
  induction ops generalizing q with
  | nil => rfl
  | cons op ops ih =>
    rw [run_cons, ih _ (fun o ho => h o (List.mem_cons_of_mem _ ho)),
      step_untouched q cfg p op (h op List.mem_cons_self)]

/-- **projection**: the results of the calls that touch `p` are their results in the history
projected to those calls — from any state with the same queue of `p` -/
theorem outs_project (cfg : Cfg) (p : Option Str) (ops : List Cache.Op) (q q' : State)
    (hq : q.queues.get p = q'.queues.get p) :
    pick p ops (outs q cfg ops) = outs q' cfg (ops.filter (touches p)) := by
  induction ops generalizing q q' with
  | nil => rfl
  | cons op ops ih =>
    unfold pick
    rw [outs_cons]
    simp only [List.zip_cons_cons, List.filter_cons]
    cases ht : touches p op with
    | true =>
      simp only [if_true, List.map_cons, outs_cons]
      obtain ⟨h1, h2⟩ := step_touched q q' cfg p op ht hq
      rw [h1]
      congr 1
      exact ih _ _ h2
    | false =>
      simp only [Bool.false_eq_true, if_false]
      exact ih _ _ (by rw [step_untouched q cfg p op ht]; exact hq)

end DC.QSpec
