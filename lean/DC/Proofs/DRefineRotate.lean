/-
C11_Refine, list facts about the single rotation steps of DC/Model/DSpec.lean: `rotl` and `rotr`
undo each other, a full turn (`len` steps) is the identity, so only `steps mod len` matters.
-/
import DC.Model.DSpec

namespace DC.DSpec

theorem iter_succ' {α} (f : α → α) : ∀ (k : Nat) (a : α), iter_ f (k + 1) a = f (iter_ f k a)
  | 0, _ => rfl
  | k + 1, a => iter_succ' f k (f a)

theorem iter_add {α} (f : α → α) : ∀ (a b : Nat) (x : α), iter_ f (a + b) x = iter_ f b (iter_ f a x)
  | 0, b, x => by rw [Nat.zero_add]; rfl
  | a + 1, b, x => by
    rw [show a + 1 + b = (a + b) + 1 by omega]
    exact iter_add f a b (f x)

theorem rotr_rotl {α} (l : List α) : rotr (rotl l) = l := by
  cases l with
  | nil => rfl
  | cons x t =>
    unfold rotl rotr
    simp [List.getLast?_append]

theorem rotl_rotr {α} (l : List α) : rotl (rotr l) = l := by
  unfold rotr
  rcases List.eq_nil_or_concat l with h | ⟨t, x, h⟩
  · subst h; rfl
  · subst h
    simp [List.concat_eq_append, List.getLast?_append, rotl]

theorem rotl_length {α} (l : List α) : (rotl l).length = l.length := by
  cases l <;> simp [rotl]

theorem rotr_length {α} (l : List α) : (rotr l).length = l.length := by
  have := rotl_length (rotr l)
  rw [rotl_rotr] at this
  exact this.symm

theorem iter_rotl_drop_take {α} : ∀ (k : Nat) (l : List α), k ≤ l.length →
    iter_ rotl k l = l.drop k ++ l.take k
  | 0, l, _ => by simp [iter_]
  | k + 1, [], h => by simp at h
  | k + 1, x :: t, h => by
    have hk : k ≤ t.length := by simpa using h
    show iter_ rotl k (t ++ [x]) = _
    rw [iter_rotl_drop_take k (t ++ [x]) (by simp; omega)]
    rw [List.drop_append_of_le_length hk, List.take_append_of_le_length hk]
    simp

theorem iter_rotl_len {α} (l : List α) : iter_ rotl l.length l = l := by
  rw [iter_rotl_drop_take l.length l (Nat.le_refl _)]
  simp

theorem iter_rotr_rotl {α} : ∀ (k : Nat) (l : List α), iter_ rotr k (iter_ rotl k l) = l
  | 0, _ => rfl
  | k + 1, l => by
    rw [iter_succ' rotl k l]
    show iter_ rotr k (rotr (rotl (iter_ rotl k l))) = l
    rw [rotr_rotl]
    exact iter_rotr_rotl k l

theorem iter_rotr_len {α} (l : List α) : iter_ rotr l.length l = l := by
  have := iter_rotr_rotl l.length l
  rw [iter_rotl_len] at this
  exact this

theorem iter_length {α} (f : List α → List α) (hf : ∀ l, (f l).length = l.length) :
    ∀ (k : Nat) (l : List α), (iter_ f k l).length = l.length
  | 0, _ => rfl
  | k + 1, l => by
    show (iter_ f k (f l)).length = _
    rw [iter_length f hf k (f l), hf]

theorem iter_turns {α} (f : List α → List α) (hlen : ∀ l, (f l).length = l.length)
    (hfull : ∀ l, iter_ f l.length l = l) (l : List α) : ∀ q : Nat, iter_ f (l.length * q) l = l
  | 0 => rfl
  | q + 1 => by
    rw [Nat.mul_succ, iter_add, iter_turns f hlen hfull l q]
    exact hfull l

theorem iter_mod {α} (f : List α → List α) (hlen : ∀ l, (f l).length = l.length)
    (hfull : ∀ l, iter_ f l.length l = l) (l : List α) (k : Nat) :
    iter_ f k l = iter_ f (k % l.length) l := by
  conv => lhs; rw [← Nat.div_add_mod k l.length]
  rw [iter_add, iter_turns f hlen hfull l]

theorem iter_nil {α} (f : List α → List α) (hf : f [] = []) : ∀ k, iter_ f k ([] : List α) = []
  | 0 => rfl
  | k + 1 => by show iter_ f k (f []) = []; rw [hf]; exact iter_nil f hf k

end DC.DSpec
