/-
`pull` and `peek` on a quiescent state that satisfies `QOkL`.  The loops remove the expired rows
at the addressed end one by one (each round is a `Shrunk` step) and return the first live row
(`pull` removes it, too): `qr_loop`.  `pull_abs` / `peek_abs` say the same of the queue as a list
of items; from them one step of the refinement, exact (`qr_pull_step`, `qr_peek_step`) and loose
(`ql_pull_step`, `ql_peek_step`, with `thinned_pull_core` of DC/Proofs/QSpecLemmas.lean).
-/
import DC.Proofs.QRefineLemmas

namespace DC.Cache
open DC.Spec DC.QSpec

theorem qhead_eq (s : Cache) (p : Option Str) (front : Bool) :
    qhead s p front = endOf front (s.queueRows p) := rfl

theorem good_pullLoop (E : Externals) (now : Int) (p : Option Str) (front et tg : Bool) (fuel : Nat)
    {s : Cache} (h : Good s) : Good (pullLoop E now p front et tg fuel s).1 :=
  good_of_pi (pullLoop_inv E now p front et tg fuel h.tinv) (pullLoop_PI _ _ _ _ _ _ _ _ h.pi)

theorem good_peekLoop (E : Externals) (now : Int) (p : Option Str) (front et tg : Bool) (fuel : Nat)
    {s : Cache} (h : Good s) : Good (peekLoop E now p front et tg fuel s).1 :=
  good_of_pi (peekLoop_inv E now p front et tg fuel h.tinv) (peekLoop_PI _ _ _ _ _ _ _ _ h.pi)

theorem shrunk_pullDel {s : Cache} (hg : Good s) {E : Externals} {now : Int} {p : Option Str}
    {front : Bool} {r : Row} (hh : qhead s p front = some r) (hx : expired now r = true) :
    Shrunk s (pullDel s r [r.file]) (fun x => x.rowid != r.rowid) := by
  have hgood : Good (pullDel s r [r.file]) := by
    have h1 := good_pullLoop E now p front false false 1 hg
    rw [pullLoop_succ] at h1
    simp only [hh, hx, if_true] at h1
    exact h1
  have hc : core (pullDel s r [r.file]) =
      { core s with rows := s.rows.filter (fun a => ![r.rowid].contains a.rowid),
                    files := s.files.filter (fun q => ![r.file].contains (some q.1)) } := by
    unfold pullDel
    rw [transact_ok_core s (delBody r [r.file]) none hg.depth rfl]
    unfold delBody
    simp only [core_delRow, core_logSql, core_log, core_files]
    rfl
  exact Shrunk.of_del hgood (pullDel_rows s r _) hc

theorem shrunk_pullTake {s : Cache} (hg : Good s) {E : Externals} {now : Int} {p : Option Str}
    {front : Bool} {r : Row} (hh : qhead s p front = some r) (hx : expired now r = false) :
    Shrunk s (pullTake s E r) (fun x => x.rowid != r.rowid) := by
  have hgood : Good (pullTake s E r) := by
    have h1 := good_pullLoop E now p front false false 1 hg
    rw [pullLoop_succ] at h1
    simp only [hh, hx, Bool.false_eq_true, if_false] at h1
    split at h1
    · exact h1
    · exact h1
  exact Shrunk.of_del hgood (pullTake_rows s E r) (drf_pullTake_zero s E r hg.depth)

/-- removing the row at the addressed end of queue `p` spares the rows outside that queue, and
leaves the queue without that end -/
theorem qr_drop_end {s s' : Cache} (hg : Good s) {p : Option Str} {front : Bool} {r : Row}
    (hh : endOf front (s.queueRows p) = some r) (hsh : Shrunk s s' (fun x => x.rowid != r.rowid)) :
    (∀ x ∈ s.rows, x ∉ s.queueRows p → (x.rowid != r.rowid) = true) ∧
    s'.queueRows p = dropEnd front (s.queueRows p) := by
  have hrq := endOf_mem hh
  refine ⟨fun x hx hnq => qr_other_rowid hg (mem_qrows.1 hrq).1 hx (fun e => hnq (e ▸ hrq)), ?_⟩
  have hshape := end_shape hh
  cases front with
  | true =>
    simp only [if_true] at hshape
    exact queue_del_head hg.tinv hshape hsh.rows
  | false =>
    simp only [Bool.false_eq_true, if_false] at hshape
    exact queue_del_last hg.tinv hshape hsh.rows

theorem qr_fetch {c : Cache} {n : Nat} (hok : QOkL c n) {p : Option Str} {r : Row} (hr : r ∈ c.queueRows p)
    (E : Externals) :
    (c.fetchRow E r false).2 ≠ .ioerror ∧
    fetchedOut (c.fetchRow E r false).2 = (rf_ent c r).out E c.cfg false false false := by
  have hrr : r ∈ c.rows := by rw [queueRows_eq] at hr; exact (mem_qrows.1 hr).1
  obtain ⟨h1, h2⟩ := drf_valueOf c E r (rf_good_ref hok.good hrr) (hok.readable p r hr)
  exact ⟨h1, h2.symm⟩

/-- what `pull` / `peek` return for the row `r` -/
def rowResult (c : Cache) (E : Externals) (et tg : Bool) (r : Row) : Out :=
  withFlags (.tup [.val (column r.key), (rf_ent c r).out E c.cfg false false false]) et tg r.expT r.tag

theorem rowResult_congr {c c' : Cache} (hc : c'.cfg = c.cfg) {r : Row} (he : rf_ent c' r = rf_ent c r)
    (E : Externals) (et tg : Bool) : rowResult c' E et tg r = rowResult c E et tg r := by
  unfold rowResult; rw [he, hc]

theorem queueRows_length_le (c : Cache) (p : Option Str) : (c.queueRows p).length ≤ c.rows.length := by
  rw [queueRows_eq]
  unfold qrows
  rw [length_isort]
  exact List.length_filter_le _ _

theorem trim_abs (c : Cache) (p : Option Str) (now : Int) (front : Bool) :
    trim now front (absQueue c p) = (trimBy (expired now) front (c.queueRows p)).map (itemOfRow c) := by
  unfold trim absQueue
  rw [trimBy_map]
  rfl

theorem result_item {c : Cache} {n : Nat} (hok : QOkL c n) {p : Option Str} {r : Row}
    (hr : r ∈ c.queueRows p) (E : Externals) (et tg : Bool) :
    QSpec.result E c.cfg p et tg (itemOfRow c r) = rowResult c E et tg r := by
  obtain ⟨m, h1, h2, -, -⟩ := hok.qok p r hr
  unfold QSpec.result rowResult itemOfRow
  simp only [h1, Option.getD_some, h2]
  rfl

/-- **the loops of `pull` and `peek`** on a state satisfying the invariant.  Both remove the
expired rows at the addressed end one by one and return the first live one; they differ in what
becomes of that row (`take`): `pull` removes it (`drop = true`), `peek` leaves it.  The conclusion
speaks of the queue as a list of items, the induction (`key`) of its rows. -/
theorem qr_loop (E : Externals) (now : Int) (p : Option Str) (front et tg : Bool) (n : Nat)
    (loop : Nat → Cache → Cache × Out) (take : Cache → Row → Cache) (drop : Bool)
    (hloop : ∀ fuel s, loop (fuel + 1) s =
      match qhead s p front with
      | none => (pullSel s, defaultFlags et tg)
      | some r =>
        if expired now r then loop fuel (pullDel s r [r.file])
        else match (s.fetchRow E r false).2 with
          | .ioerror => loop fuel (take s r)
          | f => (take s r, withFlags (.tup [.val (column r.key), fetchedOut f]) et tg r.expT r.tag))
    (htake : ∀ {s : Cache} {r : Row}, Good s → qhead s p front = some r → expired now r = false →
      ∃ g, Shrunk s (take s r) g ∧ (∀ x ∈ s.rows, x ∉ s.queueRows p → g x = true) ∧
        (take s r).queueRows p = if drop then dropEnd front (s.queueRows p) else s.queueRows p)
    (c : Cache) (hok : QOkL c n) :
    ∃ f, Shrunk c (loop (c.rows.length + 1) c).1 f ∧
      (∀ x ∈ c.rows, x ∉ c.queueRows p → f x = true) ∧
      (loop (c.rows.length + 1) c).2 = endResult E c.cfg p front et tg (trim now front (absQueue c p)) ∧
      absQueue (loop (c.rows.length + 1) c).1 p =
        if drop then dropEnd front (trim now front (absQueue c p)) else trim now front (absQueue c p) := by
  have key : ∀ (fuel : Nat) (c : Cache), (c.queueRows p).length < fuel → QOkL c n →
      ∃ f, Shrunk c (loop fuel c).1 f ∧
        (∀ x ∈ c.rows, x ∉ c.queueRows p → f x = true) ∧
        (loop fuel c).1.queueRows p =
          (if drop then dropEnd front (trimBy (expired now) front (c.queueRows p))
           else trimBy (expired now) front (c.queueRows p)) ∧
        (loop fuel c).2 =
          (match endOf front (trimBy (expired now) front (c.queueRows p)) with
           | none => defaultFlags et tg
           | some r => rowResult c E et tg r) := by
    intro fuel
    induction fuel with
    | zero => intro c hf; exact absurd hf (Nat.not_lt_zero _)
    | succ fuel ih =>
      intro c hf hok
      have hg := hok.good
      cases hh : endOf front (c.queueRows p) with
      | none =>
        have hnil : c.queueRows p = [] := endOf_none hh
        have hqh : qhead c p front = none := by rw [qhead_eq]; exact hh
        have hg' := good_pullLoop E now p front et tg 1 hg
        rw [pullLoop_succ] at hg'
        rw [hloop]
        simp only [hqh] at hg' ⊢
        refine ⟨_, Shrunk.of_core hg' (drf_pullSel_core c hg.depth), fun _ _ _ => rfl, ?_, ?_⟩
        · rw [hnil, trimBy_nil, dropEnd_nil, ite_self]
          rw [queueRows_eq, (pullSel_spec c).1, ← queueRows_eq, hnil]
        · rw [hnil, trimBy_nil, endOf_nil]
      | some r =>
        have hrq : r ∈ c.queueRows p := endOf_mem hh
        have hqh : qhead c p front = some r := by rw [qhead_eq]; exact hh
        rw [hloop]
        simp only [hqh]
        rw [trimBy_step (expired now) hh]
        cases hx : expired now r with
        | true =>
          simp only [if_true]
          have hsh := shrunk_pullDel hg (E := E) hqh hx
          obtain ⟨hout, hq1⟩ := qr_drop_end hg hh hsh
          have hok1 := hok.shrunk hsh
          obtain ⟨f1, h1, h2, h3, h4⟩ := ih (pullDel c r [r.file])
            (by rw [hq1]; have := dropEnd_length hh; omega) hok1
          rw [hq1] at h3 h4
          refine ⟨_, hsh.trans h1, ?_, h3, ?_⟩
          · intro x hx' hnq
            have ha := hout x hx' hnq
            simp only [ha, Bool.true_and]
            apply h2 x (by rw [hsh.rows]; exact List.mem_filter.2 ⟨hx', ha⟩)
            intro hc
            exact hnq (hsh.queue_sub hg p x hc)
          · rw [h4]
            split
            · rfl
            · rename_i r' hr'
              have hm : r' ∈ dropEnd front (c.queueRows p) := trimBy_sub _ _ _ _ (endOf_mem hr')
              rw [← hq1, queueRows_eq] at hm
              exact rowResult_congr hsh.cfg (hsh.ent hg r' (mem_qrows.1 hm).1) E et tg
        | false =>
          simp only [Bool.false_eq_true, if_false, hh]
          obtain ⟨hne, hval⟩ := qr_fetch hok hrq E
          obtain ⟨g, hsh, hg1, hg2⟩ := htake hg hqh hx
          split
          · contradiction
          · refine ⟨g, hsh, hg1, hg2, ?_⟩
            unfold rowResult
            rw [hval]
  obtain ⟨f, hsh, hf, hq, ho⟩ :=
    key (c.rows.length + 1) c (by have := queueRows_length_le c p; omega) hok
  refine ⟨f, hsh, hf, ?_, ?_⟩
  · unfold endResult
    rw [ho, trim_abs, endOf_map]
    cases he : endOf front (trimBy (expired now) front (c.queueRows p)) with
    | none => rfl
    | some r =>
      simp only [Option.map_some]
      exact (result_item hok (trimBy_sub _ _ _ _ (endOf_mem he)) E et tg).symm
  · rw [absQueue_shrunk hok.good hsh, hq, trim_abs]
    cases drop with
    | true => rw [if_pos rfl, if_pos rfl, dropEnd_map]
    | false => rfl

theorem pull_abs (c : Cache) (n : Nat) (now : Int) (E : Externals) (p : Option Str) (front et tg : Bool)
    (hok : QOkL c n) :
    ∃ f, Shrunk c (c.pull E now p front et tg).1 f ∧
      (∀ x ∈ c.rows, x ∉ c.queueRows p → f x = true) ∧
      (c.pull E now p front et tg).2 = endResult E c.cfg p front et tg (trim now front (absQueue c p)) ∧
      absQueue (c.pull E now p front et tg).1 p = dropEnd front (trim now front (absQueue c p)) := by
  have h := qr_loop E now p front et tg n (pullLoop E now p front et tg) (fun s r => pullTake s E r) true
    (fun fuel s => by
      rw [pullLoop_succ]
      cases qhead s p front with
      | none => rfl
      | some r => simp only [pullDel_fetch]; rfl)
    (fun {s r} hg hqh hx =>
      have hsh := shrunk_pullTake hg (E := E) hqh hx
      ⟨_, hsh, qr_drop_end hg hqh hsh⟩)
    c hok
  unfold pull
  simpa only [if_true] using h

theorem peek_abs (c : Cache) (n : Nat) (now : Int) (E : Externals) (p : Option Str) (front et tg : Bool)
    (hok : QOkL c n) :
    ∃ f, Shrunk c (c.peek E now p front et tg).1 f ∧
      (∀ x ∈ c.rows, x ∉ c.queueRows p → f x = true) ∧
      (c.peek E now p front et tg).2 = endResult E c.cfg p front et tg (trim now front (absQueue c p)) ∧
      absQueue (c.peek E now p front et tg).1 p = trim now front (absQueue c p) := by
  have h := qr_loop E now p front et tg n (peekLoop E now p front et tg)
    (fun s r => ((pullSel s).fetchRow E r false).1) false
    (fun fuel s => by
      rw [peekLoop_succ]
      cases qhead s p front with
      | none => rfl
      | some r => simp only [pullSel_fetch]; rfl)
    (fun {s r} hg hqh hx => by
      have hg2 : Good ((pullSel s).fetchRow E r false).1 := by
        have h := good_peekLoop E now p front et tg 1 hg
        rw [peekLoop_succ] at h
        simp only [hqh, hx, Bool.false_eq_true, if_false] at h
        split at h <;> exact h
      have hcore : core ((pullSel s).fetchRow E r false).1 = core s := by
        rw [core_fetchRow, drf_pullSel_core s hg.depth]
      refine ⟨_, Shrunk.of_core hg2 hcore, fun _ _ _ => rfl, ?_⟩
      rw [queueRows_eq, fetchRow_rows, (pullSel_spec s).1, ← queueRows_eq]
      rfl)
    c hok
  unfold peek
  simpa only [Bool.false_eq_true, if_false] using h

theorem qr_pull_step (c : Cache) (q : QSpec.State) (n : Nat) (clock now : Int) (E : Externals)
    (p : Option Str) (front et tg : Bool)
    (hok : QOk c n) (hr : QRefines c q clock) (hn : clock ≤ now) :
    (c.pull E now p front et tg).2 = (QSpec.pull q E c.cfg now p front et tg).2 ∧
    QRefines (c.pull E now p front et tg).1 (QSpec.pull q E c.cfg now p front et tg).1 now ∧
    QOk (c.pull E now p front et tg).1 n ∧ (c.pull E now p front et tg).1.cfg = c.cfg := by
  obtain ⟨f, hsh, hf, ho, ha⟩ := pull_abs c n now E p front et tg hok.toL
  rw [hr.queues p] at ho ha
  rw [pull_eq]
  exact ⟨ho, qrefines_shrunk_put hok hr hn hsh hf _ ha, hok.shrunk hsh, hsh.cfg⟩

theorem qr_peek_step (c : Cache) (q : QSpec.State) (n : Nat) (clock now : Int) (E : Externals)
    (p : Option Str) (front et tg : Bool)
    (hok : QOk c n) (hr : QRefines c q clock) (hn : clock ≤ now) :
    (c.peek E now p front et tg).2 = (QSpec.peek q E c.cfg now p front et tg).2 ∧
    QRefines (c.peek E now p front et tg).1 (QSpec.peek q E c.cfg now p front et tg).1 now ∧
    QOk (c.peek E now p front et tg).1 n ∧ (c.peek E now p front et tg).1.cfg = c.cfg := by
  obtain ⟨f, hsh, hf, ho, ha⟩ := peek_abs c n now E p front et tg hok.toL
  rw [hr.queues p] at ho ha
  rw [peek_eq]
  exact ⟨ho, qrefines_shrunk_put hok hr hn hsh hf _ ha, hok.shrunk hsh, hsh.cfg⟩

/-- under the loose relation the reference's queue may hold expired items the cache has lost:
neither the result nor what is left depends on them (`thinned_pull_core`) -/
theorem ql_pull_step (c : Cache) (q : QSpec.State) (n : Nat) (clock now : Int) (E : Externals)
    (p : Option Str) (front et tg : Bool)
    (hok : QOkL c n) (hr : QLoose c q clock) (hn : clock ≤ now) :
    (c.pull E now p front et tg).2 = (QSpec.pull q E c.cfg now p front et tg).2 ∧
    QLoose (c.pull E now p front et tg).1 (QSpec.pull q E c.cfg now p front et tg).1 now ∧
    QOkL (c.pull E now p front et tg).1 n ∧ (c.pull E now p front et tg).1.cfg = c.cfg := by
  obtain ⟨f, hsh, hf, ho, ha⟩ := pull_abs c n now E p front et tg hok
  obtain ⟨h1, -, h3⟩ := thinned_pull_core now front ((hr.queues p).mono hn)
  rw [pull_eq]
  refine ⟨?_, qloose_shrunk_put hok hr hn hsh hf _ (by rw [ha]; exact h3), hok.shrunk hsh, hsh.cfg⟩
  rw [ho]
  unfold endResult
  rw [h1]

theorem ql_peek_step (c : Cache) (q : QSpec.State) (n : Nat) (clock now : Int) (E : Externals)
    (p : Option Str) (front et tg : Bool)
    (hok : QOkL c n) (hr : QLoose c q clock) (hn : clock ≤ now) :
    (c.peek E now p front et tg).2 = (QSpec.peek q E c.cfg now p front et tg).2 ∧
    QLoose (c.peek E now p front et tg).1 (QSpec.peek q E c.cfg now p front et tg).1 now ∧
    QOkL (c.peek E now p front et tg).1 n ∧ (c.peek E now p front et tg).1.cfg = c.cfg := by
  obtain ⟨f, hsh, hf, ho, ha⟩ := peek_abs c n now E p front et tg hok
  obtain ⟨h1, h2, -⟩ := thinned_pull_core now front ((hr.queues p).mono hn)
  rw [peek_eq]
  refine ⟨?_, qloose_shrunk_put hok hr hn hsh hf _ (by rw [ha]; exact h2), hok.shrunk hsh, hsh.cfg⟩
  rw [ho]
  unfold endResult
  rw [h1]

end DC.Cache
