/- Lemmas for the recipes (C15, C20): the invariants of the lock, re-entrant lock and semaphore systems, kept by
   every step and hence by every run; the token-bucket invariant. -/
import DC.Model.Recipes

namespace DC.Recipes

/-- what every step keeps, every run keeps (all the `run`s of the recipes are `foldl`s) -/
theorem foldl_inv {σ ε : Type} (step : σ → ε → σ) (P : σ → Prop)
    (hstep : ∀ s e, P s → P (step s e)) : ∀ (evs : List ε) (s : σ), P s → P (evs.foldl step s)
  | [], _, h => h
  | e :: es, s, h => foldl_inv step P hstep es _ (hstep s e h)

def LockSys.Inv (s : LockSys) : Prop := s.holding.length = if s.st.held then 1 else 0

theorem LockSys.inv_init : LockSys.Inv {} := by simp [LockSys.Inv]

theorem LockSys.inv_step (s : LockSys) (e : Ev) (h : s.Inv) : (s.step e).1.Inv := by
  cases e with
  | acquire who =>
    unfold LockSys.Inv at *
    cases hh : s.st.held <;> simp_all [LockSys.step, LockSt.tryAcquire]
  | release who =>
    unfold LockSys.Inv at *
    by_cases hc : s.holding.contains who = true
    · have hm : who ∈ s.holding := by simpa using hc
      have hpos : 0 < s.holding.length := List.length_pos_of_mem hm
      simp only [LockSys.step, hc, if_true, LockSt.release, List.length_erase_of_mem hm]
      cases hh : s.st.held <;> simp_all
    · simp only [LockSys.step, hc]
      exact h

theorem LockSys.inv_run (s : LockSys) (evs : List Ev) (h : s.Inv) : (s.run evs).Inv :=
  foldl_inv _ _ (fun s e => LockSys.inv_step s e) evs s h

def RLockSys.Inv (s : RLockSys) : Prop :=
  (∀ a, s.depth a = if s.st.owner = some a then s.st.count else 0) ∧
  (s.st.owner = none → s.st.count = 0)

theorem RLockSys.inv_init : RLockSys.Inv {} := by simp [RLockSys.Inv]

theorem RLockSys.step_acquire (s : RLockSys) (who : Nat) :
    s.step (.acquire who) =
      if s.st.owner = some who ∨ s.st.count = 0 then
        ({ st := { owner := some who, count := s.st.count + 1 },
           depth := fun c => if c = who then s.depth c + 1 else s.depth c }, true)
      else (s, false) := by
  simp only [RLockSys.step, RLockSt.tryAcquire, Bool.or_eq_true, decide_eq_true_eq, beq_iff_eq]
  split <;> rfl

theorem RLockSys.step_release (s : RLockSys) (who : Nat) :
    s.step (.release who) =
      if s.st.owner = some who ∧ 0 < s.st.count then
        ({ st := { s.st with count := s.st.count - 1 },
           depth := fun c => if c = who then s.depth c - 1 else s.depth c }, true)
      else (s, false) := by
  simp only [RLockSys.step, RLockSt.release, Bool.and_eq_true, decide_eq_true_eq, gt_iff_lt]
  split <;> rfl

theorem RLockSys.inv_step (s : RLockSys) (e : Ev) (h : s.Inv) : (s.step e).1.Inv := by
  obtain ⟨h1, h2⟩ := h
  cases e with
  | acquire who =>
    rw [s.step_acquire who]
    split
    next hc =>
      -- before the attempt nobody but `who` holds the lock
      have hd : ∀ a, s.depth a = if a = who then s.st.count else 0 := by
        intro a
        rw [h1 a]
        rcases hc with hc | hc
        · simp only [hc, Option.some.injEq, eq_comm]
        · simp only [hc, ite_self]
      refine ⟨fun a => ?_, nofun⟩
      simp only [hd a, Option.some.injEq, eq_comm (a := who)]
      split <;> rfl
    next => exact ⟨h1, h2⟩
  | release who =>
    rw [s.step_release who]
    split
    next hc =>
      refine ⟨fun a => ?_, fun ho => absurd (hc.1.symm.trans ho) nofun⟩
      simp only [h1 a, hc.1, Option.some.injEq, eq_comm (a := who)]
      split <;> rfl
    next => exact ⟨h1, h2⟩

theorem RLockSys.inv_run (s : RLockSys) (evs : List Ev) (h : s.Inv) : (s.run evs).Inv :=
  foldl_inv _ _ (fun s e => RLockSys.inv_step s e) evs s h

theorem RLockSys.inv_facts (s : RLockSys) (h : s.Inv) :
    (∀ a b, 0 < s.depth a → 0 < s.depth b → a = b) ∧
    (∀ a, 0 < s.depth a → s.st.owner = some a ∧ s.st.count = s.depth a) ∧
    ((∀ a, s.depth a = 0) → s.st.count = 0) := by
  obtain ⟨h1, h2⟩ := h
  have key : ∀ a, 0 < s.depth a → s.st.owner = some a ∧ s.st.count = s.depth a := by
    intro a ha
    have := h1 a
    by_cases ho : s.st.owner = some a
    · rw [if_pos ho] at this; exact ⟨ho, this.symm⟩
    · rw [if_neg ho] at this; exact absurd this (Nat.ne_of_gt ha)
  refine ⟨fun a b ha hb => ?_, key, fun hz => ?_⟩
  · have := (key a ha).1
    rw [(key b hb).1] at this
    exact (Option.some.inj this).symm
  · cases ho : s.st.owner with
    | none => exact h2 ho
    | some o =>
      have := h1 o
      rw [if_pos ho, hz o] at this
      exact this.symm

def SemSys.Inv (n : Nat) (s : SemSys) : Prop :=
  s.holding.length + s.st.free = n ∧ s.st.limit = n

theorem SemSys.inv_step (n : Nat) (s : SemSys) (e : Ev) (h : s.Inv n) : (s.step e).1.Inv n := by
  obtain ⟨h1, h2⟩ := h
  cases e with
  | acquire who =>
    by_cases hc : s.st.free > 0
    · simp only [SemSys.step, SemSt.tryAcquire, hc, if_true]
      refine ⟨?_, h2⟩
      simp only [List.length_cons]
      omega
    · simp only [SemSys.step, SemSt.tryAcquire, hc, if_false]
      exact ⟨h1, h2⟩
  | release who =>
    by_cases hc : s.holding.contains who = true
    · have hm : who ∈ s.holding := by simpa using hc
      have hpos : 0 < s.holding.length := List.length_pos_of_mem hm
      by_cases hl : s.st.limit > s.st.free
      · simp only [SemSys.step, SemSt.release, hc, hl, if_true]
        refine ⟨?_, h2⟩
        simp only [List.length_erase_of_mem hm]
        omega
      · simp only [SemSys.step, SemSt.release, hc, hl, if_true, if_false]
        exact ⟨h1, h2⟩
    · simp only [SemSys.step, hc]
      exact ⟨h1, h2⟩

theorem SemSys.inv_run (n : Nat) (s : SemSys) (evs : List Ev) (h : s.Inv n) : (s.run evs).Inv n :=
  foldl_inv _ _ (fun s e => SemSys.inv_step n s e) evs s h

theorem AvgSt.run_cons (s : AvgSt) (e : AvgEv) (es : List AvgEv) :
    AvgSt.run s (e :: es) = AvgSt.run (s.step e) es := rfl

/-! ### token bucket: `b.tally` = tokens × seconds at instant `b.last`, time in ticks of 1/count s -/

/-- bucket invariant: the stored tally is never negative and never exceeds the full bucket of
`Bucket.init`, `count * seconds` (after a pass it is at most `(count - 1) * seconds`) -/
def Bucket.Ok (b : Bucket) : Prop := 0 ≤ b.tally ∧ b.tally ≤ (b.count : Int) * b.seconds ∧ 0 < b.count ∧ 0 < b.seconds

theorem Bucket.passes_cons (b : Bucket) (now : Int) (rest : List Int) :
    b.passes (now :: rest) =
      (if (b.attempt now).2 = none then [now] else []) ++ (b.attempt now).1.passes rest := by
  rw [Bucket.passes]
  rcases h : b.attempt now with ⟨b', _ | d⟩ <;> simp

end DC.Recipes
