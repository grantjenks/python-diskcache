/-
C12_Refine, model side, the transaction blocks of an Index: the block brackets on
`core` (DC/Proofs/Files.lean), leaving a block by an exception (`irf_exit_traise`),
and `popitem` (tbegin, peekitem, delitem, tend);
`setdefault` (get; on a miss: tbegin, get, add, get, tend) is in
IRefineSetdefault.lean.  Inside the block the nesting depth is 1, so the lemmas of
DC/Proofs/Refine*.lean (stated for quiescent states) do not apply directly; the
block is computed on `core` and compared with a quiescent state that is known to
be `Good`.
-/
import DC.Proofs.IRefineOps
import DC.Proofs.Block
import DC.Properties.C04

namespace DC.Cache
open DC.Spec

/-! ### `peekitem` and the ordered dictionary -/

theorem irf_edge_abs (c : Cache) (last : Bool) :
    (irf_abs c).edge last = (irf_edge c.rows last).map (fun r => (irf_key r, rf_ent c r)) := by
  unfold ODict.edge irf_edge irf_abs
  cases last
  · simp only [Bool.false_eq_true, if_false, List.head?_map]
  · simp only [if_true, List.getLast?_map]

theorem irf_out_cases (s : Cache) (E : Externals) (r : Row) (hg : Good s) (hr : r ∈ s.rows) :
    (rf_ent s r).out E s.cfg false false false =
      match (s.fetchRow E r false).2 with
      | .ioerror => .default
      | f => fetchedOut f := by
  rw [← rf_out s E r false false false (rf_good_ref hg hr)]
  cases (s.fetchRow E r false).2 <;> rfl

theorem irf_peekOut_spec (s : Cache) (E : Externals) (last : Bool) (hg : Good s) :
    irf_peekOut E last s = (OSpec.peekitem (irf_abs s) E s.cfg last).2 ∧
    (OSpec.peekitem (irf_abs s) E s.cfg last).1 = irf_abs s := by
  unfold irf_peekOut OSpec.peekitem
  rw [irf_edge_abs]
  cases he : irf_edge s.rows last with
  | none => exact ⟨rfl, rfl⟩
  | some r =>
    simp only [Option.map_some]
    rw [irf_out_cases s E r hg (irf_edge_mem he)]
    cases (s.fetchRow E r false).2 <;> exact ⟨rfl, rfl⟩

/-! ### block brackets on `core` -/

theorem irf_tbegin_core (s : Cache) (hg : Good s) :
    core s.tbegin = { core s with depth := 1, snap := some s.takeSnap } := by
  unfold tbegin
  simp only [hg.depth, beq_self_eq_true, if_true]
  simp [core, hg.pending, hg.created]
  exact ⟨rfl, rfl⟩

theorem irf_tend_core (s : Cache) (hd : s.depth = 1) :
    core s.tend =
      { core s with
        files := s.files.filter (fun p => !s.pending.contains (some p.1)),
        depth := 0, snap := none, pending := [], created := [] } := by
  rw [tend_one s hd]
  have h := core_fremoveAll s.pending ({ (s.log .commit) with depth := 0, snap := none })
  simp only [core, Core.mk.injEq] at h ⊢
  obtain ⟨h1, h2, h3, h4, h5, -, -, h8, h9⟩ := h
  exact ⟨h1, h2, h3, h4, h5, trivial, trivial, h8, h9⟩

theorem irf_traise_core (s : Cache) (p : Snap) (hd : s.depth = 1) (hs : s.snap = some p) :
    core (s.traise 1) =
      { core s with
        rows := p.rows,
        files := s.files.filter (fun q => !(s.created.map some).contains (some q.1)),
        depth := 0, snap := none, pending := [], created := [] } := by
  rw [traise_outer s 1 p (by omega) (by omega) hs]
  have h := core_fremoveAll (s.created.map some)
    ({ ((s.restore p).log .rollback) with depth := 0, snap := none })
  simp only [core, Core.mk.injEq] at h ⊢
  obtain ⟨h1, h2, h3, h4, h5, -, -, h8, h9⟩ := h
  exact ⟨h1, h2, h3, h4, h5, trivial, trivial, h8, h9⟩

/-! ### inside a block opened on a quiescent state -/

/-- the part of a state inside the block opened on `g` that the exits look at: depth, snapshot,
and the value files — those of `g`, plus at most one written since, with a fresh name and
registered in `created` -/
structure irf_InBlock (g : Cache) (K : Core) : Prop where
  depth : K.depth = 1
  snap : K.snap = some g.takeSnap
  cfg : K.cfg = g.cfg
  stat : K.statistics = g.statistics
  nfile : g.nfile ≤ K.nfile
  files : (K.files = g.files ∧ K.created = []) ∨
    (∃ ct, K.files = g.files ++ [(g.nfile, ct)] ∧ K.created = [g.nfile])

theorem irf_inBlock_begin {g : Cache} {K : Core} (hg : Good g)
    (h : K = { core g with depth := 1, snap := some g.takeSnap }) : irf_InBlock g K := by
  subst h
  exact ⟨rfl, rfl, rfl, rfl, Nat.le_refl _, .inl ⟨rfl, hg.created⟩⟩

theorem irf_inBlock_tbegin (g : Cache) (hg : Good g) : irf_InBlock g (core g.tbegin) :=
  irf_inBlock_begin hg (irf_tbegin_core g hg)

/-- leaving the block by the exception: the table is restored, the file written in the block (if
any) removed; only its name stays used up -/
theorem irf_exit_traise (g c : Cache) (hI : irf_Inv g) (hb : irf_InBlock g (core c)) (hti : TableInv c) :
    irf_abs (c.traise 1) = irf_abs g ∧ (c.traise 1).cfg = g.cfg ∧ irf_Inv (c.traise 1) := by
  have hg := hI.good
  have hcore : core (c.traise 1) = { core g with nfile := c.nfile } := by
    rw [irf_traise_core c g.takeSnap hb.depth hb.snap]
    have hfiles : c.files.filter (fun q => !(c.created.map some).contains (some q.1)) = g.files := by
      rcases hb.files with ⟨h1, h2⟩ | ⟨ct, h1, h2⟩
      · have h1' : c.files = g.files := h1
        have h2' : c.created = [] := h2
        rw [h1', h2', List.filter_eq_self]; intros; rfl
      · have h1' : c.files = g.files ++ [(g.nfile, ct)] := h1
        have h2' : c.created = [g.nfile] := h2
        rw [h1', h2', List.filter_append]
        have ha : g.files.filter (fun q => !([g.nfile].map some).contains (some q.1)) = g.files := by
          rw [List.filter_eq_self]
          intro q hq
          have := hg.finv.fresh q hq
          have hne : q.1 ≠ g.nfile := by omega
          simp [hne]
        rw [ha]
        simp
    simp only [core, Core.mk.injEq, hfiles]
    exact ⟨rfl, trivial, trivial, hg.depth.symm, hg.snap.symm, hg.pending.symm, hg.created.symm, hb.cfg, hb.stat⟩
  have hr : (c.traise 1).rows = g.rows := congrArg Core.rows hcore
  have hf : (c.traise 1).files = g.files := congrArg Core.files hcore
  have hcfg : (c.traise 1).cfg = g.cfg := congrArg Core.cfg hcore
  refine ⟨irf_abs_rows_files hr hf, hcfg,
    ⟨irf_good_nfile hg c.nfile hb.nfile hcore (traise_inv _ _ hti), by rw [hcfg]; exact hI.pol, ?_⟩⟩
  rw [hr]; exact hI.noexp

/-! ### `delitem` on `core` -/

theorem irf_delitem_pos_core (s : Cache) (E : Externals) (now : Int) (k : PyVal) (r : Row)
    (hd : 0 < s.depth)
    (hsel : s.selLive (keyOf E s.cfg k).1 (keyOf E s.cfg k).2 now = some r) :
    core (s.delitem E now k).1 =
      { core s with
        rows := s.rows.filter (fun x => ![r.rowid].contains x.rowid),
        pending := s.pending ++ [r.file] } := by
  rw [delitem_of_sel s E now k (some r) hsel, transact_inblock s hd, if_pos rfl]
  have h := core_delRow (s.logSql "selLive") r.rowid
  simp only [core, Core.mk.injEq] at h ⊢
  obtain ⟨h1, h2, h3, h4, h5, h6, h7, h8, h9⟩ := h
  exact ⟨h1, h2, h3, h4, h5, congrArg (· ++ [r.file]) h6, h7, h8, h9⟩

theorem irf_delitem_zero_core (s : Cache) (E : Externals) (now : Int) (k : PyVal) (r : Row)
    (hd : s.depth = 0)
    (hsel : s.selLive (keyOf E s.cfg k).1 (keyOf E s.cfg k).2 now = some r) :
    core (s.delitem E now k).1 =
      { core s with
        rows := s.rows.filter (fun x => ![r.rowid].contains x.rowid),
        files := s.files.filter (fun p => ![r.file].contains (some p.1)) } := by
  rw [delitem_of_sel s E now k (some r) hsel, transact_ok_core s _ none hd rfl]
  simp only [core_delRow, core_logSql, core_log]
  rfl

/-! ### `popitem` -/

/-- what `peekitem` finds, on both sides: nothing to return (empty, or the value file of the edge
item cannot be read), or the edge item -/
theorem irf_peek_cases (s : Cache) (E : Externals) (last : Bool) (hg : Good s) :
    (irf_peekOut E last s = .exc "KeyError" ∧
      OSpec.popitem (irf_abs s) E s.cfg last = (irf_abs s, .exc "KeyError")) ∨
    (∃ r o, irf_edge s.rows last = some r ∧
      irf_peekOut E last s = .tup [.val (DC.get E s.cfg.disk r.key r.raw), o] ∧
      OSpec.popitem (irf_abs s) E s.cfg last =
        ((irf_abs s).del (irf_key r), .tup [.val (DC.get E s.cfg.disk r.key r.raw), o])) := by
  unfold irf_peekOut OSpec.popitem
  rw [irf_edge_abs]
  cases he : irf_edge s.rows last with
  | none => exact .inl ⟨rfl, rfl⟩
  | some r =>
    simp only [Option.map_some]
    rw [irf_out_cases s E r hg (irf_edge_mem he)]
    cases (s.fetchRow E r false).2 with
    | ioerror => exact .inl ⟨rfl, rfl⟩
    | val v => exact .inr ⟨r, .val v, rfl, rfl, rfl⟩
    | handle b => exact .inr ⟨r, .handle b, rfl, rfl, rfl⟩

/-- BEGIN, then `peekitem`: the table stays that of `s`, and what is found is what `s` holds -/
theorem irf_peekitem_in_block (s : Cache) (E : Externals) (now : Int) (last : Bool) (hI : irf_Inv s) :
    ∃ c1, s.tbegin.peekitem E now last false false = (c1, irf_peekOut E last s) ∧
      core c1 = { core s with depth := 1, snap := some s.takeSnap } ∧ TableInv c1 := by
  have hc0 := irf_tbegin_core s hI.good
  obtain ⟨hc1, ho⟩ := irf_peekitem s.tbegin E now last
    (by rw [show s.tbegin.rows = s.rows from congrArg Core.rows hc0]; exact hI.noexp)
  rw [irf_peekOut_congr E last (congrArg Core.rows hc0) (congrArg Core.files hc0) (congrArg Core.cfg hc0)] at ho
  exact ⟨_, Prod.ext rfl ho, hc1.trans hc0, peekitem_inv _ _ _ _ _ _ (tbegin_inv _ hI.good.tinv)⟩

/-- `delitem` of a key that row `r` binds, inside the block opened on `s`, and COMMIT: up to ghost
fields the state `delitem` leaves when it runs on `s` itself -/
theorem irf_delitem_in_block (s c1 : Cache) (E : Externals) (now : Int) (k : PyVal) (r : Row) (hg : Good s)
    (hc1 : core c1 = { core s with depth := 1, snap := some s.takeSnap }) (hti1 : TableInv c1)
    (hsel : s.selLive (keyOf E s.cfg k).1 (keyOf E s.cfg k).2 now = some r) :
    ∃ c2, c1.delitem E now k = (c2, .bool true) ∧ TableInv c2 ∧
      core c2.tend = core (s.delitem E now k).1 := by
  have hr1 : c1.rows = s.rows := congrArg Core.rows hc1
  have hsel1 : c1.selLive (keyOf E c1.cfg k).1 (keyOf E c1.cfg k).2 now = some r := by
    rw [show c1.cfg = s.cfg from congrArg Core.cfg hc1, selLive_rows hr1]
    exact hsel
  have hc2 := irf_delitem_pos_core c1 E now k r
    (by rw [show c1.depth = 1 from congrArg Core.depth hc1]; omega) hsel1
  refine ⟨(c1.delitem E now k).1, Prod.ext rfl (delitem_some c1 E now k r hsel1).1, delitem_inv _ _ _ _ hti1, ?_⟩
  generalize (c1.delitem E now k).1 = c2 at hc2 ⊢
  rw [hc1] at hc2
  rw [irf_tend_core c2 (congrArg Core.depth hc2), irf_delitem_zero_core s E now k r hg.depth hsel]
  simp only [core, Core.mk.injEq] at hc2 ⊢
  obtain ⟨h1, h2, h3, -, -, h6, -, h8, h9⟩ := hc2
  rw [h1, h2, h3, h6, h8, h9, hr1, show c1.pending = [] from (congrArg Core.pending hc1).trans hg.pending]
  exact ⟨rfl, rfl, rfl, hg.depth.symm, hg.snap.symm, hg.pending.symm, hg.created.symm, rfl, rfl⟩

/-- `popitem`, with the key-codec round trip asked of the edge row only (the row it pops) -/
theorem irf_popitem_edge (x : Index) (E : Externals) (now : Int) (last : Bool) (h : irf_Inv x.cache)
    (hcodec : ∀ r, irf_edge x.cache.rows last = some r →
      DC.put E x.cache.cfg.disk (DC.get E x.cache.cfg.disk r.key r.raw) = (r.key, r.raw)) :
    (x.popitem E now last).2 = (OSpec.popitem (irf_abs x.cache) E x.cache.cfg last).2 ∧
    irf_abs (x.popitem E now last).1.cache = (OSpec.popitem (irf_abs x.cache) E x.cache.cfg last).1 ∧
    (x.popitem E now last).1.cache.cfg = x.cache.cfg ∧ irf_Inv (x.popitem E now last).1.cache := by
  obtain ⟨s⟩ := x
  simp only at h hcodec ⊢
  have hg := h.good
  unfold Index.popitem
  obtain ⟨c1, hpeek, hc1, hti1⟩ := irf_peekitem_in_block s E now last h
  simp only [hpeek]
  rcases irf_peek_cases s E last hg with ⟨hpo, hspec⟩ | ⟨r, o, he, hpo, hspec⟩
  · -- nothing to return: the KeyError leaves the block
    rw [hpo, hspec]
    exact ⟨rfl, irf_exit_traise s c1 h (irf_inBlock_begin hg hc1) hti1⟩
  · -- the edge item: its key, decoded and encoded again, finds the edge row
    rw [hpo, hspec]
    simp only
    have hrm : r ∈ s.rows := irf_edge_mem he
    have hk : keyOf E s.cfg (DC.get E s.cfg.disk r.key r.raw) = (r.key, r.raw) := hcodec r he
    have hsel : s.selLive (keyOf E s.cfg (DC.get E s.cfg.disk r.key r.raw)).1
        (keyOf E s.cfg (DC.get E s.cfg.disk r.key r.raw)).2 now = some r := by
      rw [hk]
      exact live_visible_partial s hg.tinv.tbl.uniq r hrm (hg.tinv.tbl.nonnull r hrm) now
        (live_of_noexp (h.noexp r hrm) now)
    obtain ⟨c2, hdel, hti2, hcore⟩ := irf_delitem_in_block s c1 E now _ r hg hc1 hti1 hsel
    simp only [hdel]
    obtain ⟨-, hA, hC, hI⟩ := irf_delitem s E now (DC.get E s.cfg.disk r.key r.raw) h
    refine ⟨trivial, ?_, (congrArg Core.cfg hcore).trans hC, irf_inv_core hI hcore (tend_inv _ hti2)⟩
    show irf_abs c2.tend = _
    rw [irf_abs_core hcore, hA, irf_spec_delitem_fst, hk]
    rfl

end DC.Cache
