/-
C12_Refine, model side, the views and equality of an Index: `items`, `values`,
`eqTo`, `neTo`.  `Index.items` walks the rows and looks every
key up again through the Python key it decoded from the row; under the key-codec
round trip (`hcodec`, the hypothesis of `popitem`) every look-up finds the row it
came from, so the loop yields `OSpec.pairs` of the abstraction.
At the end, on the side of the ordered dictionary: an entry bound by `setitem` is the stored form
of a value (`Stored`) and can be read back.
-/
import DC.Proofs.IRefineBlock
import DC.Proofs.IRefineSetdefault

namespace DC.Cache
open DC.Spec

theorem irf_valueOf_cases (e : Entry) (E : Externals) (cfg : Cfg) :
    (e.out E cfg false false false = .default ∧ OSpec.valueOf E cfg e = none) ∨
    (∃ v, e.out E cfg false false false = .val v ∧ OSpec.valueOf E cfg e = some v) := by
  unfold OSpec.valueOf
  rcases irf_out_shape e E cfg with h | ⟨v, h⟩
  · rw [h]; exact .inl ⟨rfl, rfl⟩
  · rw [h]; exact .inr ⟨v, rfl, rfl⟩

theorem irf_get_self (s : Cache) (h : irf_Inv s) (r : Row) (hr : r ∈ s.rows) :
    (irf_abs s).get (irf_key r) = some (rf_ent s r) := by
  rw [irf_abs_get]
  unfold rf_view rf_look
  have h1 := live_visible_partial s h.good.tinv.tbl.uniq r hr (h.good.tinv.tbl.nonnull r hr) 0
    (live_of_noexp (h.noexp r hr) 0)
  rw [selLive_eq_selKey h.noexp] at h1
  have h2 : s.rows.find? (keyMatch (irf_key r).1 (irf_key r).2) = some r := h1
  rw [h2]; rfl

theorem irf_look_self (s : Cache) (E : Externals) (h : irf_Inv s) (r : Row) (hr : r ∈ s.rows) :
    OSpec.look (irf_abs s) E s.cfg (irf_key r) = (rf_ent s r).out E s.cfg false false false := by
  unfold OSpec.look
  rw [irf_get_self s h r hr]

def irf_tup (kv : PyVal × PyVal) : Out := .tup [.val kv.1, .val kv.2]

def irf_absRows (s : Cache) (rows : List Row) : ODict := rows.map (fun r => (irf_key r, rf_ent s r))

theorem irf_itemsWalk (s : Cache) (E : Externals) (now : Int) (h : irf_Inv s) :
    ∀ (rows : List Row) (c : Cache) (acc : List Out),
      core c = core s → irf_Inv c →
      (∀ r ∈ rows, r ∈ s.rows ∧
        DC.put E s.cfg.disk (DC.get E s.cfg.disk r.key r.raw) = (r.key, r.raw)) →
      core (Index.itemsWalk E now rows c acc).1 = core s ∧
      irf_Inv (Index.itemsWalk E now rows c acc).1 ∧
      (Index.itemsWalk E now rows c acc).2.1 =
        acc ++ (OSpec.walk E s.cfg (irf_absRows s rows)).1.map irf_tup ∧
      (Index.itemsWalk E now rows c acc).2.2 = (OSpec.walk E s.cfg (irf_absRows s rows)).2 := by
  intro rows
  induction rows with
  | nil => intro c acc hc hi _; exact ⟨hc, hi, by simp [Index.itemsWalk, irf_absRows, OSpec.walk], rfl⟩
  | cons r rows ih =>
    intro c acc hc hi hrows
    obtain ⟨hrm, hcod⟩ := hrows r (List.mem_cons_self ..)
    have hcfg : c.cfg = s.cfg := congrArg Core.cfg hc
    obtain ⟨g1, g2, g3⟩ := irf_get c E now (DC.get E c.cfg.disk r.key r.raw) hi
    have hk : keyOf E c.cfg (DC.get E c.cfg.disk r.key r.raw) = irf_key r := by
      rw [hcfg]; exact hcod
    have g1' : (c.get E now (DC.get E c.cfg.disk r.key r.raw) false false false).2 =
        (rf_ent s r).out E s.cfg false false false := by
      rw [g1, hk, irf_abs_core hc, hcfg, irf_look_self s E h r hrm]
    have hw : OSpec.walk E s.cfg (irf_absRows s (r :: rows)) =
        match OSpec.valueOf E s.cfg (rf_ent s r) with
        | none => ([], true)
        | some v => ((OSpec.pyKey E s.cfg (irf_key r), v) :: (OSpec.walk E s.cfg (irf_absRows s rows)).1,
            (OSpec.walk E s.cfg (irf_absRows s rows)).2) := rfl
    have hstep : Index.itemsWalk E now (r :: rows) c acc =
        match (c.get E now (DC.get E c.cfg.disk r.key r.raw) false false false).2 with
        | .default => ((c.get E now (DC.get E c.cfg.disk r.key r.raw) false false false).1, acc, true)
        | o => Index.itemsWalk E now rows (c.get E now (DC.get E c.cfg.disk r.key r.raw) false false false).1
            (acc ++ [.tup [.val (DC.get E c.cfg.disk r.key r.raw), o]]) := by
      rw [Index.itemsWalk]
      generalize c.get E now (DC.get E c.cfg.disk r.key r.raw) false false false = q
      obtain ⟨c1, o⟩ := q
      cases o <;> rfl
    rw [hstep, g1', hw]
    rcases irf_valueOf_cases (rf_ent s r) E s.cfg with ⟨e1, e2⟩ | ⟨v, e1, e2⟩
    · rw [e1, e2]
      exact ⟨g2.trans hc, g3, by simp, rfl⟩
    · rw [e1, e2]
      obtain ⟨i1, i2, i3, i4⟩ := ih (c.get E now (DC.get E c.cfg.disk r.key r.raw) false false false).1
        (acc ++ [.tup [.val (DC.get E c.cfg.disk r.key r.raw), .val v]])
        (g2.trans hc) g3 (fun r' hr' => hrows r' (List.mem_cons_of_mem _ hr'))
      refine ⟨i1, i2, ?_, i4⟩
      rw [i3, hcfg]
      simp only [List.map_cons, List.append_assoc, List.singleton_append]
      rfl

theorem irf_walk (x : Index) (E : Externals) (now : Int) (h : irf_Inv x.cache)
    (hcodec : ∀ r ∈ x.cache.rows,
      DC.put E x.cache.cfg.disk (DC.get E x.cache.cfg.disk r.key r.raw) = (r.key, r.raw)) :
    core (Index.itemsWalk E now x.cache.rows x.cache []).1 = core x.cache ∧
    irf_Inv (Index.itemsWalk E now x.cache.rows x.cache []).1 ∧
    (Index.itemsWalk E now x.cache.rows x.cache []).2.1 =
      (OSpec.pairs (irf_abs x.cache) E x.cache.cfg).map irf_tup ∧
    (Index.itemsWalk E now x.cache.rows x.cache []).2.2 = OSpec.missing (irf_abs x.cache) E x.cache.cfg := by
  obtain ⟨i1, i2, i3, i4⟩ := irf_itemsWalk x.cache E now h x.cache.rows x.cache [] rfl h
    (fun r hr => ⟨hr, hcodec r hr⟩)
  exact ⟨i1, i2, by rw [i3, List.nil_append]; rfl, i4⟩

theorem irf_items_eq (x : Index) (E : Externals) (now : Int) :
    x.items E now =
      ({ cache := (Index.itemsWalk E now x.cache.rows x.cache []).1 },
        if (Index.itemsWalk E now x.cache.rows x.cache []).2.2 then .exc "KeyError"
        else .list (Index.itemsWalk E now x.cache.rows x.cache []).2.1) := rfl

/-- `Index.items`: the pairs of the abstraction, or KeyError at an unreadable entry; only the log
of the cache changes -/
theorem irf_items (x : Index) (E : Externals) (now : Int) (h : irf_Inv x.cache)
    (hcodec : ∀ r ∈ x.cache.rows,
      DC.put E x.cache.cfg.disk (DC.get E x.cache.cfg.disk r.key r.raw) = (r.key, r.raw)) :
    (x.items E now).2 = (OSpec.items (irf_abs x.cache) E x.cache.cfg).2 ∧
    core (x.items E now).1.cache = core x.cache ∧ irf_Inv (x.items E now).1.cache := by
  obtain ⟨i1, i2, i3, i4⟩ := irf_walk x E now h hcodec
  rw [irf_items_eq]
  refine ⟨?_, i1, i2⟩
  simp only
  rw [i3, i4]
  rfl

theorem irf_values_of_pairs (ps : List (PyVal × PyVal)) :
    (ps.map irf_tup).filterMap
        (fun t => match t with | .tup [_, v] => some v | _ => none) =
      ps.map (fun kv => Out.val kv.2) := by
  induction ps with
  | nil => rfl
  | cons p ps ih => simp only [List.map_cons, List.filterMap_cons, irf_tup, ih]

theorem irf_pairsOf_of_pairs (ps : List (PyVal × PyVal)) :
    Index.pairsOf (ps.map irf_tup) = ps := by
  unfold Index.pairsOf
  induction ps with
  | nil => rfl
  | cons p ps ih => simp only [List.map_cons, List.filterMap_cons, irf_tup, ih]

theorem irf_values (x : Index) (E : Externals) (now : Int) (h : irf_Inv x.cache)
    (hcodec : ∀ r ∈ x.cache.rows,
      DC.put E x.cache.cfg.disk (DC.get E x.cache.cfg.disk r.key r.raw) = (r.key, r.raw)) :
    (x.values E now).2 = (OSpec.values (irf_abs x.cache) E x.cache.cfg).2 ∧
    core (x.values E now).1.cache = core x.cache ∧ irf_Inv (x.values E now).1.cache := by
  obtain ⟨i1, i2, i3, i4⟩ := irf_walk x E now h hcodec
  unfold Index.values
  rw [irf_items_eq]
  simp only
  rw [i3, i4]
  unfold OSpec.values
  cases OSpec.missing (irf_abs x.cache) E x.cache.cfg with
  | true => exact ⟨rfl, i1, i2⟩
  | false =>
    refine ⟨?_, i1, i2⟩
    simp only [Bool.false_eq_true, if_false, Fanout.outList]
    exact congrArg Out.list (irf_values_of_pairs _)

theorem irf_eqTo (x : Index) (E : Externals) (now : Int) (ordered : Bool) (other : List (PyVal × PyVal))
    (h : irf_Inv x.cache)
    (hcodec : ∀ r ∈ x.cache.rows,
      DC.put E x.cache.cfg.disk (DC.get E x.cache.cfg.disk r.key r.raw) = (r.key, r.raw)) :
    (x.eqTo E now ordered other).2 = (OSpec.eqTo (irf_abs x.cache) E x.cache.cfg ordered other).2 ∧
    core (x.eqTo E now ordered other).1.cache = core x.cache ∧
    irf_Inv (x.eqTo E now ordered other).1.cache := by
  obtain ⟨i1, i2, i3, i4⟩ := irf_walk x E now h hcodec
  have hcount : x.cache.count = ((irf_abs x.cache).length : Int) := by
    rw [irf_abs_length, h.good.tinv.tbl.count]
  unfold Index.eqTo
  rw [show Index.itemsWalk E now x.cache.rows x.cache [] =
    ((Index.itemsWalk E now x.cache.rows x.cache []).1, (Index.itemsWalk E now x.cache.rows x.cache []).2.1,
      (Index.itemsWalk E now x.cache.rows x.cache []).2.2) from rfl]
  simp only
  by_cases hlen : (irf_abs x.cache).length = other.length
  · have hne : (x.cache.count != (other.length : Int)) = false := by
      rw [hcount, hlen]; simp
    rw [hne]
    simp only [Bool.false_eq_true, if_false]
    refine ⟨?_, i1, i2⟩
    rw [i3, i4, irf_pairsOf_of_pairs]
    show _ = OSpec.eqOut _ _ _ _ _
    unfold OSpec.eqOut OSpec.eqB
    rw [hlen]
    cases ordered with
    | true =>
      simp only [if_true, List.not_any_eq_all_not, Bool.not_or, Bool.not_not, beq_self_eq_true, Bool.true_and]
    | false =>
      simp only [Bool.false_eq_true, if_false, beq_self_eq_true, Bool.true_and]
      rfl
  · have hne : (x.cache.count != (other.length : Int)) = true := by
      rw [hcount]
      simp only [bne_iff_ne, ne_eq]
      intro hc
      exact hlen (Int.ofNat.inj hc)
    rw [hne]
    simp only [if_true]
    refine ⟨?_, trivial, h⟩
    show Out.bool false = OSpec.eqOut _ _ _ _ _
    unfold OSpec.eqOut OSpec.eqB
    have : ((irf_abs x.cache).length == other.length) = false := by simpa using hlen
    rw [this]
    simp

theorem irf_neTo (x : Index) (E : Externals) (now : Int) (ordered : Bool) (other : List (PyVal × PyVal))
    (h : irf_Inv x.cache)
    (hcodec : ∀ r ∈ x.cache.rows,
      DC.put E x.cache.cfg.disk (DC.get E x.cache.cfg.disk r.key r.raw) = (r.key, r.raw)) :
    (x.neTo E now ordered other).2 = (OSpec.neTo (irf_abs x.cache) E x.cache.cfg ordered other).2 ∧
    core (x.neTo E now ordered other).1.cache = core x.cache ∧
    irf_Inv (x.neTo E now ordered other).1.cache := by
  obtain ⟨i1, i2, i3⟩ := irf_eqTo x E now ordered other h hcodec
  unfold Index.neTo
  cases hq : x.eqTo E now ordered other with
  | mk x1 o =>
    rw [hq] at i1 i2 i3
    simp only at i1 i2 i3
    have ho : o = OSpec.eqOut (irf_abs x.cache) E x.cache.cfg ordered other := i1
    subst ho
    unfold OSpec.neTo
    cases OSpec.eqOut (irf_abs x.cache) E x.cache.cfg ordered other <;> exact ⟨rfl, i2, i3⟩

end DC.Cache

namespace DC.OSpec
open DC.Spec DC.Cache

theorem set_mem (m : ODict) (k : Key) (e : Entry) : ∀ q ∈ m.set k e, q ∈ m ∨ q.2 = e := by
  intro q hq
  unfold ODict.set at hq
  split at hq
  · obtain ⟨p, hp, rfl⟩ := List.mem_map.1 hq
    split
    · exact .inr rfl
    · exact .inl hp
  · rcases List.mem_append.1 hq with h | h
    · exact .inl h
    · rw [List.mem_singleton.1 h]; exact .inr rfl

theorem del_mem (m : ODict) (k : Key) : ∀ q ∈ m.del k, q ∈ m :=
  fun _ hq => (List.mem_filter.1 hq).1

/-- the entry a successful assignment binds is the stored form of a value -/
def Stored (cfg : Cfg) (e : Entry) : Prop :=
  ∃ (E : Externals) (v : PyVal) (p : Placement),
    place E cfg.disk cfg.minFileSize v false = .ok p ∧ e = entryOf p none .null

theorem setitem_mem (m : ODict) (E : Externals) (cfg : Cfg) (k v : PyVal) :
    ∀ q ∈ (setitem m E cfg k v).1, q ∈ m ∨ Stored cfg q.2 := by
  intro q hq
  unfold setitem at hq
  split at hq
  · exact .inl hq
  · rename_i p hp
    simp only at hq
    split at hq
    · rcases set_mem _ _ _ q hq with h | h
      · exact .inl h
      · exact .inr ⟨E, v, p, hp, h⟩
    · exact .inl hq

theorem stored_readable {cfg : Cfg} {e : Entry} (h : Stored cfg e) (E' : Externals) (cfg' : Cfg) :
    e.out E' cfg' false false false ≠ .default := by
  obtain ⟨E, v, p, hp, rfl⟩ := h
  have hD : ∀ (w : PyVal) (p : Placement), Disk.place E cfg.minFileSize w false = .ok p →
      (entryOf p none .null).out E' cfg' false false false ≠ .default := by
    intro w p hp
    have hshape : (∃ sv, p = .inline MODE_RAW sv) ∨ (∃ b, p = .inline MODE_PICKLE (.blob b)) ∨
        (∃ s, p = .file MODE_TEXT (.text s)) ∨ (∃ b, p = .file MODE_BINARY (.bin b)) ∨
        (∃ b, p = .file MODE_PICKLE (.bin b)) := by
      unfold Disk.place at hp
      simp only [Bool.false_eq_true, if_false] at hp
      split at hp
      · split at hp
        · cases hp; exact .inl ⟨_, rfl⟩
        · split at hp
          · cases hp; exact .inr (.inr (.inl ⟨_, rfl⟩))
          · cases hp
      · split at hp
        · cases hp; exact .inl ⟨_, rfl⟩
        · split at hp
          · cases hp; exact .inr (.inl ⟨_, rfl⟩)
          · cases hp; exact .inr (.inr (.inr (.inr ⟨_, rfl⟩)))
      · split at hp
        · split at hp
          · cases hp; exact .inr (.inl ⟨_, rfl⟩)
          · cases hp; exact .inr (.inr (.inr (.inr ⟨_, rfl⟩)))
        · cases hp; exact .inl ⟨_, rfl⟩
      · split at hp
        · cases hp; exact .inl ⟨_, rfl⟩
        · cases hp; exact .inr (.inr (.inr (.inl ⟨_, rfl⟩)))
      · split at hp
        · cases hp; exact .inr (.inl ⟨_, rfl⟩)
        · cases hp; exact .inr (.inr (.inr (.inr ⟨_, rfl⟩)))
    have hDF : ∃ x, Disk.fetch E' (entryOf p none .null).mode (entryOf p none .null).content
        (entryOf p none .null).content.isSome (entryOf p none .null).val false = .val x := by
      rcases hshape with ⟨sv, rfl⟩ | ⟨b, rfl⟩ | ⟨s, rfl⟩ | ⟨b, rfl⟩ | ⟨b, rfl⟩ <;> exact ⟨_, rfl⟩
    have hF : ∃ x, fetch E' cfg'.disk (entryOf p none .null).mode (entryOf p none .null).content
        (entryOf p none .null).content.isSome (entryOf p none .null).val false = .val x := by
      unfold fetch
      cases cfg'.disk with
      | pickle => exact hDF
      | json =>
        obtain ⟨x, hx⟩ := hDF
        simp only
        rw [hx]
        cases x <;> exact ⟨_, rfl⟩
    obtain ⟨x, hx⟩ := hF
    unfold Entry.out
    rw [hx]
    intro hcontra
    cases hcontra
  unfold place at hp
  cases hdk : cfg.disk with
  | pickle => rw [hdk] at hp; exact hD v p hp
  | json =>
    rw [hdk] at hp
    simp only [Bool.false_eq_true, if_false] at hp
    exact hD _ p hp

end DC.OSpec
