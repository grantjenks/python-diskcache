/-
Helper lemmas for C13_Refine / C19_Refine (FanoutCache and DjangoCache refine the
reference dictionary of DC/Model/Spec.lean).

 * `frf_abs`: the dictionary a single cache state denotes (one binding per row), used to
   build, for one shard, a *local* dictionary (`frf_localDict`) that agrees with the global one
   at the call's key and with the shard everywhere else — this is what lets the per-call
   theorems of C03_Refine be used on one shard although the shard holds only part of the items;
   the other keys of the shard get back to the global dictionary through `frf_local_transfer`;
 * `frf_Local`: a call of the specification is *local at a key* `K`: its result depends on the
   binding of `K` only, and it changes the binding of `K` only;
 * `frf_step_local`: every key-addressed call of `Spec.step` is local at its key;
 * `frf_Pointwise`: a bulk removal of the specification acts on every binding separately.
-/
import DC.Properties.C03_Refine

namespace DC.Cache
open DC.Spec

def frf_abs (c : Cache) : Dict := c.rows.map (fun r => ((r.key, r.raw), rf_ent c r))

theorem frf_abs_get (c : Cache) (k : Key) : (frf_abs c).get k = rf_view c k := by
  unfold frf_abs Dict.get rf_view rf_look
  rw [List.find?_map]
  have : ((fun p : Key × Entry => sameKey p.1 k) ∘ fun r => ((r.key, r.raw), rf_ent c r)) =
      keyMatch k.1 k.2 := by
    funext r; rfl
  rw [this]
  cases c.rows.find? (keyMatch k.1 k.2) <;> rfl

theorem frf_abs_wf (c : Cache) (hu : KeysUnique c.rows) : (frf_abs c).WF := by
  unfold frf_abs Dict.WF
  rw [List.pairwise_map]
  refine List.Pairwise.imp ?_ hu
  intro a b hab
  cases h : sameKey (a.key, a.raw) (b.key, b.raw) with
  | false => rfl
  | true =>
    exfalso
    apply hab
    simpa [sameKey] using h

def frf_setTo (m : Dict) (k : Key) (d : Option Entry) : Dict :=
  match d with
  | some e => m.put k e
  | none => m.del k

theorem frf_setTo_get (m : Dict) (k : Key) (d : Option Entry) (k' : Key) :
    (frf_setTo m k d).get k' = if sameKey k k' then d else m.get k' := by
  cases d with
  | none => exact rf_get_del m k k'
  | some e => exact rf_get_put m k e k'

theorem frf_setTo_wf {m : Dict} (h : m.WF) (k : Key) (d : Option Entry) : (frf_setTo m k d).WF := by
  cases d with
  | none => exact rf_wf_del h k
  | some e => exact rf_wf_put h k e

theorem frf_abs_refines (c : Cache) (hu : KeysUnique c.rows) (clock : Int) :
    Refines c (frf_abs c) clock := by
  rw [refines_iff]
  refine ⟨frf_abs_wf c hu, fun k => ?_⟩
  rw [frf_abs_get]
  exact rf_VRel_refl _ _

def frf_localDict (c : Cache) (m : Dict) (K : Key) : Dict := frf_setTo (frf_abs c) K (m.get K)

theorem frf_localDict_get (c : Cache) (m : Dict) (K k' : Key) :
    (frf_localDict c m K).get k' = if sameKey K k' then m.get K else rf_view c k' := by
  unfold frf_localDict
  rw [frf_setTo_get, frf_abs_get]

theorem frf_localDict_refines (c : Cache) (m : Dict) (K : Key) (clock : Int)
    (hu : KeysUnique c.rows) (hK : rf_VRel (rf_view c K) (m.get K) clock) :
    Refines c (frf_localDict c m K) clock := by
  rw [refines_iff]
  refine ⟨frf_setTo_wf (frf_abs_wf c hu) _ _, fun k' => ?_⟩
  rw [frf_localDict_get]
  by_cases h : sameKey K k' = true
  · rw [if_pos h, ← rf_view_sameKey h]; exact hK
  · rw [if_neg h]; exact rf_VRel_refl _ _

/-- a key that is not equal to itself (NULL, NaN) is bound nowhere -/
theorem frf_get_irrefl (m : Dict) {K : Key} (h : sameKey K K = false) : m.get K = none := by
  unfold Dict.get
  rw [Option.map_eq_none_iff, List.find?_eq_none]
  intro p _ hp
  rw [rf_sameKey_trans (rf_sameKey_symm hp) hp] at h
  cases h

theorem frf_view_irrefl (c : Cache) {K : Key} (h : sameKey K K = false) : rf_view c K = none := by
  rw [← frf_abs_get]; exact frf_get_irrefl _ h

theorem frf_localDict_at_K (c : Cache) (m : Dict) (K : Key) :
    (frf_localDict c m K).get K = m.get K := by
  rw [frf_localDict_get]
  cases hKK : sameKey K K with
  | true => rfl
  | false =>
    rw [frf_view_irrefl c hKK, frf_get_irrefl m hKK]
    rfl

/-- `c` represents `m` at the key `k` (the body of `Refines`) -/
def frf_RefinesAt (c : Cache) (m : Dict) (clock : Int) (k : Key) : Prop :=
  match m.get k with
  | some e => (∃ r, c.selKey k.1 k.2 = some r ∧ entryOfRow c r = e) ∨
              (c.selKey k.1 k.2 = none ∧ e.expired clock = true)
  | none => c.selKey k.1 k.2 = none

theorem frf_refines_def (c : Cache) (m : Dict) (clock : Int) :
    Refines c m clock ↔ m.WF ∧ ∀ k, frf_RefinesAt c m clock k := Iff.rfl

theorem frf_refinesAt_iff (c : Cache) (m : Dict) (clock : Int) (k : Key) :
    frf_RefinesAt c m clock k ↔ rf_VRel (rf_view c k) (m.get k) clock := by
  have hv : rf_view c k = (c.selKey k.1 k.2).map (entryOfRow c) := rfl
  rw [hv]
  unfold frf_RefinesAt rf_VRel
  cases m.get k with
  | none => cases c.selKey k.1 k.2 <;> simp
  | some e => cases c.selKey k.1 k.2 <;> simp

/-- what a key-addressed call does to the binding of its key -/
inductive frf_Act where
  | keep (o : Out)
  | put (e : Entry) (o : Out)
  | del (o : Out)

def frf_Act.out : frf_Act → Out
  | .keep o => o
  | .put _ o => o
  | .del o => o

def frf_Act.upd (a : frf_Act) (d : Option Entry) : Option Entry :=
  match a with
  | .keep _ => d
  | .put e _ => some e
  | .del _ => none

def frf_apply (m : Dict) (K : Key) : frf_Act → Dict × Out
  | .keep o => (m, o)
  | .put e o => (m.put K e, o)
  | .del o => (m.del K, o)

def frf_Local (sop : Dict → Dict × Out) (K : Key) : Prop :=
  ∃ D : Option Entry → frf_Act, ∀ m : Dict, sop m = frf_apply m K (D (m.get K))

theorem frf_apply_out (m : Dict) (K : Key) (a : frf_Act) : (frf_apply m K a).2 = a.out := by
  cases a <;> rfl

theorem frf_apply_wf {m : Dict} (h : m.WF) (K : Key) (a : frf_Act) : (frf_apply m K a).1.WF := by
  cases a with
  | keep o => exact h
  | put e o => exact rf_wf_put h K e
  | del o => exact rf_wf_del h K

theorem frf_apply_get (m : Dict) (K : Key) (a : frf_Act) (k' : Key) :
    (frf_apply m K a).1.get k' = if sameKey K k' then a.upd (m.get K) else m.get k' := by
  cases a with
  | keep o =>
    show m.get k' = _
    by_cases h : sameKey K k' = true
    · rw [if_pos h]; exact (rf_get_sameKey h m).symm
    · rw [if_neg h]
  | put e o => exact rf_get_put m K e k'
  | del o => exact rf_get_del m K k'

theorem frf_local_out {sop : Dict → Dict × Out} {K : Key} (h : frf_Local sop K) (m1 m2 : Dict)
    (hK : m1.get K = m2.get K) : (sop m1).2 = (sop m2).2 := by
  obtain ⟨D, hD⟩ := h
  rw [hD m1, hD m2, frf_apply_out, frf_apply_out, hK]

theorem frf_local_frame {sop : Dict → Dict × Out} {K : Key} (h : frf_Local sop K) (m : Dict)
    (k : Key) (hk : sameKey K k = false) : (sop m).1.get k = m.get k := by
  obtain ⟨D, hD⟩ := h
  rw [hD m, frf_apply_get, hk]
  rfl

theorem frf_local_wf {sop : Dict → Dict × Out} {K : Key} (h : frf_Local sop K) {m : Dict}
    (hw : m.WF) : (sop m).1.WF := by
  obtain ⟨D, hD⟩ := h
  rw [hD m]
  exact frf_apply_wf hw K _

theorem frf_local_step_get {sop : Dict → Dict × Out} {K : Key} (h : frf_Local sop K) (m1 m : Dict)
    (hK : m1.get K = m.get K) (k : Key) :
    (sameKey K k = true ∧ (sop m1).1.get k = (sop m).1.get k) ∨
    (sameKey K k = false ∧ (sop m1).1.get k = m1.get k ∧ (sop m).1.get k = m.get k) := by
  cases hs : sameKey K k with
  | true =>
    refine .inl ⟨rfl, ?_⟩
    obtain ⟨D, hD⟩ := h
    rw [hD m1, hD m, frf_apply_get, frf_apply_get, hs, hK]
    rfl
  | false =>
    exact .inr ⟨rfl, frf_local_frame h m1 k hs, frf_local_frame h m k hs⟩

theorem rf_VRel_trans {a b c : Option Entry} {now : Int} (h1 : rf_VRel a b now) (h2 : rf_VRel b c now) :
    rf_VRel a c now := by
  cases c with
  | none =>
    have hb : b = none := h2
    subst hb
    exact h1
  | some e =>
    rcases h2 with h2 | ⟨h2, hx⟩
    · subst h2; exact h1
    · subst h2
      have ha : a = none := h1
      exact .inr ⟨ha, hx⟩

/-- from the local dictionary of a shard to the global one: what is related to the binding of `k`
after a local call on the local dictionary of `c` is related to its binding after the call on `m`,
when `c` represents `m` at `k` — at the call's key the two calls agree, at the others neither
changes anything -/
theorem frf_local_transfer {sop : Dict → Dict × Out} {K : Key} (hloc : frf_Local sop K) (c : Cache)
    (m : Dict) (k : Key) (now : Int) (v : Option Entry)
    (h : rf_VRel v ((sop (frf_localDict c m K)).1.get k) now)
    (hold : rf_VRel (rf_view c k) (m.get k) now) : rf_VRel v ((sop m).1.get k) now := by
  rcases frf_local_step_get hloc _ m (frf_localDict_at_K c m K) k with ⟨-, heq⟩ | ⟨hne, e1, e2⟩
  · rw [← heq]; exact h
  · rw [e1, frf_localDict_get, hne] at h
    rw [e2]
    exact rf_VRel_trans h hold

/-- the key a call addresses (the four bulk removals and the calls outside the specification
address none) -/
def frf_opKey : Op → Option (Externals × PyVal)
  | .set E _ k .. | .add E _ k .. | .touch E _ k .. | .incr E _ k .. | .get E _ k ..
  | .contains E _ k | .pop E _ k .. | .delitem E _ k | .delete E _ k => some (E, k)
  | _ => none

theorem frf_set_local (E : Externals) (cfg : Cfg) (now : Int) (k v : PyVal) (ttl : Option Int)
    (read : Bool) (tag : SqlVal) :
    frf_Local (fun m => Spec.set m E cfg now k v ttl read tag) (keyOf E cfg k) := by
  refine ⟨fun _ =>
    match place E cfg.disk cfg.minFileSize v read with
    | .error _ => .keep (.exc "UnicodeEncodeError")
    | .ok p =>
      if bindable (keyOf E cfg k).1 && bindable (entryOf p (ttl.map (now + ·)) tag).tag &&
          bindable (entryOf p (ttl.map (now + ·)) tag).val then
        .put (entryOf p (ttl.map (now + ·)) tag) (.bool true)
      else .keep (.exc "UnicodeEncodeError"), fun m => ?_⟩
  unfold Spec.set
  cases place E cfg.disk cfg.minFileSize v read with
  | error e => rfl
  | ok p => simp only; split <;> rfl

theorem frf_add_local (E : Externals) (cfg : Cfg) (now : Int) (k v : PyVal) (ttl : Option Int)
    (read : Bool) (tag : SqlVal) :
    frf_Local (fun m => Spec.add m E cfg now k v ttl read tag) (keyOf E cfg k) := by
  -- a live item under a bindable key: nothing is stored; otherwise `add` is `set`
  obtain ⟨D, hD⟩ := frf_set_local E cfg now k v ttl read tag
  refine ⟨fun d =>
    if bindable (keyOf E cfg k).1 = true ∧ rf_has now d = true then
      .keep (match place E cfg.disk cfg.minFileSize v read with
        | .error _ => .exc "UnicodeEncodeError"
        | .ok _ => .bool false)
    else D d, fun m => ?_⟩
  dsimp only
  split
  next h =>
    unfold Spec.add
    rw [rf_has_dict, h.1, h.2]
    cases place E cfg.disk cfg.minFileSize v read <;> rfl
  next h => rw [spec_add_eq_set v ttl read tag h, ← hD m]

theorem frf_touch_local (E : Externals) (cfg : Cfg) (now : Int) (k : PyVal) (ttl : Option Int) :
    frf_Local (fun m => Spec.touch m E cfg now k ttl) (keyOf E cfg k) := by
  refine ⟨fun d =>
    match d with
    | some e => if e.live now then .put { e with expT := ttl.map (now + ·) } (.bool true)
                else .keep (.bool false)
    | none => .keep (.bool false), fun m => ?_⟩
  dsimp only
  unfold Spec.touch
  cases m.get (keyOf E cfg k) with
  | none => rfl
  | some e => simp only; split <;> rfl

theorem frf_incr_local (E : Externals) (cfg : Cfg) (now : Int) (k : PyVal) (delta : Int)
    (dflt : Option Int) :
    frf_Local (fun m => Spec.incr m E cfg now k delta dflt) (keyOf E cfg k) := by
  let fresh : frf_Act :=
    match dflt with
    | none => .keep (.exc "KeyError")
    | some d =>
      match place E cfg.disk cfg.minFileSize (.int (d + delta)) false with
      | .error _ => .keep (.exc "UnicodeEncodeError")
      | .ok p => .put (entryOf p none .null) (.int (d + delta))
  have hfresh : ∀ m : Dict, specIncrFresh m E cfg k delta dflt = frf_apply m (keyOf E cfg k) fresh := by
    intro m
    unfold specIncrFresh
    cases dflt with
    | none => rfl
    | some d =>
      dsimp only [fresh]
      cases place E cfg.disk cfg.minFileSize (.int (d + delta)) false <;> rfl
  refine ⟨fun d =>
    match d with
    | none => fresh
    | some e =>
      if e.expired now then fresh
      else match e.val with
        | .int i => if inI64 (i + delta) then .put { e with val := .int (i + delta) } (.int (i + delta))
                    else .keep (.exc "OverflowError")
        | _ => .keep (.exc "TypeError"), fun m => ?_⟩
  show Spec.incr m E cfg now k delta dflt = _
  rw [specIncr_eq]
  cases m.get (keyOf E cfg k) with
  | none => exact hfresh m
  | some e =>
    dsimp only
    split
    · exact hfresh m
    · cases e.val with
      | int i => dsimp only; split <;> rfl
      | _ => rfl

theorem frf_get_local (E : Externals) (cfg : Cfg) (now : Int) (k : PyVal) (read et tg : Bool) :
    frf_Local (fun m => Spec.get m E cfg now k read et tg) (keyOf E cfg k) := by
  refine ⟨fun d => .keep (match d with
    | some e => if e.live now then e.out E cfg read et tg else defaultFlags et tg
    | none => defaultFlags et tg), fun m => ?_⟩
  exact rf_get_spec read et tg (rf_VRel_refl _ now)

theorem frf_contains_local (E : Externals) (cfg : Cfg) (now : Int) (k : PyVal) :
    frf_Local (fun m => Spec.contains m E cfg now k) (keyOf E cfg k) := by
  refine ⟨fun d => .keep (.bool (rf_has now d)), fun m => ?_⟩
  dsimp only
  unfold Spec.contains
  rw [rf_has_dict]
  rfl

theorem frf_pop_local (E : Externals) (cfg : Cfg) (now : Int) (k : PyVal) (et tg : Bool) :
    frf_Local (fun m => Spec.pop m E cfg now k et tg) (keyOf E cfg k) := by
  obtain ⟨D, hD⟩ := frf_get_local E cfg now k false et tg
  refine ⟨fun d => if rf_has now d then .del (D d).out else .keep (D d).out, fun m => ?_⟩
  dsimp only at hD ⊢
  rw [rf_pop_spec, hD m, frf_apply_out]
  split <;> rfl

theorem frf_delitem_local (E : Externals) (cfg : Cfg) (now : Int) (k : PyVal) :
    frf_Local (fun m => Spec.delitem m E cfg now k) (keyOf E cfg k) := by
  refine ⟨fun d => if rf_has now d then .del (.bool true) else .keep (.exc "KeyError"), fun m => ?_⟩
  dsimp only
  rw [rf_delitem_spec]
  split <;> rfl

theorem frf_delete_local (E : Externals) (cfg : Cfg) (now : Int) (k : PyVal) :
    frf_Local (fun m => Spec.delete m E cfg now k) (keyOf E cfg k) := by
  refine ⟨fun d => if rf_has now d then .del (.bool true) else .keep (.bool false), fun m => ?_⟩
  dsimp only
  unfold Spec.delete
  rw [rf_has_dict]
  split <;> rfl

theorem frf_step_local (cfg : Cfg) (op : Op) (E : Externals) (k : PyVal)
    (h : frf_opKey op = some (E, k)) :
    frf_Local (fun m => Spec.step m cfg op) (keyOf E cfg k) := by
  cases op <;> simp only [frf_opKey, Option.some.injEq, Prod.mk.injEq, reduceCtorEq] at h <;>
    obtain ⟨rfl, rfl⟩ := h
  · exact frf_set_local ..
  · exact frf_add_local ..
  · exact frf_touch_local ..
  · exact frf_incr_local ..
  · exact frf_get_local ..
  · exact frf_contains_local ..
  · exact frf_pop_local ..
  · exact frf_delitem_local ..
  · exact frf_delete_local ..

def frf_Pointwise (sop : Dict → Dict × Out) : Prop :=
  ∃ P : Option Entry → Option Entry, ∀ m : Dict, m.WF → (sop m).1.WF ∧ ∀ k, (sop m).1.get k = P (m.get k)

def frf_isBulk : Op → Bool
  | .clear | .evict .. | .expire .. | .cull .. => true
  | _ => false

def flz_Pointwise (sop : Dict → Dict × Out) (now : Int) : Prop :=
  ∃ P : Option Entry → Option Entry,
    (∀ m : Dict, m.WF → (sop m).1.WF ∧ ∀ k, (sop m).1.get k = P (m.get k)) ∧
    P none = none ∧ ∀ a d, rf_VRel a d now → rf_VRel (P a) (P d) now

theorem flz_Pointwise.weaken {sop : Dict → Dict × Out} {now : Int} (h : flz_Pointwise sop now) :
    frf_Pointwise sop :=
  let ⟨P, hP, _⟩ := h
  ⟨P, hP⟩

theorem flz_clear_pointwise (now : Int) : flz_Pointwise Spec.clear now :=
  ⟨fun _ => none, fun _ _ => ⟨rf_wf_nil, fun _ => rfl⟩, rfl, fun _ _ _ => rfl⟩

theorem flz_filter_pointwise (p : Entry → Bool) (now : Int) :
    flz_Pointwise (fun m => (m.filter (fun x => p x.2), Out.none)) now :=
  ⟨fun d => d.filter p, fun _ hw => ⟨rf_wf_filter hw _, fun k => rf_get_filter hw p k⟩, rfl,
    fun _ _ h => rf_VRel_filter p h⟩

theorem flz_step_pointwise (cfg : Cfg) (op : Op) (now : Int) (h : frf_isBulk op = true) :
    flz_Pointwise (fun m => Spec.step m cfg op) now := by
  cases op <;> simp only [frf_isBulk, Bool.false_eq_true] at h
  · exact flz_clear_pointwise now
  · exact flz_filter_pointwise (fun e => !e.tag.eqv _) now
  · exact flz_filter_pointwise (fun e => !e.expired _) now
  · exact flz_filter_pointwise (fun e => !e.expired _) now

theorem frf_step_pointwise (cfg : Cfg) (op : Op) (h : frf_isBulk op = true) :
    frf_Pointwise (fun m => Spec.step m cfg op) :=
  (flz_step_pointwise cfg op 0 h).weaken

theorem frf_keyed_cases (op : Op) (h : Keyed op = true) :
    (∃ E k, frf_opKey op = some (E, k)) ∨ frf_isBulk op = true := by
  cases op <;> simp only [Keyed, Bool.false_eq_true] at h <;>
    first
      | exact .inr rfl
      | exact .inl ⟨_, _, rfl⟩

end DC.Cache
