/-
C03_Lossy / C09, table level: what `_cull` (the lazy cull inside every write)
takes from a table — expired rows first, then, only with an eviction policy and
only when the observed volume is not below the limit, the first rows in the
policy's order.  `cullW_loss` collects everything the refinement proofs need
about the rows that were *evicted* (`lostRows`).
-/
import DC.Proofs.LossyDefs
import DC.Proofs.Inv

namespace DC.Cache

theorem sumSizes_filter_add (p : Row → Bool) (l : List Row) :
    sumSizes (l.filter p) + sumSizes (l.filter (fun r => !p r)) = sumSizes l := by
  induction l with
  | nil => rfl
  | cons a t ih =>
    unfold sumSizes at ih ⊢
    cases h : p a <;> simp [h] <;> omega

theorem lost_exp_length (now : Int) (X Y : List Row) :
    (lostRows now X Y).length + (expGone now X Y).length =
      (X.filter (fun r => decide (r ∉ Y))).length := by
  have h := length_filter_add_not (expired now) (X.filter (fun r => decide (r ∉ Y)))
  rw [List.filter_filter, List.filter_filter] at h
  rw [← h]
  exact Nat.add_comm _ _

theorem lostRows_eq_nil {now : Int} {X Y : List Row}
    (h : ∀ r ∈ X, r ∉ Y → expired now r = true) : lostRows now X Y = [] := by
  unfold lostRows
  rw [List.filter_eq_nil_iff]
  intro r hr
  by_cases hY : r ∈ Y
  · simp [hY]
  · simp [h r hr hY]

theorem mem_lostRows {now : Int} {X Y : List Row} {r : Row} :
    r ∈ lostRows now X Y ↔ r ∈ X ∧ expired now r = false ∧ r ∉ Y := by
  unfold lostRows
  simp [List.mem_filter]

theorem cullW_loss (t : Cache) (now : Int) (hi : TableInv t) :
    (∀ r ∈ (t.cullW now).1.rows, r ∈ t.rows) ∧
    (lostRows now t.rows (t.cullW now).1.rows).length + (expGone now t.rows (t.cullW now).1.rows).length
      ≤ t.cfg.cullLimit ∧
    (t.cfg.policy = .none → lostRows now t.rows (t.cullW now).1.rows = []) ∧
    (t.cfg.cullLimit = 0 → lostRows now t.rows (t.cullW now).1.rows = []) ∧
    (lostRows now t.rows (t.cullW now).1.rows ≠ [] → ∀ pb rest, t.env = pb :: rest →
      belowLimit t.cfg ((pb : Int) + (t.cullW now).1.size +
        sumSizes (lostRows now t.rows (t.cullW now).1.rows)) = false) ∧
    (∀ r ∈ lostRows now t.rows (t.cullW now).1.rows, ∀ w ∈ (t.cullW now).1.rows,
      policyKey t.cfg.policy r ≤ policyKey t.cfg.policy w) := by
  have hasc := hi.tbl.asc
  have hsl := cullW_sublist t now hasc
  refine ⟨fun r hr => hsl.subset hr, ?_, ?_, ?_, ?_, ?_⟩
  · rw [lost_exp_length]
    have h1 := length_filter_not_mem hasc.nodup (hasc.nodup.sublist hsl) (fun x hx => hsl.subset hx)
    have h2 := cullW_length t now hasc
    omega
  · intro hp
    apply lostRows_eq_nil
    intro r hr hnot
    cases hex : expired now r with
    | true => rfl
    | false => exact absurd hp (cullW_removed t now hasc r hr hnot hex).1
  · intro h0
    apply lostRows_eq_nil
    intro r hr hnot
    rw [(cull_zero t now h0).1] at hnot
    exact absurd hr hnot
  · intro hne pb rest henv
    obtain ⟨r0, hr0⟩ := List.exists_mem_of_ne_nil _ hne
    obtain ⟨hr0X, hr0e, hr0Y⟩ := mem_lostRows.1 hr0
    have hv := (cullW_removed t now hasc r0 hr0X hr0Y hr0e).2.1 pb rest henv
    -- the size counter before the eviction is the final one plus what was evicted
    have hsz : (t.delIn ((t.selExpired now t.cfg.cullLimit).map (·.rowid))).size =
        (t.cullW now).1.size + sumSizes (lostRows now t.rows (t.cullW now).1.rows) := by
      have hR1 : (t.delIn ((t.selExpired now t.cfg.cullLimit).map (·.rowid))).rows =
          t.rows.filter (fun r => decide (r ∉ t.selExpired now t.cfg.cullLimit)) := by
        rw [delIn_rows, filter_rowids_eq hasc (fun x hx => (selExpired_mem hx).1)]
      rw [(delIn_inv _ hi).tbl.size, (cullW_inv now none hi).tbl.size, hR1]
      obtain ⟨R1, P, hR1d, hP, h⟩ := cullW_spec t now hasc
      have hr0E : r0 ∉ t.selExpired now t.cfg.cullLimit := by
        intro hx; have := (selExpired_mem hx).2; rw [hr0e] at this; cases this
      have hr0R1 : r0 ∈ R1 := by rw [hR1d]; exact List.mem_filter.2 ⟨hr0X, by simpa using hr0E⟩
      rcases h with h | ⟨-, -, h⟩
      · rw [h] at hr0Y; exact absurd hr0R1 hr0Y
      · have hr0P : r0 ∈ P := by
          apply Classical.byContradiction; intro hc
          rw [h] at hr0Y
          exact hr0Y (List.mem_filter.2 ⟨hr0R1, by simpa using hc⟩)
        -- the policy part ran with a positive remaining limit: every expired row is in the page
        have hlt : (t.selExpired now t.cfg.cullLimit).length < t.cfg.cullLimit := by
          apply Classical.byContradiction; intro hc
          have : t.cfg.cullLimit - (t.selExpired now t.cfg.cullLimit).length = 0 := by omega
          rw [this] at hP
          rw [hP] at hr0P
          simp at hr0P
        have hall : ∀ x ∈ t.rows, expired now x = true → x ∈ t.selExpired now t.cfg.cullLimit := by
          intro x hx he
          apply selExpired_all _ hx he
          have : (t.selExpired now t.cfg.cullLimit).length =
              min t.cfg.cullLimit (t.rows.filter (expired now)).length := by
            unfold selExpired
            rw [List.length_take, length_isort]
          omega
        have hL : lostRows now t.rows (t.cullW now).1.rows = R1.filter (fun r => !decide (r ∉ P)) := by
          rw [hR1d, List.filter_filter]
          unfold lostRows
          apply List.filter_congr
          intro x hx
          rw [h, hR1d]
          by_cases hxe : expired now x = true
          · have := hall x hx hxe
            simp [hxe, this]
          · have hxe' : expired now x = false := by simpa using hxe
            have hxE : x ∉ t.selExpired now t.cfg.cullLimit := by
              intro hc; have := (selExpired_mem hc).2; rw [hxe'] at this; cases this
            by_cases hxP : x ∈ P <;> simp [hxe', hxE, hxP, hx]
        rw [hL, h, ← hR1d]
        exact (sumSizes_filter_add (fun r => decide (r ∉ P)) R1).symm
    rw [Int.add_assoc, ← hsz]
    exact hv
  · intro r hr w hw
    obtain ⟨hrX, hre, hrY⟩ := mem_lostRows.1 hr
    have h := (cullW_removed t now hasc r hrX hrY hre).2.2 w hw
    revert h
    cases t.cfg.policy <;> simp [policyLt, policyKey]

theorem filter_mem_sublist {α} [DecidableEq α] {Y X : List α} (h : Y.Sublist X) (hn : X.Nodup) :
    X.filter (fun r => decide (r ∈ Y)) = Y := by
  induction h with
  | slnil => rfl
  | cons a h ih =>
    rename_i Y' X'
    have hn' := List.nodup_cons.1 hn
    have : a ∉ Y' := fun hc => hn'.1 (h.subset hc)
    rw [List.filter_cons_of_neg (by simpa using this)]
    exact ih hn'.2
  | cons_cons a h ih =>
    rename_i Y' X'
    have hn' := List.nodup_cons.1 hn
    rw [List.filter_cons_of_pos (by simp)]
    congr 1
    refine Eq.trans (List.filter_congr ?_) (ih hn'.2)
    intro x hx
    have : x ≠ a := fun hc => hn'.1 (hc ▸ hx)
    simp [this]

theorem sumSizes_two_filters_le (p q : Row → Bool) (l : List Row)
    (hpq : ∀ r, p r = true → q r = true → False) :
    sumSizes (l.filter p) + sumSizes (l.filter q) ≤ sumSizes l := by
  induction l with
  | nil => exact Int.le_refl _
  | cons a t ih =>
    unfold sumSizes at ih ⊢
    cases hp : p a <;> cases hq : q a
    · simp [hp, hq]; omega
    · simp [hp, hq]; omega
    · simp [hp, hq]; omega
    · exact absurd hq (fun h => hpq a hp h)

theorem kept_lost_size_le {now : Int} {X Y : List Row} (h : Y.Sublist X) (hn : X.Nodup) :
    sumSizes Y + sumSizes (lostRows now X Y) ≤ sumSizes X := by
  have := sumSizes_two_filters_le (fun r => decide (r ∈ Y))
    (fun r => !expired now r && decide (r ∉ Y)) X (by intro r h1 h2; simp_all)
  rw [filter_mem_sublist h hn] at this
  exact this

theorem cullW_size_le (t : Cache) (now : Int) (hi : TableInv t) :
    (t.cullW now).1.size + sumSizes (lostRows now t.rows (t.cullW now).1.rows) ≤ t.size := by
  rw [(cullW_inv now none hi).tbl.size, hi.tbl.size]
  exact kept_lost_size_le (cullW_sublist t now hi.tbl.asc) hi.tbl.asc.nodup

/-- the conclusions of `cullW_loss` and `cullW_size_le`, for a table `X` culled into the state `t'` -/
structure CullFacts (cfg : Cfg) (env : List Nat) (now : Int) (X : List Row) (t' : Cache) : Prop where
  sub : ∀ r ∈ t'.rows, r ∈ X
  count : (lostRows now X t'.rows).length + (expGone now X t'.rows).length ≤ cfg.cullLimit
  polNone : cfg.policy = .none → lostRows now X t'.rows = []
  limZero : cfg.cullLimit = 0 → lostRows now X t'.rows = []
  vol : lostRows now X t'.rows ≠ [] → ∀ pb rest, env = pb :: rest →
    belowLimit cfg ((pb : Int) + t'.size + sumSizes (lostRows now X t'.rows)) = false
  order : ∀ r ∈ lostRows now X t'.rows, ∀ w ∈ t'.rows, policyKey cfg.policy r ≤ policyKey cfg.policy w
  szle : t'.size + sumSizes (lostRows now X t'.rows) ≤ sumSizes X

theorem cullW_facts (t : Cache) (now : Int) (hi : TableInv t) :
    CullFacts t.cfg t.env now t.rows (t.cullW now).1 := by
  obtain ⟨h1, h2, h3, h4, h5, h6⟩ := cullW_loss t now hi
  exact ⟨h1, h2, h3, h4, h5, h6, by rw [← hi.tbl.size]; exact cullW_size_le t now hi⟩

end DC.Cache
