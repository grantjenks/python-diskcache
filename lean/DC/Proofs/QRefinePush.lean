/-
One `push` on a quiescent state with budget left.  `push_abs` describes the state afterwards on
the cache side alone, for any `cull_limit` and ttl.  From it the step under `QOk`
(`qr_push_step`), and the loose one (`ql_push_step`): there the lazy cull of the write may remove
expired rows from every queue (`Thinned`), and the number of the new item is whatever the cache
picks (`last physical key ± 1`); the reference is told (`QSpec.pushAt`).
-/
import DC.Proofs.QRefinePull
import DC.Proofs.QLooseDefs

namespace DC.Cache
open DC.Spec DC.QSpec

/-- `_cull` without size-based eviction removes the expired page and nothing else -/
theorem qr_cullW_none (t : Cache) (now : Int) (hasc : RowidsAsc t.rows) (hp : t.cfg.policy = .none) :
    (t.cullW now).1.rows = t.rows.filter (fun r => decide (r ∉ t.selExpired now t.cfg.cullLimit)) := by
  obtain ⟨R1, P, hR1, -, h | ⟨hne, -, -⟩⟩ := cullW_spec t now hasc
  · rw [h, hR1]
  · exact absurd hp hne

theorem qr_selExpired_zero (t : Cache) (now : Int) (h : t.cfg.cullLimit = 0) :
    t.selExpired now t.cfg.cullLimit = [] := by
  unfold selExpired; simp [h]

theorem qr_not_selExpired {t : Cache} {now : Int} {n : Nat} {x : Row} (h : expired now x = false) :
    decide (x ∉ t.selExpired now n) = true := by
  simp only [decide_eq_true_eq]
  intro hc
  have := (selExpired_mem hc).2
  rw [h] at this; cases this

theorem qr_pushNum {c : Cache} {n : Nat} (hok : QOkL c (n + 1)) (p : Option Str) (back : Bool) :
    pushNum c p back = some (nextNum c.cfg back (absQueue c p)) ∧
    1 + (n : Int) ≤ nextNum c.cfg back (absQueue c p) ∧
    nextNum c.cfg back (absQueue c p) + (n : Int) ≤ 999999999999998 := by
  have he : (if back then lastRow? (c.queueRows p) else (c.queueRows p).head?) =
      endOf (!back) (c.queueRows p) := by
    unfold endOf lastRow?; cases back <;> rfl
  unfold pushNum nextNum absQueue
  rw [he, endOf_map]
  cases hh : endOf (!back) (c.queueRows p) with
  | none =>
    have := hok.originN
    simp only [Option.map_none]
    exact ⟨trivial, by omega, by omega⟩
  | some r =>
    have hr := endOf_mem hh
    obtain ⟨m, h1, -, -, -⟩ := hok.qok p r hr
    have hroom := hok.room p r hr m h1
    simp only [Option.map_some, itemOfRow, h1, Option.getD_some]
    cases back with
    | true => simp only [if_true]; exact ⟨trivial, by omega, by omega⟩
    | false => simp only [Bool.false_eq_true, if_false]; exact ⟨trivial, by omega, by omega⟩

/-- the body of `push` on a table `t` that is the table of `c`, given the number `num` that `push`
picks in `c`.  If the database can bind the columns and the key, the INSERT goes through: the new
row stands at the end of the table, and the lazy cull of the write removes expired rows at most —
none when `cull_limit = 0`.  Otherwise the INSERT fails. -/
theorem qr_pushBody_abs (now : Int) (p : Option Str) (back : Bool) (cols : Cols) (t : Cache)
    {c : Cache} {num : Int} (hi : TableInv t) (hrows : t.rows = c.rows) (hcfg : t.cfg = c.cfg)
    (hpol : c.cfg.policy = .none) (hn : pushNum c p back = some num)
    (hsel : c.selKey (queueKey p num) true = none) :
    if cols.bindable && bindable (queueKey p num) then
      ∃ g : Row → Bool,
        (pushBody now p back cols t).ok = true ∧
        (pushBody now p back cols t).out = .val (column (queueKey p num)) ∧
        (pushBody now p back cols t).s.rows =
          (c.rows ++ [mkRow c.rows (queueKey p num) now cols]).filter g ∧
        KeysUnique (c.rows ++ [mkRow c.rows (queueKey p num) now cols]) ∧
        (∀ x ∈ c.rows ++ [mkRow c.rows (queueKey p num) now cols], x.key ≠ .null) ∧
        ∀ x, g x = false → expired now x = true ∧ c.cfg.cullLimit ≠ 0
    else
      (pushBody now p back cols t).ok = false ∧
      (pushBody now p back cols t).out = .exc "UnicodeEncodeError" := by
  rw [← pushNum_congr hrows hcfg] at hn
  rw [← selKey_rows hrows] at hsel
  rw [← hcfg] at hpol
  rw [← hrows, ← hcfg]
  split
  · rename_i hb
    simp only [Bool.and_eq_true] at hb
    -- `X`: the table after the INSERT, before the lazy cull
    have hX : TableInv ((t.logSql "selQueueEnd").insRow (queueKey p num) true now cols) :=
      insRow_inv _ _ _ _ (logSql_inv _ hi) hsel (queueKey_ne_null p num)
    rw [pushBody_some hn hsel hb.1 hb.2]
    generalize hXe : (t.logSql "selQueueEnd").insRow (queueKey p num) true now cols = X at hX
    have hXrows : X.rows = t.rows ++ [mkRow t.rows (queueKey p num) now cols] := by rw [← hXe]; rfl
    have hXcfg : X.cfg = t.cfg := by rw [← hXe]; rfl
    rw [← hXrows]
    refine ⟨fun r => decide (r ∉ X.selExpired now X.cfg.cullLimit), rfl, rfl,
      qr_cullW_none X now hX.tbl.asc (by rw [hXcfg]; exact hpol), hX.tbl.uniq, hX.tbl.nonnull,
      fun x hx => ?_⟩
    simp only [decide_eq_false_iff_not, Decidable.not_not] at hx
    refine ⟨(selExpired_mem hx).2, fun h0 => ?_⟩
    rw [qr_selExpired_zero X now (by rw [hXcfg]; exact h0)] at hx
    cases hx
  · rename_i hb
    unfold pushBody
    rw [hn]
    have hsel' : ((t.logSql "selQueueEnd").selKey (queueKey p num) true) = none := hsel
    have : (!cols.bindable || !bindable (queueKey p num)) = true := by
      cases h1 : cols.bindable <;> cases h2 : bindable (queueKey p num) <;> simp_all
    simp only [hsel', Option.isSome_none, Bool.false_eq_true, if_false, this, if_true]
    exact ⟨trivial, trivial⟩

/-- a stream value (`read=True`) is stored as a binary file, which reads back -/
theorem qr_place_readable (E : Externals) (dk : DiskKind) (mfs : Nat) (v : PyVal) (rd : Bool) (pl : Placement)
    (h : place E dk mfs v rd = .ok pl) (eT : Option Int) (tg : SqlVal) :
    drf_Readable (entryOf pl eT tg) := by
  cases rd with
  | false => exact drf_place_readable E dk mfs v pl h eT tg
  | true =>
    intro E' dk'
    apply drf_fetch_ioerror
    have h' : Disk.place E mfs v true = .ok pl := by
      unfold place at h
      cases dk <;> simpa using h
    unfold Disk.place at h'
    simp only [if_true] at h'
    cases v <;> simp only at h' <;> cases h' <;>
      simp [entryOf, Disk.fetch, MODE_RAW, MODE_BINARY]

/-- a number whose key lies beyond the end of the queue is the number of no item of the queue -/
theorem qr_num_fresh {c : Cache} {p : Option Str} {back : Bool} {num : Int} (hq : QueueOk c p)
    (hord : ∀ x ∈ c.queueRows p, if back then x.key.lt (queueKey p num) = true
      else (queueKey p num).lt x.key = true) :
    ∀ it ∈ absQueue c p, it.num ≠ num := by
  intro it hit
  obtain ⟨r, hr, rfl⟩ := List.mem_map.1 hit
  obtain ⟨m, hm1, hm2, -, -⟩ := hq r hr
  intro e
  simp only [itemOfRow, hm1, Option.getD_some] at e
  subst e
  have := hord r hr
  rw [← hm2] at this
  cases back <;> simp [SqlVal.lt_irrefl] at this

/-- the views of the ordinary keys after a queue row is added and expired rows are removed.
`b`: a state whose files include those of `c` and of `c'`, in which the entries are read. -/
theorem view_pushed {c c' b : Cache} {new : Row} {g : Row → Bool} {now : Int} {p : Option Str}
    (hg' : Good c') (hR : c'.rows = (c.rows ++ [new]).filter g) (hU : KeysUnique (c.rows ++ [new]))
    (hgexp : ∀ x, g x = false → expired now x = true)
    (hF : ∀ f ∈ c'.files, f ∈ b.files) (hnd : (b.files.map (·.1)).Nodup)
    (hentS : ∀ r ∈ c.rows, rf_ent b r = rf_ent c r) (hq : qfilter p new = true)
    (k : Spec.Key) (d : Option Spec.Entry) (clock : Int) (hn : clock ≤ now)
    (hk : isQueueKey k = false) (h0 : HoldsKey c k d clock) : HoldsKey c' k d now := by
  rw [holdsKey_iff] at h0 ⊢
  have hcul := rf_culled (c' := c') (b := b) (X := c.rows ++ [new]) (now := now) hg' hU
    (fun r hr => by rw [hR] at hr; exact (List.mem_filter.1 hr).1)
    (fun r hr hnot => by
      cases hgx : g r with
      | true => exact absurd (by rw [hR]; exact List.mem_filter.2 ⟨hr, hgx⟩) hnot
      | false => exact hgexp r hgx)
    hF hnd
  have hlook : rf_look (c.rows ++ [new]) b k = rf_view c k := by
    rw [rf_look_append, keyMatch_ordinary hk hq]
    simp only [Bool.false_eq_true, if_false, Option.or_none]
    exact rf_look_congr hentS k
  exact rf_VRel_culled hcul (k := k) (d := d) (by rw [hlook]; exact rf_VRel_mono h0 hn)

/-- the state `c'` after a row `new` with the key of number `num` of queue `p`, beyond the end of
that queue, is added to the table of `c` and the lazy cull has removed the rows outside `g`.
`b`: a state whose files include those of `c` and of `c'`, in which `new` reads as `e`. -/
theorem pushed_abs {c c' b : Cache} {n : Nat} {now : Int} {new : Row} {g : Row → Bool}
    {p : Option Str} {back : Bool} {num : Int} {e : Spec.Entry}
    (hok : QOkL c (n + 1)) (hg' : Good c') (hC : c'.cfg = c.cfg)
    (hR : c'.rows = (c.rows ++ [new]).filter g) (hU : KeysUnique (c.rows ++ [new]))
    (hNN : ∀ x ∈ c.rows ++ [new], x.key ≠ .null)
    (hgexp : ∀ x, g x = false → expired now x = true ∧ c.cfg.cullLimit ≠ 0)
    (hF : ∀ f ∈ c'.files, f ∈ b.files) (hfsub : ∀ f ∈ c.files, f ∈ b.files)
    (hnd : (b.files.map (·.1)).Nodup)
    (hkey : new.key = queueKey p num) (hraw : new.raw = true) (hent : rf_ent b new = e)
    (hrd : drf_Readable e) (hlo : 1 + (n : Int) ≤ num) (hhi : num + (n : Int) ≤ 999999999999998)
    (hord : ∀ x ∈ c.queueRows p, if back then x.key.lt (queueKey p num) = true
      else (queueKey p num).lt x.key = true) :
    QOkL c' n ∧
    (∀ p', Culled c.cfg.cullLimit now (absQueue c' p')
      (if p' = p then (if back then absQueue c p ++ [⟨num, e⟩] else ⟨num, e⟩ :: absQueue c p)
       else absQueue c p')) ∧
    (∀ p', ∀ r ∈ c'.queueRows p', r ∈ c.queueRows p' ∨ r = new) ∧
    (∀ k d clock, clock ≤ now → isQueueKey k = false → HoldsKey c k d clock → HoldsKey c' k d now) := by
  have hfit : Fits num := by unfold Fits; omega
  have hnum : queueNum new.key = some num := by rw [hkey]; exact queueNum_queueKey p num hfit
  have hq : qfilter p new = true :=
    qfilter_iff.2 ⟨by rw [hkey]; exact kfilter_queueKey p num (by omega) (by omega), hraw⟩
  -- every entry is read in `b`
  have hent' : ∀ p', ∀ r ∈ c'.queueRows p', rf_ent c' r = rf_ent b r :=
    fun p' r hr => rf_ent_mono hF hnd (rf_good_ref hg' (mem_qrows.1 hr).1)
  have hentS : ∀ r ∈ c.rows, rf_ent b r = rf_ent c r :=
    fun r hr => (rf_ent_mono hfsub hnd (rf_good_ref hok.good hr)).symm
  have hold : ∀ p', (qrows c.rows p').map (itemOfRow b) = absQueue c p' :=
    fun p' => List.map_congr_left (fun r hr => itemOfRow_congr (hentS r (mem_qrows.1 hr).1))
  have hnew : itemOfRow b new = ⟨num, e⟩ := by
    unfold itemOfRow
    rw [entryOfRow_eq, hent, hnum]
    rfl
  -- `L`: queue `p'` before the cull, with the new row at its end if `p' = p`
  have hL : ∀ p', ∃ L : List Row, c'.queueRows p' = L.filter g ∧
      (∀ r ∈ L, r ∈ c.queueRows p' ∨ (p' = p ∧ r = new)) ∧
      L.map (itemOfRow b) =
        if p' = p then (if back then absQueue c p ++ [⟨num, e⟩] else ⟨num, e⟩ :: absQueue c p)
        else absQueue c p' := by
    intro p'
    rw [queueRows_eq, hR, qrows_filter hU hNN]
    by_cases hp : p' = p
    · subst hp
      rw [if_pos rfl, qrows_append_end new hU hNN p' hq back (by rw [hkey]; exact hord)]
      refine ⟨_, rfl, fun r hr => (mem_pushed hr).imp id (fun h => ⟨rfl, h⟩), ?_⟩
      rw [map_pushed, hnew, hold p']
    · rw [if_neg hp, qrows_append_notin _ _ _ (qfilter_other (Ne.symm hp) num hfit new hkey)]
      exact ⟨_, rfl, fun r hr => .inl hr, hold p'⟩
  have hmem : ∀ p', ∀ r ∈ c'.queueRows p', r ∈ c.queueRows p' ∨ (p' = p ∧ r = new) := by
    intro p' r hr
    obtain ⟨L, hQ, hsub, -⟩ := hL p'
    rw [hQ] at hr
    exact hsub r (List.mem_filter.1 hr).1
  refine ⟨?_, fun p' => ?_, fun p' r hr => (hmem p' r hr).imp id And.right,
    view_pushed hg' hR hU (fun x hx => (hgexp x hx).1) hF hnd hentS hq⟩
  · -- the invariant, with one unit of the budget used
    refine hok.of_rows (Nat.le_succ n) hg' hC (fun p' r hr => ?_)
    rw [entryOfRow_eq, hent' p' r hr]
    rcases hmem p' r hr with h | ⟨hp, rfl⟩
    · exact .inl ⟨h, hentS r (mem_qrows.1 h).1⟩
    · subst hp
      exact .inr ⟨num, hnum, hkey.symm, hlo, hhi, by rw [hent]; exact hrd⟩
  · -- the queues as items
    obtain ⟨L, hQ, hsub, hmap⟩ := hL p'
    rw [← hmap]
    refine culled_queue hU hNN ?_ ?_ hQ (hent' p') (fun x _ hgx => hgexp x hgx)
    · intro r hr
      rcases hsub r hr with h | ⟨-, rfl⟩
      · exact List.mem_append_left _ (mem_qrows.1 h).1
      · exact List.mem_append_right _ (List.mem_singleton_self _)
    · intro r hr
      rcases hsub r hr with h | ⟨hp, rfl⟩
      · obtain ⟨m, a1, a2, -, -⟩ := hok.qok p' r h
        exact ⟨qfilter_raw (mem_qrows.1 h).2, m, a1, a2⟩
      · subst hp
        exact ⟨hraw, num, hnum, hkey.symm⟩

/-- the same table and configuration, and no file that is not in a state `b` which extends the
files of `c`: nothing has changed but for unreferenced files removed -/
theorem Shrunk.of_rows_eq {c c' b : Cache} (hg : Good c) (hg' : Good c') (hrows : c'.rows = c.rows)
    (hcfg : c'.cfg = c.cfg) (hF : ∀ f ∈ c'.files, f ∈ b.files) (hfsub : ∀ f ∈ c.files, f ∈ b.files)
    (hnd : (b.files.map (·.1)).Nodup) : Shrunk c c' (fun _ => true) := by
  refine ⟨hg', by rw [filter_true']; exact hrows, hcfg, fun f hf => ?_⟩
  -- a file of `c'` is referenced by one of its rows, a row of `c`, whose file is in `c`
  obtain ⟨r, hr, hrf⟩ := hg'.noOrphan f hf
  rw [hrows] at hr
  obtain ⟨ct, hct, -⟩ := hg.finv.ref r hr f.1 hrf
  have e1 := fileGet_of_mem (s := b) hnd (hfsub _ (mem_of_fileGet hct))
  have e2 := fileGet_of_mem (s := b) hnd (show (f.1, f.2) ∈ b.files from hF f hf)
  rw [e1] at e2
  cases e2
  exact mem_of_fileGet hct

/-- **the state after `push`**, on the cache side alone.  The new item gets the number after the
last (before the first) item of the queue, which is the number of no item of that queue.  When
the INSERT goes through, every queue is what the lazy cull of the write leaves of it — queue `p`
with the new item at its end —, the views of the ordinary keys lose expired rows at most, and one
unit of the key budget is used; otherwise nothing changes. -/
theorem push_abs (c : Cache) (n : Nat) (now : Int) (E : Externals) (v : PyVal) (p : Option Str)
    (back : Bool) (ttl : Option Int) (read : Bool) (tag : SqlVal) (hok : QOkL c (n + 1)) :
    (∀ it ∈ absQueue c p, it.num ≠ nextNum c.cfg back (absQueue c p)) ∧
    match place E c.cfg.disk c.cfg.minFileSize v read with
    | .error _ => (c.push E now v p back ttl read tag).2 = .exc "UnicodeEncodeError" ∧
        Shrunk c (c.push E now v p back ttl read tag).1 (fun _ => true)
    | .ok pl =>
      let it : Item := ⟨nextNum c.cfg back (absQueue c p), entryOf pl (ttl.map (now + ·)) tag⟩
      let c' := (c.push E now v p back ttl read tag).1
      if bindable it.ent.tag && bindable it.ent.val && bindable (queueKey p it.num) then
        (c.push E now v p back ttl read tag).2 = .val (column (queueKey p it.num)) ∧
        QOkL c' n ∧ c'.cfg = c.cfg ∧
        (∀ p', Culled c.cfg.cullLimit now (absQueue c' p')
          (if p' = p then (if back then absQueue c p ++ [it] else it :: absQueue c p)
           else absQueue c p')) ∧
        (∀ p', ∀ r ∈ c'.queueRows p', r ∈ c.queueRows p' ∨ r.expT = ttl.map (now + ·)) ∧
        (∀ k d clock, clock ≤ now → isQueueKey k = false → HoldsKey c k d clock → HoldsKey c' k d now)
      else
        (c.push E now v p back ttl read tag).2 = .exc "UnicodeEncodeError" ∧
        Shrunk c c' (fun _ => true) := by
  have hg := hok.good
  have hg' := push_good c E now v p back ttl read tag hg
  obtain ⟨hnum, hlo, hhi⟩ := qr_pushNum hok p back
  generalize nextNum c.cfg back (absQueue c p) = num at hnum hlo hhi ⊢
  obtain ⟨num', hnum', -, -, hord⟩ := pushNum_spec c p back hg.tinv (hok.qok p) hok.origin
  rw [hnum] at hnum'
  cases hnum'
  have hsel := selKey_new_none c p num (by omega) (by omega) back hord
  refine ⟨qr_num_fresh (hok.qok p) hord, ?_⟩
  have hst := rf_store c E v read hg.pi
  cases hpl : place E c.cfg.disk c.cfg.minFileSize v read with
  | error e =>
    rw [hpl] at hst
    simp only at hst ⊢
    rw [push_eq, hst]
    exact ⟨rfl, Shrunk.refl hg⟩
  | ok pl =>
    rw [hpl] at hst
    obtain ⟨s1, c0, hst, hrows, hcfg, hP1, hfsub, -, -, hval, hent1⟩ := hst
    simp only
    rw [rf_entryOf_tag, rf_entryOf_val pl _ none _ .null, ← hval]
    obtain ⟨cols, hcols⟩ : ∃ cols : Cols, cols = { c0 with expT := ttl.map (now + ·), tag := tag } :=
      ⟨_, rfl⟩
    have hS : c.push E now v p back ttl read tag =
        s1.transact (fresh := c0.file) (pushBody now p back cols) := by
      rw [push_eq, hst, hcols]
    rw [hS] at hg' ⊢
    obtain ⟨hR, hF, hC, hO⟩ := rf_transact s1 (pushBody now p back cols) c0.file hP1.depth
    generalize s1.transact (fresh := c0.file) (pushBody now p back cols) = res at hR hF hC hO hg' ⊢
    -- the body runs in `s1` (value file written), whose table is that of `c`
    have hbody := qr_pushBody_abs now p back cols (s1.log .begin)
      (log_inv _ (store_inv hst hg.tinv).1) hrows hcfg hok.pol hnum hsel
    have hbe : (cols.bindable && bindable (queueKey p num)) =
        (bindable tag && bindable c0.val && bindable (queueKey p num)) := by rw [hcols]; rfl
    rw [hbe] at hbody
    obtain ⟨hfb, hcfgb⟩ := pushBody_keep now p back cols (s1.log .begin)
    rw [hfb] at hF
    have hC' : res.1.cfg = c.cfg := hC.trans (hcfgb.trans hcfg)
    by_cases hb : (bindable tag && bindable c0.val && bindable (queueKey p num)) = true
    · rw [if_pos hb] at hbody ⊢
      obtain ⟨g, hok', hout, hrowsb, hU, hNN, hgexp⟩ := hbody
      rw [hok', hrowsb] at hR
      simp only [if_true] at hR
      -- the new row reads in `s1` as the item pushed
      have hent : rf_ent s1 (mkRow c.rows (queueKey p num) now cols) =
          entryOf pl (ttl.map (now + ·)) tag := by
        rw [hent1 _ (by rw [hcols]; rfl) (by rw [hcols]; rfl) (by rw [hcols]; rfl), hcols]
        rfl
      obtain ⟨hokL, hQ, hE, hD⟩ := pushed_abs hok hg' hC' hR hU hNN hgexp hF hfsub hP1.nodup rfl rfl
        hent (qr_place_readable E _ _ v read pl hpl _ _) hlo hhi hord
      exact ⟨hO.trans hout, hokL, hC', hQ,
        fun p' r hr => (hE p' r hr).imp id (fun h => by rw [h, hcols]; rfl), hD⟩
    · rw [if_neg hb] at hbody ⊢
      rw [hbody.1] at hR
      simp only [Bool.false_eq_true, if_false] at hR
      -- nothing changed in the table; the value file (if one was written) is gone again
      exact ⟨hO.trans hbody.2, Shrunk.of_rows_eq hg hg' (hR.trans hrows) hC' hF hfsub hP1.nodup⟩

/-- **one `push`**.  `n` is the budget left after it.
`hq`: the lazy cull of this write must not be able to remove the item pushed — `cull_limit = 0`
or no expiry time. -/
theorem qr_push_step (c : Cache) (q : QSpec.State) (n : Nat) (clock now : Int) (E : Externals)
    (v : PyVal) (p : Option Str) (back : Bool) (ttl : Option Int) (read : Bool) (tag : SqlVal)
    (hok : QOk c (n + 1)) (hr : QRefines c q clock) (hn : clock ≤ now)
    (hq : c.cfg.cullLimit = 0 ∨ ttl = none) :
    (c.push E now v p back ttl read tag).2 = (QSpec.push q E c.cfg now v p back ttl read tag).2 ∧
    QRefines (c.push E now v p back ttl read tag).1 (QSpec.push q E c.cfg now v p back ttl read tag).1 now ∧
    QOk (c.push E now v p back ttl read tag).1 n ∧ (c.push E now v p back ttl read tag).1.cfg = c.cfg := by
  obtain ⟨-, h⟩ := push_abs c n now E v p back ttl read tag hok.toL
  generalize c.push E now v p back ttl read tag = res at h ⊢
  -- a `push` that fails changes nothing (a value file written for it is removed again)
  have hfail : Shrunk c res.1 (fun _ => true) →
      QRefines res.1 q now ∧ QOk res.1 n ∧ res.1.cfg = c.cfg := by
    intro h
    obtain ⟨hl, hk⟩ := qloose_shrunk_id hok.good hr.loose hn h (fun _ _ => rfl)
    exact ⟨(hk.refines hok hr hl rfl).1, (hok.le (Nat.le_succ n)).shrunk h, h.cfg⟩
  unfold QSpec.push
  rw [← hr.queues p]
  cases hpl : place E c.cfg.disk c.cfg.minFileSize v read with
  | error e =>
    rw [hpl] at h
    exact ⟨h.1, hfail h.2⟩
  | ok pl =>
    rw [hpl] at h
    simp only at h ⊢
    split
    · rename_i hb
      rw [if_pos hb] at h
      obtain ⟨hO, hokL, hC, hQ, hE, hD⟩ := h
      -- nothing is culled from the queues: `cull_limit = 0`, or no item has an expiry time
      have hq' : c.cfg.cullLimit = 0 ∨ (ttl = none ∧ ∀ p', ∀ r ∈ c.queueRows p', r.expT = none) :=
        hok.quiet.elim .inl (fun h0 => hq.imp id (fun ht => ⟨ht, h0⟩))
      have hquiet : c.cfg.cullLimit = 0 ∨ ∀ p', ∀ r ∈ res.1.queueRows p', r.expT = none :=
        hq'.imp id (fun h p' r hr' => (hE p' r hr').elim (h.2 p' r) (fun e => by rw [e, h.1]; rfl))
      refine ⟨hO, ⟨fun p' => ?_, hr.wf, hr.ord, fun k hk => hD k _ clock hn hk (hr.dict k hk)⟩,
        QOk.ofL hokL (by rw [hC]; exact hquiet), hC⟩
      show _ = (q.queues.put p _).get p'
      rw [get_put, ← hr.queues p', (hQ p').eq ?_]
      · by_cases hp : p' = p
        · subst hp; simp
        · rw [if_neg hp, if_neg (Ne.symm hp)]
      · refine hq'.imp id (fun h => ?_)
        have hold : ∀ p'', ∀ it ∈ absQueue c p'', it.ent.expT = none := by
          intro p'' it hit
          obtain ⟨r, hr', rfl⟩ := List.mem_map.1 hit
          exact h.2 p'' r hr'
        intro it hit
        by_cases hp : p' = p
        · subst hp
          rw [if_pos rfl] at hit
          rcases mem_pushed hit with h' | rfl
          · exact hold _ it h'
          · rw [h.1]; cases pl <;> rfl
        · rw [if_neg hp] at hit; exact hold _ it hit
    · rename_i hb
      rw [if_neg hb] at h
      exact ⟨h.1, hfail h.2⟩

/-- **one `push`, loosely**.  `num` is the number the cache gives the new item; it is the number
of no item physically present in that queue — in particular of no live item.
`httl`: the item is not pushed already expired (`expire ≥ 0`). -/
theorem ql_push_step (c : Cache) (q : QSpec.State) (n : Nat) (clock now : Int) (E : Externals)
    (v : PyVal) (p : Option Str) (back : Bool) (ttl : Option Int) (read : Bool) (tag : SqlVal)
    (hok : QOkL c (n + 1)) (hr : QLoose c q clock) (hn : clock ≤ now) (httl : TtlOk ttl) :
    ∃ num : Int,
      (c.push E now v p back ttl read tag).2 = (QSpec.pushAt q E c.cfg now v p back ttl read tag num).2 ∧
      QLoose (c.push E now v p back ttl read tag).1 (QSpec.pushAt q E c.cfg now v p back ttl read tag num).1 now ∧
      QOkL (c.push E now v p back ttl read tag).1 n ∧
      (c.push E now v p back ttl read tag).1.cfg = c.cfg ∧
      (∀ it ∈ absQueue c p, it.num ≠ num) := by
  obtain ⟨hfresh, h⟩ := push_abs c n now E v p back ttl read tag hok
  refine ⟨nextNum c.cfg back (absQueue c p), ?_⟩
  generalize c.push E now v p back ttl read tag = res at h ⊢
  -- a `push` that fails changes nothing (a value file written for it is removed again)
  have hfail : Shrunk c res.1 (fun _ => true) → QLoose res.1 q now ∧ QOkL res.1 n ∧
      res.1.cfg = c.cfg ∧ ∀ it ∈ absQueue c p, it.num ≠ nextNum c.cfg back (absQueue c p) :=
    fun h => ⟨(qloose_shrunk_id hok.good hr hn h (fun _ _ => rfl)).1,
      (hok.le (Nat.le_succ n)).shrunk h, h.cfg, hfresh⟩
  unfold QSpec.pushAt
  cases hpl : place E c.cfg.disk c.cfg.minFileSize v read with
  | error e =>
    rw [hpl] at h
    exact ⟨h.1, hfail h.2⟩
  | ok pl =>
    rw [hpl] at h
    simp only at h ⊢
    split
    · rename_i hb
      rw [if_pos hb] at h
      obtain ⟨hO, hokL, hC, hQ, -, hD⟩ := h
      refine ⟨hO, ⟨fun p' => ?_, hr.wf, hr.ord, fun k hk => hD k _ clock hn hk (hr.dict k hk)⟩,
        hokL, hC, hfresh⟩
      show Thinned now _ ((q.queues.put p _).get p')
      rw [get_put]
      refine (hQ p').1.trans ?_
      by_cases hp : p' = p
      · subst hp
        rw [if_pos rfl, if_pos rfl]
        refine ((hr.queues p').mono hn).add _ ?_ back
        -- the new item is not expired: its expiry time is `now + ttl` with `ttl ≥ 0`
        have : (entryOf pl (ttl.map (now + ·)) tag).expT = ttl.map (now + ·) := by cases pl <;> rfl
        unfold Spec.Entry.expired
        rw [this]
        cases ht : ttl with
        | none => rfl
        | some d => have := httl d ht; simp only [Option.map_some, decide_eq_false_iff_not]; omega
      · rw [if_neg hp, if_neg (Ne.symm hp)]
        exact (hr.queues p').mono hn
    · rename_i hb
      rw [if_neg hb] at h
      exact ⟨h.1, hfail h.2⟩
end DC.Cache
