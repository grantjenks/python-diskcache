/-
File invariants INSIDE a transaction block (depth > 0).  `PI` (Proofs/Files.lean) is stated for
quiescent states (its last four clauses: depth 0, no snapshot, nothing pending, nothing created);
`fcore` blanks those four fields, so that every `Core`-level lemma about `PI` applies inside a
block: `BI x` = "the files are consistent once the files of some list `cl` are removed, and every
file of `cl` is pending removal or was created in this block".
-/
import DC.Proofs.Block

namespace DC.Cache

def qz (c : Core) : Core := { c with depth := 0, snap := none, pending := [], created := [] }

def fcore (x : Cache) : Core := qz (core x)

theorem fcore_of_core {x y : Cache} (h : core y = core x) : fcore y = fcore x := by
  unfold fcore; rw [h]

theorem fcore_rows {x y : Cache} {R : List Row} (h : core y = { core x with rows := R }) :
    fcore y = { fcore x with rows := R } := by
  unfold fcore; rw [h]; rfl

@[simp] theorem fcore_files (s : Cache) : (fcore s).files = s.files := rfl
@[simp] theorem fcore_rows_eq (s : Cache) : (fcore s).rows = s.rows := rfl
@[simp] theorem fcore_nfile (s : Cache) : (fcore s).nfile = s.nfile := rfl

@[simp] theorem fcore_log (s : Cache) (a : Act) : fcore (s.log a) = fcore s := rfl
@[simp] theorem fcore_logSql (s : Cache) (a : String) : fcore (s.logSql a) = fcore s := rfl
@[simp] theorem fcore_volume (s : Cache) : fcore s.volume.1 = fcore s := fcore_of_core (core_volume s)
@[simp] theorem fcore_fetchRow (s : Cache) (E : Externals) (r : Row) (read : Bool) :
    fcore (s.fetchRow E r read).1 = fcore s := fcore_of_core (core_fetchRow s E r read)
@[simp] theorem fcore_setMisses (s : Cache) (m : Int) : fcore { s with misses := m } = fcore s := rfl
@[simp] theorem fcore_setHits (s : Cache) (m : Int) : fcore { s with hits := m } = fcore s := rfl
@[simp] theorem fcore_setPending (s : Cache) (p : List (Option Nat)) : fcore { s with pending := p } = fcore s := rfl
@[simp] theorem fcore_setCreated (s : Cache) (p : List Nat) : fcore { s with created := p } = fcore s := rfl

macro "fcore_simp" : tactic =>
  `(tactic| simp only [fcore_setMisses, fcore_setHits, fcore_logSql, fcore_log, fcore_fetchRow, fcore_volume,
      fcore_setPending, fcore_setCreated])

theorem fPI_insRow {s : Cache} {cl cl2 : List (Option Nat)} (h : PI (fcore s) cl)
    (k : SqlVal) (raw : Bool) (now : Int) (c : Cols)
    (hf : ∀ g, c.file = some g → some g ∈ cl ∧ ∃ ct, (g, ct) ∈ s.files ∧ ct.size = c.size)
    (hc : ∀ f, some f ∈ cl2 ↔ some f ∈ cl ∧ c.file ≠ some f) :
    PI (fcore (s.insRow k raw now c)) cl2 := by
  rw [fcore_rows (core_insRow s k raw now c)]
  exact h.ins _ (fun _ ha => newRow_rowid_ne k raw now c ha) hf hc

theorem fPI_updRow {s : Cache} {cl cl2 : List (Option Nat)} (h : PI (fcore s) cl)
    (old : Row) (hold : old ∈ s.rows) (now : Int) (c : Cols)
    (hf : ∀ g, c.file = some g → some g ∈ cl ∧ ∃ ct, (g, ct) ∈ s.files ∧ ct.size = c.size)
    (hc : ∀ f, some f ∈ cl2 ↔ (some f ∈ cl ∧ c.file ≠ some f) ∨ old.file = some f) :
    PI (fcore (s.updRow old.rowid now c)) cl2 := by
  rw [fcore_rows (core_updRow s old.rowid now c)]
  exact h.upd old hold now c hf hc

theorem fPI_updExp {s : Cache} {cl : List (Option Nat)} (h : PI (fcore s) cl) (id : Nat) (e : Option Int) :
    PI (fcore (s.updExp id e)) cl :=
  h.updWhere id (fun r => { r with expT := e }) fun _ => ⟨rfl, rfl, rfl⟩

theorem fPI_updGet {s : Cache} {cl : List (Option Nat)} (h : PI (fcore s) cl) (id : Nat) (now : Int) :
    PI (fcore (s.updGet id now)) cl :=
  h.updWhere id _ (touchPolicy_keep_fl s.cfg.policy now)

theorem fPI_updIncr {s : Cache} {cl : List (Option Nat)} (h : PI (fcore s) cl) (id : Nat) (now : Int)
    (v : SqlVal) : PI (fcore (s.updIncr id now v)) cl :=
  h.updWhere id (fun r => touchPolicy s.cfg.policy now { r with storeT := now, val := v })
    fun _ => touchPolicy_keep_fl _ _ _

theorem fPI_delIn {s : Cache} {cl : List (Option Nat)} (h : PI (fcore s) cl) (page : List Row)
    (hp : ∀ r ∈ page, r ∈ s.rows) :
    PI (fcore (s.delIn (page.map (·.rowid)))) (cl ++ page.map (·.file)) := by
  rw [fcore_rows (core_delIn _ s)]; exact h.delIn page hp

theorem fPI_delRow {s : Cache} {cl : List (Option Nat)} (h : PI (fcore s) cl) (r : Row)
    (hr : r ∈ s.rows) : PI (fcore (s.delRow r.rowid)) (cl ++ [r.file]) := by
  have := fPI_delIn h [r] (by intro x hx; simp at hx; subst hx; exact hr)
  exact this

theorem fcullW_PI (s : Cache) (now : Int) (pre : List (Option Nat)) (h : PI (fcore s) pre) :
    PI (fcore (s.cullW now).1) (pre ++ (s.cullW now).2) := by
  obtain ⟨page, hp, hc, h2⟩ := cullW_page s now
  rw [fcore_of_core hc, h2]
  exact fPI_delIn h page hp

theorem fstore_PI {s s1 : Cache} {E : Externals} {v : PyVal} {read : Bool} {c : Cols}
    {cl : List (Option Nat)} (hs : s.store E v read = .ok (s1, c)) (h : PI (fcore s) cl) :
    PI (fcore s1) (c.file :: cl) ∧
    (∀ g, c.file = some g → ∃ ct, (g, ct) ∈ s1.files ∧ ct.size = c.size) := by
  rcases store_ok hs with ⟨rfl, hf⟩ | ⟨ct, rfl, hf, hz⟩ <;> rw [hf]
  · exact ⟨h.cl_congr (by simp), nofun⟩
  · refine ⟨h.fwrite ct, fun g hg => ?_⟩
    cases hg
    exact ⟨ct, by simp [fwrite], hz.symm⟩

/-- `pend`: a file pending removal has a number already given out, so the next file written cannot
be one of them -/
structure Sub (cl : List (Option Nat)) (x : Cache) : Prop where
  inn : ∀ f, some f ∈ cl → some f ∈ x.pending ∨ f ∈ x.created
  pend : ∀ f, some f ∈ x.pending → some f ∈ cl ∧ f < x.nfile

def BI (x : Cache) : Prop := ∃ cl, PI (fcore x) cl ∧ Sub cl x

theorem Sub.of_eq {cl : List (Option Nat)} {a x : Cache} (h : Sub cl a) (hp : x.pending = a.pending)
    (hc : x.created = a.created) (hn : x.nfile = a.nfile := by rfl) : Sub cl x := by
  constructor
  · intro f hf; rw [hp, hc]; exact h.inn f hf
  · intro f hf; rw [hp] at hf; rw [hn]; exact h.pend f hf

theorem Sub.q4 {cl : List (Option Nat)} {a x : Cache} (h : Sub cl a) (hq : Q4 a x) : Sub cl x :=
  h.of_eq hq.pending hq.created hq.nfile

/-- the cleanup list after the file written for this call has been attached to its row -/
def dropFile (cl : List (Option Nat)) (f : Option Nat) : List (Option Nat) := cl.filter (· != f)

theorem mem_dropFile {cl : List (Option Nat)} {f g : Option Nat} : g ∈ dropFile cl f ↔ g ∈ cl ∧ g ≠ f := by
  simp [dropFile]

theorem Sub.dropGrow {cl : List (Option Nat)} {x y : Cache} (h : Sub cl x) (hp : y.pending = x.pending)
    (hc : ∀ f ∈ x.created, f ∈ y.created) (hn : x.nfile ≤ y.nfile) (o : Option Nat)
    (ho : ∀ g, o = some g → x.nfile ≤ g) : Sub (dropFile cl o) y := by
  constructor
  · intro f hf
    rcases h.inn f (mem_dropFile.1 hf).1 with h1 | h1
    · exact .inl (hp ▸ h1)
    · exact .inr (hc f h1)
  · intro f hf
    rw [hp] at hf
    obtain ⟨h1, h2⟩ := h.pend f hf
    refine ⟨mem_dropFile.2 ⟨h1, ?_⟩, Nat.lt_of_lt_of_le h2 hn⟩
    intro e
    have := ho f e.symm
    omega

theorem PI.ref_lt {c : Core} {cl : List (Option Nat)} (h : PI c cl) {r : Row} (hr : r ∈ c.rows) {f : Nat}
    (hf : r.file = some f) : f < c.nfile := by
  obtain ⟨-, ct, h1, -⟩ := h.ref r hr f hf
  exact h.fresh _ h1

theorem cullW_snd_mem (s : Cache) (now : Int) : ∀ o ∈ (s.cullW now).2, ∃ r ∈ s.rows, r.file = o := by
  obtain ⟨page, hp, -, h2⟩ := cullW_page s now
  rw [h2]
  intro o ho
  obtain ⟨r, hr, e⟩ := List.mem_map.1 ho
  exact ⟨r, hp r hr, e⟩

theorem fcullW_lt (s : Cache) (now : Int) {cl : List (Option Nat)} (h : PI (fcore s) cl) :
    ∀ f, some f ∈ (s.cullW now).2 → f < s.nfile := by
  intro f hf
  obtain ⟨r, hr, e⟩ := cullW_snd_mem s now _ hf
  exact h.ref_lt (c := fcore s) hr e

structure Grow (x y : Cache) : Prop where
  files : ∀ p ∈ y.files, p ∈ x.files ∨ p.1 ∈ y.created
  created : ∀ f ∈ x.created, f ∈ y.created

theorem Grow.refl (x : Cache) : Grow x x := ⟨fun _ hp => .inl hp, fun _ hf => hf⟩

theorem Grow.trans {x y z : Cache} (h1 : Grow x y) (h2 : Grow y z) : Grow x z := by
  refine ⟨?_, fun f hf => h2.created f (h1.created f hf)⟩
  intro p hp
  rcases h2.files p hp with h | h
  · rcases h1.files p h with h' | h'
    · exact .inl h'
    · exact .inr (h2.created _ h')
  · exact .inr h

theorem Grow.of_eq {x y : Cache} (hf : y.files = x.files) (hc : y.created = x.created) : Grow x y :=
  ⟨fun _ hp => .inl (hf ▸ hp), fun _ h => hc ▸ h⟩

theorem Grow.of_core {x y : Cache} (hc : DC.Cache.core y = DC.Cache.core x) : Grow x y := by
  have := (Q4.refl x).core' hc
  exact Grow.of_eq this.files this.created

theorem BI.of_core {x y : Cache} (h : BI x) (hc : DC.Cache.core y = DC.Cache.core x) : BI y := by
  obtain ⟨cl, h1, h2⟩ := h
  refine ⟨cl, by rw [fcore_of_core hc]; exact h1, h2.q4 ((Q4.refl x).core' hc)⟩

/-- what the body of a nested transaction has to leave, stated on the state it leaves: stating it
once for the `Body` keeps the case analysis of a long body from carrying every clause along -/
def BodyBI (b : Body) : Prop :=
  (b.ok = true ∧ ∃ cl, PI (fcore b.s) (b.cleanup ++ cl) ∧ Sub cl b.s ∧ ∀ f, some f ∈ b.cleanup → f < b.s.nfile) ∨
  (b.ok = false ∧ ∃ cl, PI (fcore b.s) cl ∧ Sub cl b.s)

theorem transact_BI_s (x : Cache) (hd : 0 < x.depth) (body : Cache → Body) (fresh : Option Nat)
    (hb : BodyBI (body (reg x fresh))) : BI (x.transact body fresh).1 := by
  rw [transact_inblock x hd]
  generalize body (reg x fresh) = b at hb ⊢
  rcases hb with ⟨hok, cl, h1, h2, h4⟩ | ⟨hok, cl, h1, h2⟩
  · rw [if_pos hok]
    refine ⟨b.cleanup ++ cl, h1, ?_, ?_⟩
    · intro f hf
      rcases List.mem_append.1 hf with hf | hf
      · exact .inl (List.mem_append_right _ hf)
      · rcases h2.inn f hf with h3 | h3
        · exact .inl (List.mem_append_left _ h3)
        · exact .inr h3
    · intro f hf
      rcases List.mem_append.1 hf with hf | hf
      · exact ⟨List.mem_append_right _ (h2.pend f hf).1, (h2.pend f hf).2⟩
      · exact ⟨List.mem_append_left _ hf, h4 f hf⟩
  · rw [if_neg (by simp [hok])]
    exact ⟨cl, h1, h2⟩

/-- `transact_BI_s` with the side conditions stated on the state the body starts in, for a body that leaves
files and bookkeeping alone -/
theorem transact_BI (x : Cache) (hd : 0 < x.depth) (body : Cache → Body) (fresh : Option Nat)
    (hq : Q4 (reg x fresh) (body (reg x fresh)).s)
    (hb : ((body (reg x fresh)).ok = true ∧
            ∃ cl, PI (fcore (body (reg x fresh)).s) ((body (reg x fresh)).cleanup ++ cl) ∧ Sub cl (reg x fresh) ∧
              ∀ f, some f ∈ (body (reg x fresh)).cleanup → f < (reg x fresh).nfile) ∨
          ((body (reg x fresh)).ok = false ∧
            ∃ cl, PI (fcore (body (reg x fresh)).s) cl ∧ Sub cl (reg x fresh))) :
    BI (x.transact body fresh).1 := by
  apply transact_BI_s x hd
  rcases hb with ⟨hok, cl, h1, h2, h4⟩ | ⟨hok, cl, h1, h2⟩
  · exact .inl ⟨hok, cl, h1, h2.q4 hq, fun f hf => hq.nfile ▸ h4 f hf⟩
  · exact .inr ⟨hok, cl, h1, h2.q4 hq⟩

theorem transact_inblock_fcore (x : Cache) (hd : 0 < x.depth) (body : Cache → Body) (fresh : Option Nat) :
    fcore (x.transact body fresh).1 = fcore (body (reg x fresh)).s := by
  rw [transact_inblock x hd]
  split <;> rfl

theorem reg_q4 (x : Cache) (fresh : Option Nat) :
    (reg x fresh).depth = x.depth ∧ (reg x fresh).snap = x.snap ∧ (reg x fresh).pending = x.pending := by
  cases fresh <;> exact ⟨rfl, rfl, rfl⟩

theorem transact_inblock_q4 (x : Cache) (hd : 0 < x.depth) (body : Cache → Body) (fresh : Option Nat)
    (hq : Q4 (reg x fresh) (body (reg x fresh)).s) :
    (x.transact body fresh).1.depth = x.depth ∧ (x.transact body fresh).1.snap = x.snap ∧
    (x.transact body fresh).1.created = (reg x fresh).created ∧
    (x.transact body fresh).1.pending =
      x.pending ++ (if (body (reg x fresh)).ok then (body (reg x fresh)).cleanup else []) ∧
    (x.transact body fresh).1.files = x.files ∧ (x.transact body fresh).1.nfile = x.nfile := by
  obtain ⟨r1, r2, r3⟩ := reg_q4 x fresh
  have r4 : (reg x fresh).files = x.files := by cases fresh <;> rfl
  have r5 : (reg x fresh).nfile = x.nfile := by cases fresh <;> rfl
  rw [transact_inblock x hd]
  split
  · exact ⟨hq.depth.trans r1, hq.snap.trans r2, hq.created, by show _ ++ _ = _; rw [hq.pending, r3],
      hq.files.trans r4, hq.nfile.trans r5⟩
  · exact ⟨hq.depth.trans r1, hq.snap.trans r2, hq.created, by rw [hq.pending, r3]; simp, hq.files.trans r4,
      hq.nfile.trans r5⟩

theorem transact_grow (x : Cache) (hd : 0 < x.depth) (body : Cache → Body) (fresh : Option Nat)
    (hq : Q4 (reg x fresh) (body (reg x fresh)).s) : Grow (reg x fresh) (x.transact body fresh).1 := by
  obtain ⟨-, -, h3, -, h5, -⟩ := transact_inblock_q4 x hd body fresh hq
  have r4 : (reg x fresh).files = x.files := by cases fresh <;> rfl
  exact Grow.of_eq (h5.trans r4.symm) h3

theorem regCreated_pos (s : Cache) (f : Nat) (hd : 0 < s.depth) :
    s.regCreated (some f) = { s with created := s.created ++ [f] } := by
  unfold regCreated; simp [hd]

@[simp] theorem fcore_regCreated (s : Cache) (f : Option Nat) : fcore (s.regCreated f) = fcore s := by
  rcases regCreated_cases s f with h | ⟨g, -, -, h⟩ <;> rw [h] <;> rfl

theorem Sub.grow {cl : List (Option Nat)} {a x : Cache} (h : Sub cl a) (hp : x.pending = a.pending)
    (hc : ∀ f ∈ a.created, f ∈ x.created) (hn : a.nfile ≤ x.nfile) : Sub cl x := by
  constructor
  · intro f hf
    rcases h.inn f hf with h1 | h1
    · exact .inl (hp ▸ h1)
    · exact .inr (hc f h1)
  · intro f hf
    rw [hp] at hf
    exact ⟨(h.pend f hf).1, Nat.lt_of_lt_of_le (h.pend f hf).2 hn⟩

theorem Sub.reg_none {cl : List (Option Nat)} {x : Cache} (h : Sub cl x) : Sub cl (reg x none) := h

theorem Sub.reg {cl : List (Option Nat)} {x : Cache} (h : Sub cl x) (fresh : Option Nat) :
    Sub (fresh :: cl) (reg x fresh) := by
  have hp : (DC.Cache.reg x fresh).pending = x.pending := by cases fresh <;> rfl
  have hn : (DC.Cache.reg x fresh).nfile = x.nfile := by cases fresh <;> rfl
  constructor
  · intro f hf
    cases fresh with
    | none =>
      simp only [List.mem_cons, reduceCtorEq, false_or] at hf
      exact h.inn f hf
    | some g =>
      simp only [List.mem_cons, Option.some.injEq] at hf
      rcases hf with rfl | hf
      · exact .inr (by simp [DC.Cache.reg])
      · rcases h.inn f hf with h1 | h1
        · exact .inl h1
        · exact .inr (by simp [DC.Cache.reg, h1])
  · intro f hf
    rw [hp] at hf
    rw [hn]
    exact ⟨List.mem_cons_of_mem _ (h.pend f hf).1, (h.pend f hf).2⟩

theorem fcore_reg (x : Cache) (fresh : Option Nat) : fcore (reg x fresh) = fcore x := by
  cases fresh <;> rfl

end DC.Cache
