/-
C11_Refine, helper lemmas for the calls that address an item by position or by value
(`deque[i] = v`, `del deque[i]`, `remove`): statistics flag, the queue as a sorted view of the
ordered abstraction `irf_abs` (DC/Proofs/IRefineLemmas.lean), list facts.
-/
import DC.Proofs.DRefineLemmas
import DC.Proofs.IRefineOps

namespace DC.Cache
open DC.Spec

@[simp] theorem drf_fremove_stats (s : Cache) (f : Nat) : (s.fremove f).statistics = s.statistics := rfl

theorem drf_fremoveAll_stats (s : Cache) (fs : List (Option Nat)) :
    (s.fremoveAll fs).statistics = s.statistics :=
  congrArg Core.statistics (core_fremoveAll fs s)

theorem drf_transact_zero_stats (s : Cache) (body : Cache → Body) (fresh : Option Nat) (hd : s.depth = 0) :
    (s.transact body fresh).1.statistics = (body (s.log .begin)).s.statistics := by
  rw [transact_outer s hd]
  split
  · rw [drf_fremoveAll_stats]; rfl
  · rw [drf_fremoveAll_stats]; rfl

theorem drf_cullW_stats (t : Cache) (now : Int) : (t.cullW now).1.statistics = t.statistics :=
  congrArg Core.statistics (cullW_core t now).1

theorem drf_setBody_stats (dbk : SqlVal) (raw : Bool) (now : Int) (c : Cols) (t : Cache) :
    (setBody dbk raw now c t).s.statistics = t.statistics := by
  unfold setBody
  split
  · rfl
  simp only
  split
  · rfl
  cases t.selKey dbk raw with
  | none => simp only; rw [drf_cullW_stats]; rfl
  | some r => simp only; rw [drf_cullW_stats]; rfl

theorem drf_set_stats (s : Cache) (E : Externals) (now : Int) (k v : PyVal) (tag : SqlVal) (hd : s.depth = 0) :
    (s.set E now k v none false tag).1.statistics = s.statistics := by
  rw [set_eq]
  cases hst : s.store E v false with
  | error e => rfl
  | ok p =>
    obtain ⟨s1, c⟩ := p
    simp only
    rw [drf_transact_zero_stats _ _ _ ((store_spec hst).2.2.trans hd), drf_setBody_stats]
    exact (store_keep hst).2.2.2.2

theorem drf_delRowQuiet_stats (s : Cache) (id : Nat) : (s.delRowQuiet id).statistics = s.statistics := by
  unfold delRowQuiet; split <;> rfl

theorem drf_delitem_stats (s : Cache) (E : Externals) (now : Int) (k : PyVal) (hd : s.depth = 0) :
    (s.delitem E now k).1.statistics = s.statistics := by
  unfold delitem
  simp only
  rw [drf_transact_zero_stats _ _ _ hd]
  split
  · rfl
  · show ((_ : Cache).delRowQuiet _).statistics = _
    rw [drf_delRowQuiet_stats]; rfl

theorem drf_insertBy_map {α β} (f : α → β) (lt : α → α → Bool) (lt' : β → β → Bool)
    (h : ∀ a b, lt' (f a) (f b) = lt a b) (x : α) (l : List α) :
    (insertBy lt x l).map f = insertBy lt' (f x) (l.map f) := by
  induction l with
  | nil => rfl
  | cons y ys ih =>
    simp only [insertBy, List.map_cons, h]
    split
    · simp only [List.map_cons, ih]
    · rfl

theorem drf_isort_map {α β} (f : α → β) (lt : α → α → Bool) (lt' : β → β → Bool)
    (h : ∀ a b, lt' (f a) (f b) = lt a b) (l : List α) :
    (isort lt l).map f = isort lt' (l.map f) := by
  induction l with
  | nil => rfl
  | cons x xs ih => simp only [isort, List.map_cons, drf_insertBy_map f lt lt' h, ih]

/-- the queue filter as a function of the key columns -/
def drf_qfKey (K : Key) : Bool :=
  ((queueRange none).1.lt K.1 && K.1.lt (queueRange none).2) && K.2 && sameLength none K.1

theorem drf_qfilter_key (r : Row) : qfilter none r = drf_qfKey (irf_key r) := rfl

/-- the queue view of an ordered dictionary: the bindings with queue keys, in key order -/
def drf_Q (a : ODict) : ODict := isort (fun x y => x.1.1.lt y.1.1) (a.filter (fun p => drf_qfKey p.1))

theorem drf_items_abs (c : Cache) :
    (c.queueRows none).map (fun r => (irf_key r, rf_ent c r)) = drf_Q (irf_abs c) := by
  rw [queueRows_eq]
  unfold qrows drf_Q irf_abs
  rw [drf_isort_map (fun r => (irf_key r, rf_ent c r)) klt (fun x y => x.1.1.lt y.1.1) (fun _ _ => rfl)]
  congr 1
  rw [List.filter_map]
  rfl

theorem drf_Q_map (g : Key × Entry → Key × Entry) (hg : ∀ p, (g p).1 = p.1) (a : ODict) :
    drf_Q (a.map g) = (drf_Q a).map g := by
  unfold drf_Q
  rw [drf_isort_map g (fun x y => x.1.1.lt y.1.1) (fun x y => x.1.1.lt y.1.1)
    (fun x y => by simp only [hg])]
  congr 1
  rw [List.filter_map]
  congr 1
  apply List.filter_congr
  intro x _
  simp only [Function.comp, hg]

theorem drf_map_replace (e : Entry) : ∀ (L : ODict) (i : Nat) (K : Key) (x : Entry),
    L.Pairwise (fun a b => sameKey a.1 b.1 = false) → (∀ p ∈ L, sameKey p.1 p.1 = true) →
    L[i]? = some (K, x) →
    (L.map (fun p => if sameKey p.1 K then (p.1, e) else p)).map (·.2) = (L.map (·.2)).set i e
  | [], _, _, _, _, _, h => by cases h
  | p :: t, 0, K, x, hp, hs, h => by
    simp only [List.getElem?_cons_zero, Option.some.injEq] at h
    subst h
    have hsk := hs (K, x) List.mem_cons_self
    simp only [List.map_cons, hsk, if_true, List.set_cons_zero, List.cons.injEq, true_and]
    have := (List.pairwise_cons.1 hp).1
    rw [List.map_map]
    apply List.map_congr_left
    intro q hq
    have h1 := this q hq
    simp only at h1
    rw [rf_sameKey_comm] at h1
    simp only [Function.comp, h1, Bool.false_eq_true, if_false]
  | p :: t, i + 1, K, x, hp, hs, h => by
    simp only [List.getElem?_cons_succ] at h
    have hmem : (K, x) ∈ t := List.mem_of_getElem? h
    have h1 := (List.pairwise_cons.1 hp).1 (K, x) hmem
    simp only at h1
    simp only [List.map_cons, h1, Bool.false_eq_true, if_false, List.set_cons_succ, List.cons.injEq, true_and]
    exact drf_map_replace e t i K x (List.pairwise_cons.1 hp).2 (fun q hq => hs q (List.mem_cons_of_mem _ hq)) h

theorem drf_filter_erase : ∀ (L : List Row) (i : Nat) (r : Row),
    L.Pairwise (fun a b => a.rowid ≠ b.rowid) → L[i]? = some r →
    L.filter (fun x => x.rowid != r.rowid) = L.eraseIdx i
  | [], _, _, _, h => by cases h
  | p :: t, 0, r, hp, h => by
    simp only [List.getElem?_cons_zero, Option.some.injEq] at h
    subst h
    simp only [List.filter_cons, bne_self_eq_false, Bool.false_eq_true, if_false, List.eraseIdx_cons_zero]
    rw [List.filter_eq_self]
    intro q hq
    have := (List.pairwise_cons.1 hp).1 q hq
    simp only [bne_iff_ne, ne_eq]
    exact fun h => this h.symm
  | p :: t, i + 1, r, hp, h => by
    simp only [List.getElem?_cons_succ] at h
    have hmem : r ∈ t := List.mem_of_getElem? h
    have h1 := (List.pairwise_cons.1 hp).1 r hmem
    have : (p.rowid != r.rowid) = true := by simpa using h1
    simp only [List.filter_cons, this, if_true, List.eraseIdx_cons_succ, List.cons.injEq, true_and]
    exact drf_filter_erase t i r (List.pairwise_cons.1 hp).2 h

theorem drf_map_eraseIdx {α β} (f : α → β) (l : List α) (p : Nat) :
    (l.eraseIdx p).map f = (l.map f).eraseIdx p := by
  rw [List.eraseIdx_eq_take_drop_succ, List.eraseIdx_eq_take_drop_succ, List.map_append, List.map_take,
    List.map_drop]

open DC.DSpec

theorem position_lt {len : Nat} {i : Int} {p : Nat} (h : position len i = some p) : p < len := by
  unfold position at h
  split at h
  · split at h
    · cases h; omega
    · cases h
  · split at h
    · cases h; omega
    · cases h

theorem index_position {α} (l : List α) (i : Int) :
    DSpec.index l i = (position l.length i).bind (fun p => l[p]?) := by
  unfold DSpec.index position
  by_cases h0 : 0 ≤ i
  · rw [if_pos h0, if_pos h0]
    by_cases h1 : i < (l.length : Int)
    · rw [if_pos h1]; rfl
    · rw [if_neg h1]
      simp only [Option.bind_none, List.getElem?_eq_none_iff]
      omega
  · rw [if_neg h0, if_neg h0]
    split <;> rfl

theorem position_none_index {α} (l : List α) (i : Int) (h : position l.length i = none) :
    DSpec.index l i = none := by rw [index_position, h]; rfl

theorem position_some_index {α} (l : List α) (i : Int) (p : Nat) (h : position l.length i = some p) :
    ∃ x, l[p]? = some x ∧ DSpec.index l i = some x := by
  have hp := position_lt h
  refine ⟨l[p], List.getElem?_eq_getElem hp, ?_⟩
  rw [index_position, h]
  exact List.getElem?_eq_getElem hp

theorem find_congr {α} {P Q : α → Bool} : ∀ (l : List α), (∀ a ∈ l, P a = Q a) → l.find? P = l.find? Q
  | [], _ => rfl
  | a :: t, h => by
    simp only [List.find?_cons, h a List.mem_cons_self]
    rw [find_congr t (fun b hb => h b (List.mem_cons_of_mem _ hb))]

theorem find_idx {α} (P : α → Bool) : ∀ (l : List α),
    (l.findIdx? P = none ∧ l.find? P = none) ∨
    ∃ p r, l.findIdx? P = some p ∧ l.find? P = some r ∧ l[p]? = some r
  | [] => .inl ⟨rfl, rfl⟩
  | a :: t => by
    simp only [List.findIdx?_cons, List.find?_cons]
    cases hP : P a with
    | true => exact .inr ⟨0, a, rfl, rfl, rfl⟩
    | false =>
      rcases find_idx P t with ⟨h1, h2⟩ | ⟨p, r, h1, h2, h3⟩
      · exact .inl ⟨by simp [h1], h2⟩
      · exact .inr ⟨p + 1, r, by simp [h1], h2, by simpa using h3⟩

theorem findIdx_map {α β} (f : α → β) (Q : β → Bool) : ∀ (l : List α),
    (l.map f).findIdx? Q = l.findIdx? (fun a => Q (f a))
  | [] => rfl
  | a :: t => by
    simp only [List.map_cons, List.findIdx?_cons, findIdx_map f Q t]

theorem rotr_mem {α} (l : List α) : ∀ x ∈ rotr l, x ∈ l := by
  intro x hx
  unfold rotr at hx
  cases hl : l.getLast? with
  | none => rw [hl] at hx; exact hx
  | some y =>
    rw [hl] at hx
    rcases List.mem_cons.1 hx with h | h
    · rw [h]; exact List.mem_of_getLast? hl
    · exact List.dropLast_subset l h

theorem rotl_mem {α} (l : List α) : ∀ x ∈ rotl l, x ∈ l := by
  intro x hx
  cases l with
  | nil => exact hx
  | cons a t =>
    simp only [rotl, List.mem_append, List.mem_singleton] at hx
    rcases hx with h | h
    · exact List.mem_cons_of_mem _ h
    · rw [h]; exact List.mem_cons_self

theorem iter_mem {α} (f : List α → List α) (hf : ∀ l, ∀ x ∈ f l, x ∈ l) : ∀ (k : Nat) (l : List α),
    ∀ x ∈ iter_ f k l, x ∈ l
  | 0, _, _, hx => hx
  | k + 1, l, x, hx => hf l x (iter_mem f hf k (f l) x hx)

end DC.Cache
