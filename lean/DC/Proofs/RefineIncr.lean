/-
C03_Refine, model side: `incr`.
-/
import DC.Proofs.RefineWrite

namespace DC.Cache
open DC.Spec

theorem rf_incr_eq (s : Cache) (E : Externals) (now : Int) (k : PyVal) (delta : Int) (dflt : Option Int) :
    s.incr E now k delta dflt =
      s.transact (incrBody E (keyOf E s.cfg k).1 (keyOf E s.cfg k).2 now delta dflt) :=
  incr_eq s E now k delta dflt

theorem rf_incrFresh_store_gen {E : Externals} {dbk : SqlVal} {raw : Bool} {now delta d : Int}
    {t' t1 : Cache} {c : Cols} {upd : Option Row}
    (hst : t'.store E (.int (d + delta)) false = .ok (t1, c)) (hupd : t1.selKey dbk raw = upd)
    (hi : TableInv t1) (hnn : dbk ≠ .null) :
    (incrFresh E dbk raw now delta (some d) t' upd).ok = true ∧
    (incrFresh E dbk raw now delta (some d) t' upd).out = .int (d + delta) ∧
    CullFacts t1.cfg t1.env now (setRows dbk raw now c t1)
      (incrFresh E dbk raw now delta (some d) t' upd).s ∧
    (incrFresh E dbk raw now delta (some d) t' upd).s.files = t1.files := by
  unfold incrFresh
  simp only [hst]
  unfold setRows
  rw [hupd]
  cases upd with
  | none =>
    simp only
    rcases regCreated_cases t1 c.file with e | ⟨g, -, -, e⟩ <;> rw [e]
    · obtain ⟨h1, h3, -⟩ := rf_cull_tail_gen (t1.insRow dbk raw now c) now (insRow_inv dbk raw now c hi hupd hnn)
      exact ⟨trivial, trivial, h1, h3⟩
    · obtain ⟨h1, h3, -⟩ := rf_cull_tail_gen (({ t1 with created := t1.created ++ [g] } : Cache).insRow dbk raw now c) now
        (insRow_inv dbk raw now c (hi.same rfl rfl rfl rfl) hupd hnn)
      exact ⟨trivial, trivial, h1, h3⟩
  | some r0 =>
    simp only
    rcases regCreated_cases t1 c.file with e | ⟨g, -, -, e⟩ <;> rw [e]
    · obtain ⟨h1, h3, -⟩ := rf_cull_tail_gen (t1.updRow r0.rowid now c) now (updRow_inv r0.rowid now c hi)
      exact ⟨trivial, trivial, h1, h3⟩
    · obtain ⟨h1, h3, -⟩ := rf_cull_tail_gen (({ t1 with created := t1.created ++ [g] } : Cache).updRow r0.rowid now c) now
        (updRow_inv r0.rowid now c (hi.same rfl rfl rfl rfl))
      exact ⟨trivial, trivial, h1, h3⟩

/-- what the (re)creation branch of `incr` does to the view, under any eviction policy -/
def rf_IncrFreshG (s c' : Cache) (o : Out) (E : Externals) (K : Key) (now delta : Int)
    (dflt : Option Int) : Prop :=
  match dflt with
  | none => o = .exc "KeyError" ∧ ∀ k', rf_view c' k' = rf_view s k'
  | some d =>
    match place E s.cfg.disk s.cfg.minFileSize (.int (d + delta)) false with
    | .error _ => o = .exc "UnicodeEncodeError" ∧ ∀ k', rf_view c' k' = rf_view s k'
    | .ok p => o = .int (d + delta) ∧ rf_Wrote s c' K now (entryOf p none .null)

theorem rf_incr_fail (s : Cache) (E : Externals) (now : Int) (k : PyVal) (delta : Int)
    (dflt : Option Int) (hg : Good s) (o : Out) (t2 : Cache) (hfl : t2.files = s.files)
    (hb : incrBody E (keyOf E s.cfg k).1 (keyOf E s.cfg k).2 now delta dflt (s.log .begin) =
      { s := t2, out := o, ok := false }) :
    (s.incr E now k delta dflt).2 = o ∧
    ∀ k', rf_view (s.incr E now k delta dflt).1 k' = rf_view s k' := by
  have hg' := incr_good s E now k delta dflt hg
  rw [rf_incr_eq] at hg' ⊢
  obtain ⟨hR, hF, -, hO⟩ := rf_transact s
    (incrBody E (keyOf E s.cfg k).1 (keyOf E s.cfg k).2 now delta dflt) none hg.depth
  rw [hb] at hR hF hO
  simp only [Bool.false_eq_true, if_false] at hR
  refine ⟨hO, fun k' => ?_⟩
  rw [rf_same hg' (b := s) (by intro q hq; have := hF q hq; rw [hfl] at this; exact this)
    hg.finv.nodup, hR]; rfl

theorem rf_incr_fresh_view (s : Cache) (E : Externals) (now : Int) (k : PyVal) (delta : Int)
    (dflt : Option Int) (hg : Good s) (upd : Option Row)
    (hupd : s.selKey (keyOf E s.cfg k).1 (keyOf E s.cfg k).2 = upd)
    (hB : incrBody E (keyOf E s.cfg k).1 (keyOf E s.cfg k).2 now delta dflt (s.log .begin) =
      incrFresh E (keyOf E s.cfg k).1 (keyOf E s.cfg k).2 now delta dflt
        ((s.log .begin).logSql "selKey") upd) :
    rf_IncrFreshG s (s.incr E now k delta dflt).1 (s.incr E now k delta dflt).2 E (keyOf E s.cfg k)
      now delta dflt := by
  have hnn : (keyOf E s.cfg k).1 ≠ .null := put_ne_null' E s.cfg.disk k
  unfold rf_IncrFreshG
  cases dflt with
  | none => exact rf_incr_fail s E now k delta none hg _ ((s.log .begin).logSql "selKey") rfl hB
  | some d =>
    simp only
    have hP' : PI (core ((s.log .begin).logSql "selKey")) [] := by core_simp; exact hg.pi
    have hst := rf_store ((s.log .begin).logSql "selKey") E (.int (d + delta)) false hP'
    rw [logSql_cfg, log_cfg] at hst
    cases hpl : place E s.cfg.disk s.cfg.minFileSize (.int (d + delta)) false with
    | error e =>
      rw [hpl] at hst
      simp only at hst ⊢
      apply rf_incr_fail s E now k delta (some d) hg _ ((s.log .begin).logSql "selKey") rfl
      rw [hB]
      unfold incrFresh; simp only [hst]
    | ok p =>
      rw [hpl] at hst
      obtain ⟨t1, c, hst, hrows, hcfg, hP1, hfsub, hexp, htag, -, hent1⟩ := hst
      simp only
      have hg' := incr_good s E now k delta (some d) hg
      rw [rf_incr_eq] at hg' ⊢
      obtain ⟨hR, hF, -, hO⟩ := rf_transact s
        (incrBody E (keyOf E s.cfg k).1 (keyOf E s.cfg k).2 now delta (some d)) none hg.depth
      rw [hB] at hR hF hO
      have hrows' : t1.rows = s.rows := hrows
      have hi1 : TableInv t1 := (store_inv hst (logSql_inv _ (log_inv _ hg.tinv))).1
      have hsel1 : t1.selKey (keyOf E s.cfg k).1 (keyOf E s.cfg k).2 = upd :=
        (selKey_rows hrows' _ _).trans hupd
      obtain ⟨hu, -⟩ := rf_setRows_unique hi1 (keyOf E s.cfg k).1 (keyOf E s.cfg k).2 now c hnn
      obtain ⟨hok, hout, hfacts, hfiles⟩ := rf_incrFresh_store_gen (now := now) hst hsel1 hi1 hnn
      have hsz := rf_transact_size s
        (incrBody E (keyOf E s.cfg k).1 (keyOf E s.cfg k).2 now delta (some d)) none hg.depth
        (by rw [hB]; exact hok)
      rw [hB] at hsz
      rw [hok] at hR
      simp only [if_true] at hR
      refine ⟨hO.trans hout, ?_⟩
      have hentS : ∀ r ∈ s.rows, rf_ent t1 r = rf_ent s r :=
        fun r hr => (rf_ent_mono (a := s) (b := t1) hfsub hP1.nodup (rf_good_ref hg hr)).symm
      have hfacts' := hfacts
      rw [show t1.cfg = s.cfg from hcfg, show t1.env = s.env from (store_env hst : t1.env = ((s.log .begin).logSql "selKey").env)] at hfacts'
      exact rf_lossy_finish (b := t1) hg hg' hfacts' hR hsz hu
        (rf_setRows_nonnull hi1 _ _ _ _ hnn)
        (by intro q hq; have := hF q hq; rw [hfiles] at this; exact this) hP1.nodup
        (rf_look_setRows (s := s) (s1 := t1) (t := t1) hg.tinv hrows' hentS
          (keyOf E s.cfg k) now c (entryOf p none .null)
          (by
            intro r h1 h2 h3 h4 h5
            rw [hent1 r h1 h2 h3, h4, h5, hexp, htag]))
        (by
          have := rf_setRows_keep hi1 (keyOf E s.cfg k) now c
          rw [hrows'] at this
          exact this)
        (by
          have h := rf_setRows_size_le hi1 (keyOf E s.cfg k).1 (keyOf E s.cfg k).2 now c hnn
          rw [show t1.size = s.size from (store_keep hst).2.2.2.1] at h
          rw [← rf_store_size hst hpl none .null]
          exact h)

/-- what `incr` does to the view, by cases on what the state holds for the key; `F` is what holds
in the (re)creation branch -/
def rf_IncrView (s c' : Cache) (o : Out) (K : Key) (now delta : Int) (F : Prop) : Prop :=
  match rf_view s K with
  | none => F
  | some e =>
    if e.expired now then F
    else
      match e.val with
      | .int i =>
        if inI64 (i + delta) then
          o = .int (i + delta) ∧
          ∀ k', rf_view c' k' = rf_at K (some { e with val := .int (i + delta) }) (rf_view s) k'
        else o = .exc "OverflowError" ∧ ∀ k', rf_view c' k' = rf_view s k'
      | _ => o = .exc "TypeError" ∧ ∀ k', rf_view c' k' = rf_view s k'

theorem rf_incr_view_gen (s : Cache) (E : Externals) (now : Int) (k : PyVal) (delta : Int)
    (dflt : Option Int) (hg : Good s) :
    rf_IncrView s (s.incr E now k delta dflt).1 (s.incr E now k delta dflt).2 (keyOf E s.cfg k) now delta
      (rf_IncrFreshG s (s.incr E now k delta dflt).1 (s.incr E now k delta dflt).2 E
        (keyOf E s.cfg k) now delta dflt) := by
  unfold rf_IncrView
  rcases rf_selKey_cases hg.tinv (keyOf E s.cfg k) with ⟨r, hsel, hr, hk, hv⟩ | ⟨hsel, hv⟩
  · have hsel' : (s.log .begin).selKey (keyOf E s.cfg k).1 (keyOf E s.cfg k).2 = some r := hsel
    rw [hv]
    simp only
    by_cases hx : (rf_ent s r).expired now = true
    · rw [if_pos hx]
      rw [rf_ent_expired] at hx
      apply rf_incr_fresh_view s E now k delta dflt hg (some r) hsel
      unfold incrBody
      simp only [hsel', hx, if_true]
    · rw [if_neg hx]
      rw [rf_ent_expired] at hx
      have hx : expired now r = false := by simpa using hx
      rw [show (rf_ent s r).val = r.val from rfl]
      cases hval : r.val with
      | int i =>
        simp only
        cases hin : inI64 (i + delta) with
        | true =>
          simp only [if_true]
          have hg' := incr_good s E now k delta dflt hg
          rw [rf_incr_eq] at hg' ⊢
          obtain ⟨hR, hF, -, hO⟩ := rf_transact s
            (incrBody E (keyOf E s.cfg k).1 (keyOf E s.cfg k).2 now delta dflt) none hg.depth
          have hb : incrBody E (keyOf E s.cfg k).1 (keyOf E s.cfg k).2 now delta dflt (s.log .begin) =
              { s := ((s.log .begin).logSql "selKey").updIncr r.rowid now (.int (i + delta)),
                out := .int (i + delta) } := by
            unfold incrBody
            simp only [hsel', hx, Bool.false_eq_true, if_false, hval, hin, if_true]
          rw [hb] at hR hF hO
          simp only [if_true] at hR
          refine ⟨hO, fun k' => ?_⟩
          rw [rf_same hg' (b := s) hF hg.finv.nodup, hR]
          show rf_look (s.rows.map (fun (x : Row) => if x.rowid == r.rowid then
              touchPolicy s.cfg.policy now { x with storeT := now, val := .int (i + delta) } else x)) s k' = _
          rw [rf_look_upd hg.tinv s hr hk
            (fun x => touchPolicy s.cfg.policy now { x with storeT := now, val := .int (i + delta) })
            (fun x => by simp)]
          cases s.cfg.policy <;> rfl
        | false =>
          simp only [Bool.false_eq_true, if_false]
          apply rf_incr_fail s E now k delta dflt hg _
            (((s.log .begin).logSql "selKey").log (.sqlFail "updIncr")) rfl
          unfold incrBody
          simp only [hsel', hx, Bool.false_eq_true, if_false, hval, hin]
      | _ =>
        simp only
        apply rf_incr_fail s E now k delta dflt hg _ ((s.log .begin).logSql "selKey") rfl
        unfold incrBody
        simp only [hsel', hx, Bool.false_eq_true, if_false, hval]
  · have hsel' : (s.log .begin).selKey (keyOf E s.cfg k).1 (keyOf E s.cfg k).2 = none := hsel
    rw [hv]
    simp only
    apply rf_incr_fresh_view s E now k delta dflt hg none hsel
    unfold incrBody
    simp only [hsel']

end DC.Cache
