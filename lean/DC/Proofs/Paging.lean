/- The paging loops (clear / evict / expire / iter / iterkeys): one page of `_select_delete`, the
cursor-paged removal loop with the row predicate abstracted (`pageLoop_spec`), and reading an ordered
table in cursor pages (`pagedRead_eq`, `iterLoop_all`).  The first part of the file is of general use:
the `@[simp]` projections of `log`, `logSql`, `fremove`, `fremoveAll` and `delRowQuiet`, and what `transact`
is inside and outside a block (`transact_inblock`, `transact_outer`). -/
import DC.Proofs.Defs

namespace DC.Cache

theorem filter_append_cut {α} (q : α → Bool) (T D : List α)
    (hT : ∀ t ∈ T, q t = false) (hD : ∀ d ∈ D, q d = true) :
    (T ++ D).filter q = D := by
  rw [List.filter_append]
  have h1 : T.filter q = [] := by
    rw [List.filter_eq_nil_iff]; intro a ha; simp [hT a ha]
  have h2 : D.filter q = D := by
    rw [List.filter_eq_self]; exact hD
  rw [h1, h2]; rfl

theorem filter_true' {α} (l : List α) : l.filter (fun _ => true) = l :=
  List.filter_eq_self.2 fun _ _ => rfl

theorem take_nil_of_pos {α} (l : List α) (p : Nat) (hp : 0 < p) (h : l.take p = []) : l = [] := by
  cases l with
  | nil => rfl
  | cons a t =>
    cases p with
    | zero => omega
    | succ k => simp at h

theorem rowidsAsc_eq_of_rowid {rows : List Row} (h : RowidsAsc rows) {a b : Row}
    (ha : a ∈ rows) (hb : b ∈ rows) (hab : a.rowid = b.rowid) : a = b := by
  induction rows with
  | nil => cases ha
  | cons x xs ih =>
    have hx := List.pairwise_cons.mp h
    rcases List.mem_cons.mp ha with rfl | ha' <;> rcases List.mem_cons.mp hb with rfl | hb'
    · rfl
    · have := hx.1 b hb'; omega
    · have := hx.1 a ha'; omega
    · exact ih hx.2 ha' hb'

theorem RowidsAsc.inj {rows : List Row} (h : RowidsAsc rows) :
    ∀ a ∈ rows, ∀ b ∈ rows, a.rowid = b.rowid → a = b :=
  fun _ ha _ hb hab => rowidsAsc_eq_of_rowid h ha hb hab

theorem RowidsAsc.nodup {rows : List Row} (h : RowidsAsc rows) : rows.Nodup :=
  List.Pairwise.imp (R := fun a b : Row => a.rowid < b.rowid) (fun {a b} hab => by
    intro e; subst e; exact Nat.lt_irrefl _ hab) h

theorem RowidsAsc.filter {rows : List Row} (h : RowidsAsc rows) (p : Row → Bool) :
    RowidsAsc (rows.filter p) :=
  List.Pairwise.filter p h

theorem sumSizes_nil : sumSizes [] = 0 := rfl
theorem sumSizes_cons (r : Row) (l : List Row) : sumSizes (r :: l) = r.size + sumSizes l := by
  simp [sumSizes]
theorem sumSizes_append (a b : List Row) : sumSizes (a ++ b) = sumSizes a + sumSizes b := by
  simp [sumSizes]

@[simp] theorem log_rows (s : Cache) (a : Act) : (s.log a).rows = s.rows := rfl
@[simp] theorem log_count (s : Cache) (a : Act) : (s.log a).count = s.count := rfl
@[simp] theorem log_size (s : Cache) (a : Act) : (s.log a).size = s.size := rfl
@[simp] theorem log_cfg (s : Cache) (a : Act) : (s.log a).cfg = s.cfg := rfl
@[simp] theorem log_files (s : Cache) (a : Act) : (s.log a).files = s.files := rfl
@[simp] theorem log_depth (s : Cache) (a : Act) : (s.log a).depth = s.depth := rfl
@[simp] theorem logSql_rows (s : Cache) (a : String) : (s.logSql a).rows = s.rows := rfl
@[simp] theorem logSql_count (s : Cache) (a : String) : (s.logSql a).count = s.count := rfl
@[simp] theorem logSql_size (s : Cache) (a : String) : (s.logSql a).size = s.size := rfl
@[simp] theorem logSql_cfg (s : Cache) (a : String) : (s.logSql a).cfg = s.cfg := rfl
@[simp] theorem logSql_files (s : Cache) (a : String) : (s.logSql a).files = s.files := rfl
@[simp] theorem logSql_depth (s : Cache) (a : String) : (s.logSql a).depth = s.depth := rfl
@[simp] theorem log_fileGet (s : Cache) (a : Act) (f : Nat) : (s.log a).fileGet f = s.fileGet f := rfl
@[simp] theorem logSql_fileGet (s : Cache) (a : String) (f : Nat) :
    (s.logSql a).fileGet f = s.fileGet f := rfl

theorem fileGet_none_iff (s : Cache) (f : Nat) : s.fileGet f = none ↔ ∀ p ∈ s.files, p.1 ≠ f := by
  simp [fileGet, List.find?_eq_none]

@[simp] theorem fremove_rows (s : Cache) (f : Nat) : (s.fremove f).rows = s.rows := rfl
@[simp] theorem fremove_count (s : Cache) (f : Nat) : (s.fremove f).count = s.count := rfl
@[simp] theorem fremove_size (s : Cache) (f : Nat) : (s.fremove f).size = s.size := rfl
@[simp] theorem fremove_cfg (s : Cache) (f : Nat) : (s.fremove f).cfg = s.cfg := rfl
@[simp] theorem fremove_depth (s : Cache) (f : Nat) : (s.fremove f).depth = s.depth := rfl
@[simp] theorem fremove_files (s : Cache) (f : Nat) :
    (s.fremove f).files = s.files.filter (·.1 != f) := rfl

theorem fremove_fileGet_self (s : Cache) (f : Nat) : (s.fremove f).fileGet f = none := by
  rw [fileGet_none_iff]; intro p hp
  simp at hp; exact hp.2

theorem fremove_fileGet_mono (s : Cache) (f g : Nat) (h : s.fileGet g = none) :
    (s.fremove f).fileGet g = none := by
  rw [fileGet_none_iff] at *; intro p hp
  simp at hp; exact h p hp.1

theorem fremoveAll_keep (fs : List (Option Nat)) : ∀ s : Cache,
    (s.fremoveAll fs).rows = s.rows ∧ (s.fremoveAll fs).count = s.count ∧
    (s.fremoveAll fs).size = s.size ∧ (s.fremoveAll fs).cfg = s.cfg ∧
    (s.fremoveAll fs).depth = s.depth := by
  induction fs with
  | nil => intro s; simp [fremoveAll]
  | cons a t ih =>
    intro s
    cases a with
    | none => simpa [fremoveAll] using ih s
    | some f => simpa [fremoveAll] using ih (s.fremove f)

theorem fremoveAll_fileGet_mono (fs : List (Option Nat)) (g : Nat) : ∀ s : Cache,
    s.fileGet g = none → (s.fremoveAll fs).fileGet g = none := by
  induction fs with
  | nil => intro s h; simpa [fremoveAll] using h
  | cons a t ih =>
    intro s h
    cases a with
    | none => simpa [fremoveAll] using ih s h
    | some f => simpa [fremoveAll] using ih (s.fremove f) (fremove_fileGet_mono s f g h)

theorem fremoveAll_fileGet_mem (fs : List (Option Nat)) (g : Nat) : ∀ s : Cache,
    some g ∈ fs → (s.fremoveAll fs).fileGet g = none := by
  induction fs with
  | nil => intro s h; cases h
  | cons a t ih =>
    intro s h
    rcases List.mem_cons.mp h with rfl | h'
    · simpa [fremoveAll] using fremoveAll_fileGet_mono t g (s.fremove g) (fremove_fileGet_self s g)
    · cases a with
      | none => simpa [fremoveAll] using ih s h'
      | some f => simpa [fremoveAll] using ih (s.fremove f) h'

/-! ### DELETE … WHERE rowid IN (…) -/

theorem delRowQuiet_rows (s : Cache) (id : Nat) :
    (s.delRowQuiet id).rows = s.rows.filter (·.rowid != id) := by
  unfold delRowQuiet
  split
  · rfl
  · rename_i h
    symm; rw [List.filter_eq_self]
    intro a ha
    have := List.find?_eq_none.mp h a ha
    simpa using this

theorem delRow_rows (s : Cache) (id : Nat) : (s.delRow id).rows = s.rows.filter (·.rowid != id) :=
  delRowQuiet_rows s id

@[simp] theorem delRowQuiet_cfg (s : Cache) (id : Nat) : (s.delRowQuiet id).cfg = s.cfg := by
  unfold delRowQuiet; split <;> rfl
@[simp] theorem delRowQuiet_files (s : Cache) (id : Nat) : (s.delRowQuiet id).files = s.files := by
  unfold delRowQuiet; split <;> rfl
@[simp] theorem delRowQuiet_depth (s : Cache) (id : Nat) : (s.delRowQuiet id).depth = s.depth := by
  unfold delRowQuiet; split <;> rfl

theorem delRowQuiet_counters (s : Cache) (hasc : RowidsAsc s.rows) (r : Row) (hr : r ∈ s.rows) :
    (s.delRowQuiet r.rowid).count = s.count - 1 ∧ (s.delRowQuiet r.rowid).size = s.size - r.size := by
  unfold delRowQuiet
  split
  · rename_i r' h
    have hm := List.mem_of_find?_eq_some h
    have hp := List.find?_some h
    have : r' = r := rowidsAsc_eq_of_rowid hasc hm hr (by simpa using hp)
    subst this
    exact ⟨rfl, rfl⟩
  · rename_i h
    have := List.find?_eq_none.mp h r hr
    simp at this

theorem delIn_keep (ids : List Nat) : ∀ s : Cache,
    (s.delIn ids).cfg = s.cfg ∧ (s.delIn ids).files = s.files ∧ (s.delIn ids).depth = s.depth := by
  induction ids with
  | nil => intro s; simp [delIn]
  | cons a t ih =>
    intro s
    have := ih (s.delRowQuiet a)
    simpa [delIn] using this

theorem delIn_rows (ids : List Nat) : ∀ s : Cache,
    (s.delIn ids).rows = s.rows.filter (fun r => !ids.contains r.rowid) := by
  induction ids with
  | nil =>
    intro s
    exact (filter_true' s.rows).symm
  | cons a t ih =>
    intro s
    show ((s.delRowQuiet a).delIn t).rows = _
    rw [ih, delRowQuiet_rows, List.filter_filter]
    apply List.filter_congr
    intro r _
    by_cases h : r.rowid = a <;> simp [h]

theorem filter_rowids_eq {rows P : List Row} (hasc : RowidsAsc rows) (hsub : ∀ x ∈ P, x ∈ rows) :
    rows.filter (fun r => !(P.map (·.rowid)).contains r.rowid) =
    rows.filter (fun r => decide (r ∉ P)) := by
  apply List.filter_congr
  intro r hr
  have : r.rowid ∈ P.map (·.rowid) ↔ r ∈ P := by
    constructor
    · intro h
      obtain ⟨a, ha, hra⟩ := List.mem_map.1 h
      have := hasc.inj a (hsub a ha) r hr hra
      exact this ▸ ha
    · intro h; exact List.mem_map.2 ⟨r, h, rfl⟩
  by_cases hP : r ∈ P <;> simp [hP, this]

theorem delIn_counters (page : List Row) : ∀ s : Cache, RowidsAsc s.rows → RowidsAsc page →
    (∀ r ∈ page, r ∈ s.rows) →
    (s.delIn (page.map (·.rowid))).count = s.count - page.length ∧
    (s.delIn (page.map (·.rowid))).size = s.size - sumSizes page := by
  induction page with
  | nil => intro s _ _ _; simp [delIn, sumSizes]
  | cons a t ih =>
    intro s hasc hp hsub
    have hpc := List.pairwise_cons.mp hp
    have ha : a ∈ s.rows := hsub a (by simp)
    have hc := delRowQuiet_counters s hasc a ha
    have hasc' : RowidsAsc (s.delRowQuiet a.rowid).rows := by
      rw [delRowQuiet_rows]; exact hasc.filter _
    have hsub' : ∀ r ∈ t, r ∈ (s.delRowQuiet a.rowid).rows := by
      intro r hr
      rw [delRowQuiet_rows, List.mem_filter]
      refine ⟨hsub r (by simp [hr]), ?_⟩
      have := hpc.1 r hr
      simp; omega
    have := ih (s.delRowQuiet a.rowid) hasc' hpc.2 hsub'
    simp only [delIn, List.map_cons, List.foldl_cons] at this ⊢
    rw [this.1, this.2, hc.1, hc.2, sumSizes_cons]
    simp only [List.length_cons]
    constructor <;> omega

/-! ### one page of `_select_delete` -/

theorem delRowQuiet_log (s : Cache) (a : Act) (id : Nat) :
    (s.log a).delRowQuiet id = (s.delRowQuiet id).log a := by
  unfold delRowQuiet
  simp only [log_rows]
  split <;> rfl

theorem delIn_nil (s : Cache) : s.delIn [] = s := rfl

theorem delIn_cons (s : Cache) (i : Nat) (ids : List Nat) :
    s.delIn (i :: ids) = (s.delRowQuiet i).delIn ids := rfl

theorem delIn_log (s : Cache) (a : Act) (ids : List Nat) :
    (s.log a).delIn ids = (s.delIn ids).log a := by
  induction ids generalizing s with
  | nil => rfl
  | cons i ids ih => rw [delIn_cons, delRowQuiet_log, ih, ← delIn_cons]

theorem delIn_logSql (s : Cache) (a : String) (ids : List Nat) :
    (s.logSql a).delIn ids = (s.delIn ids).logSql a := delIn_log s _ ids

/-- the transaction body of `deletePage` -/
def pageBody (page : List Row) (sel : String) (s : Cache) : Body :=
  let s := s.logSql sel
  if page.isEmpty then { s := s, out := .none }
  else { s := (s.delIn (page.map (·.rowid))).logSql "delList", out := .none,
         cleanup := page.map (·.file) }

theorem deletePage_eq (s : Cache) (page : List Row) (sel : String) :
    s.deletePage page sel = (s.transact (pageBody page sel)).1 := rfl

theorem pageBody_ok (page : List Row) (sel : String) (s : Cache) :
    (pageBody page sel s).ok = true := by
  unfold pageBody; split <;> rfl

theorem pageBody_cleanup (page : List Row) (sel : String) (s : Cache) :
    (pageBody page sel s).cleanup = page.map (·.file) := by
  unfold pageBody
  cases page <;> rfl

theorem pageBody_keep (page : List Row) (sel : String) (s : Cache) :
    (pageBody page sel s).s.rows = (s.delIn (page.map (·.rowid))).rows ∧
    (pageBody page sel s).s.count = (s.delIn (page.map (·.rowid))).count ∧
    (pageBody page sel s).s.size = (s.delIn (page.map (·.rowid))).size ∧
    (pageBody page sel s).s.cfg = s.cfg ∧
    (pageBody page sel s).s.depth = s.depth ∧
    (pageBody page sel s).s.files = s.files := by
  unfold pageBody
  cases page with
  | nil => simp [delIn]
  | cons a t =>
    have hk := delIn_keep ((a :: t).map (·.rowid)) s
    simp only [List.isEmpty_cons, Bool.false_eq_true, if_false, delIn_logSql, logSql_rows,
      logSql_count, logSql_size, logSql_cfg, logSql_depth, logSql_files, true_and]
    exact ⟨hk.1, hk.2.2, hk.2.1⟩

/-- the state in which the body of a nested transaction runs: the file written for it is
registered -/
def reg (x : Cache) (fresh : Option Nat) : Cache :=
  match fresh with
  | some f => { x with created := x.created ++ [f] }
  | none => x

theorem transact_inblock (x : Cache) (hd : 0 < x.depth) (body : Cache → Body) (fresh : Option Nat) :
    x.transact body fresh =
      if (body (reg x fresh)).ok then
        ({ (body (reg x fresh)).s with pending := (body (reg x fresh)).s.pending ++ (body (reg x fresh)).cleanup },
          (body (reg x fresh)).out)
      else ((body (reg x fresh)).s, (body (reg x fresh)).out) := by
  unfold transact reg
  simp only [gt_iff_lt, hd, if_true]
  cases fresh <;> rfl

/-- outside any block a transaction brackets its body with BEGIN and COMMIT (then removes the files
handed to cleanup), or with BEGIN and ROLLBACK (then removes the file written for it).
This equation and `transact_inblock` say what `transact` is, and are the way into it: whatever
else is said of a transaction (`transact_spec`, `transact_inv`, `transact_PI`, `rf_transact`, …)
is derived from the two, without unfolding `transact` again. -/
theorem transact_outer (s : Cache) (hd : s.depth = 0) (body : Cache → Body) (fresh : Option Nat) :
    s.transact body fresh =
      if (body (s.log .begin)).ok then
        (((body (s.log .begin)).s.log .commit).fremoveAll (body (s.log .begin)).cleanup, (body (s.log .begin)).out)
      else ((((body (s.log .begin)).s.restore s.takeSnap).log .rollback).fremoveAll [fresh],
        (body (s.log .begin)).out) := by
  unfold transact
  simp only [hd, Nat.lt_irrefl, if_false]
  cases fresh <;> rfl

theorem transact_pos (s : Cache) (body : Cache → Body) (hd : s.depth > 0) :
    (s.transact body).1.rows = (body s).s.rows ∧
    (s.transact body).1.count = (body s).s.count ∧
    (s.transact body).1.size = (body s).s.size ∧
    (s.transact body).1.cfg = (body s).s.cfg ∧
    (s.transact body).1.depth = (body s).s.depth ∧
    (s.transact body).1.files = (body s).s.files := by
  rw [transact_inblock s hd]
  split <;> exact ⟨rfl, rfl, rfl, rfl, rfl, rfl⟩

theorem transact_zero (s : Cache) (body : Cache → Body) (hd : s.depth = 0)
    (hok : (body (s.log .begin)).ok = true) :
    (s.transact body).1 =
      ((body (s.log .begin)).s.log .commit).fremoveAll (body (s.log .begin)).cleanup := by
  rw [transact_outer s hd, if_pos hok]

theorem deletePage_keep (s : Cache) (page : List Row) (sel : String) :
    (s.deletePage page sel).rows = (s.delIn (page.map (·.rowid))).rows ∧
    (s.deletePage page sel).count = (s.delIn (page.map (·.rowid))).count ∧
    (s.deletePage page sel).size = (s.delIn (page.map (·.rowid))).size ∧
    (s.deletePage page sel).cfg = s.cfg ∧
    (s.deletePage page sel).depth = s.depth := by
  rw [deletePage_eq]
  by_cases hd : s.depth > 0
  · have ht := transact_pos s (pageBody page sel) hd
    have hb := pageBody_keep page sel s
    rw [ht.1, ht.2.1, ht.2.2.1, ht.2.2.2.1, ht.2.2.2.2.1]
    exact ⟨hb.1, hb.2.1, hb.2.2.1, hb.2.2.2.1, hb.2.2.2.2.1⟩
  · have hd0 : s.depth = 0 := by omega
    rw [transact_zero s _ hd0 (pageBody_ok _ _ _)]
    have hf := fremoveAll_keep (pageBody page sel (s.log .begin)).cleanup
      ((pageBody page sel (s.log .begin)).s.log .commit)
    have hb := pageBody_keep page sel (s.log .begin)
    rw [hf.1, hf.2.1, hf.2.2.1, hf.2.2.2.1, hf.2.2.2.2]
    simp only [log_rows, log_count, log_size, log_cfg, log_depth]
    rw [hb.1, hb.2.1, hb.2.2.1, hb.2.2.2.1, hb.2.2.2.2.1, delIn_log]
    exact ⟨rfl, rfl, rfl, rfl, rfl⟩

theorem deletePage_rows_sub (s : Cache) (page : List Row) (sel : String) (hasc : RowidsAsc s.rows)
    (hsub : ∀ x ∈ page, x ∈ s.rows) :
    (s.deletePage page sel).rows = s.rows.filter (fun r => decide (r ∉ page)) := by
  rw [(deletePage_keep s page sel).1, delIn_rows, filter_rowids_eq hasc hsub]

theorem fileGet_congr (a b : Cache) (g : Nat) (h : a.files = b.files) :
    a.fileGet g = b.fileGet g := by
  simp [fileGet, h]

theorem deletePage_fileGet_mono (s : Cache) (page : List Row) (sel : String) (g : Nat)
    (h : s.fileGet g = none) : (s.deletePage page sel).fileGet g = none := by
  rw [deletePage_eq]
  by_cases hd : s.depth > 0
  · have ht := transact_pos s (pageBody page sel) hd
    have hb := pageBody_keep page sel s
    rw [fileGet_congr _ s g (ht.2.2.2.2.2.trans hb.2.2.2.2.2)]
    exact h
  · have hd0 : s.depth = 0 := by omega
    rw [transact_zero s _ hd0 (pageBody_ok _ _ _)]
    apply fremoveAll_fileGet_mono
    have hb := pageBody_keep page sel (s.log .begin)
    rw [log_fileGet, fileGet_congr _ s g (hb.2.2.2.2.2.trans rfl)]
    exact h

theorem deletePage_fileGet_mem (s : Cache) (page : List Row) (sel : String) (g : Nat)
    (hd : s.depth = 0) (r : Row) (hr : r ∈ page) (hf : r.file = some g) :
    (s.deletePage page sel).fileGet g = none := by
  rw [deletePage_eq, transact_zero s _ hd (pageBody_ok _ _ _), pageBody_cleanup]
  apply fremoveAll_fileGet_mem
  simp only [List.mem_map]
  exact ⟨r, hr, hf⟩

/-! ### the generic cursor-paged removal loop -/

/-- `clearLoop` / `evictLoop` with the row predicate abstracted -/
def pageLoop (m : Row → Bool) (sel : String) : Nat → Cache → Nat → Nat → Cache × Nat
  | 0, s, _, n => (s, n)
  | fuel + 1, s, cur, n =>
    let page := (s.rows.filter (fun r => m r && decide (r.rowid > cur))).take s.cfg.page
    let s := s.deletePage page sel
    match lastRow? page with
    | none => (s, n)
    | some r => pageLoop m sel fuel s r.rowid (n + page.length)

theorem clearLoop_eq : ∀ (fuel : Nat) (s : Cache) (cur n : Nat),
    clearLoop fuel s cur n = pageLoop (fun _ => true) "pageRowid" fuel s cur n := by
  intro fuel
  induction fuel with
  | zero => intro s cur n; rfl
  | succ k ih =>
    intro s cur n
    simp only [clearLoop, pageLoop, Bool.true_and, ih]
    rfl

theorem evictLoop_eq (tag : SqlVal) : ∀ (fuel : Nat) (s : Cache) (cur n : Nat),
    evictLoop tag fuel s cur n = pageLoop (fun r => r.tag.eqv tag) "pageTag" fuel s cur n := by
  intro fuel
  induction fuel with
  | zero => intro s cur n; rfl
  | succ k ih =>
    intro s cur n
    simp only [evictLoop, pageLoop, ih]
    rfl

theorem lastRow?_mem {l : List Row} {r : Row} (h : lastRow? l = some r) : r ∈ l :=
  List.mem_of_getLast? h

theorem lastRow?_none {l : List Row} (h : lastRow? l = none) : l = [] :=
  List.getLast?_eq_none_iff.mp h

/-- everything one round of the loop does, in terms of `M = rows.filter m` -/
theorem page_step (m : Row → Bool) (sel : String) (s : Cache) (cur : Nat)
    (hasc : RowidsAsc s.rows) (hinv : ∀ r ∈ s.rows, m r = true → cur < r.rowid) :
    let M := s.rows.filter m
    let T := M.take s.cfg.page
    let s' := s.deletePage T sel
    s.rows.filter (fun r => m r && decide (r.rowid > cur)) = M ∧
    s'.rows.filter m = M.drop s.cfg.page ∧
    s'.rows.filter (fun r => !m r) = s.rows.filter (fun r => !m r) ∧
    s'.count = s.count - T.length ∧
    s'.size = s.size - sumSizes T ∧
    RowidsAsc s'.rows ∧
    (∀ r, r ∈ T → ∀ x ∈ s'.rows, m x = true → r.rowid < x.rowid) := by
  intro M T s'
  have hMasc : RowidsAsc M := hasc.filter m
  have hTD : T ++ M.drop s.cfg.page = M := List.take_append_drop _ _
  have hTasc : RowidsAsc T := List.Pairwise.sublist (List.take_sublist _ _) hMasc
  have hTM : ∀ r ∈ T, r ∈ M := fun r hr => List.mem_of_mem_take hr
  have hsub : ∀ r ∈ T, r ∈ s.rows := fun r hr => (List.mem_filter.mp (hTM r hr)).1
  have hTm : ∀ r ∈ T, m r = true := fun r hr => (List.mem_filter.mp (hTM r hr)).2
  have hcross : ∀ t ∈ T, ∀ d ∈ M.drop s.cfg.page, t.rowid < d.rowid := by
    have := hMasc
    unfold RowidsAsc at this
    rw [← hTD, List.pairwise_append] at this
    exact this.2.2
  have hk := deletePage_keep s T sel
  have hrows : s'.rows = s.rows.filter (fun r => decide (r ∉ T)) :=
    deletePage_rows_sub s T sel hasc hsub
  have hcnt := delIn_counters T s hasc hTasc hsub
  have hfm : s'.rows.filter m = M.drop s.cfg.page := by
    rw [hrows, List.filter_filter]
    have : (s.rows.filter (fun a => m a && decide (a ∉ T)))
        = (s.rows.filter m).filter (fun a => decide (a ∉ T)) := by
      rw [List.filter_filter]; apply List.filter_congr; intro x _; exact Bool.and_comm _ _
    rw [this]
    show M.filter _ = _
    conv => lhs; rw [← hTD]
    apply filter_append_cut
    · intro t ht; simp [ht]
    · intro d hd
      have : d ∉ T := by
        intro hdt
        have := hcross d hdt d hd
        omega
      simp [this]
  refine ⟨?_, hfm, ?_, ?_, ?_, ?_, ?_⟩
  · apply List.filter_congr
    intro r hr
    cases hm : m r with
    | false => rfl
    | true => simp [hinv r hr hm]
  · rw [hrows, List.filter_filter]
    apply List.filter_congr
    intro x _
    cases hm : m x with
    | true => rfl
    | false =>
      have : x ∉ T := fun hx => by have := hTm x hx; simp [hm] at this
      simp [this]
  · show (s.deletePage T sel).count = _
    rw [hk.2.1]; exact hcnt.1
  · show (s.deletePage T sel).size = _
    rw [hk.2.2.1]; exact hcnt.2
  · rw [hrows]; exact hasc.filter _
  · intro r hr x hx hmx
    have hxD : x ∈ M.drop s.cfg.page := by
      rw [← hfm]; exact List.mem_filter.mpr ⟨hx, hmx⟩
    exact hcross r hr x hxD

/-- what the loop does to the table, the counters and (outside a transaction block) the files of
the rows it removes -/
theorem pageLoop_spec (m : Row → Bool) (sel : String) : ∀ (fuel : Nat) (s : Cache) (cur n : Nat),
    RowidsAsc s.rows → (∀ r ∈ s.rows, m r = true → cur < r.rowid) → 0 < s.cfg.page →
    (s.rows.filter m).length + 1 ≤ fuel →
    (pageLoop m sel fuel s cur n).1.rows = s.rows.filter (fun r => !m r) ∧
    (pageLoop m sel fuel s cur n).2 = n + (s.rows.filter m).length ∧
    (pageLoop m sel fuel s cur n).1.count = s.count - ((s.rows.filter m).length : Nat) ∧
    (pageLoop m sel fuel s cur n).1.size = s.size - sumSizes (s.rows.filter m) ∧
    (pageLoop m sel fuel s cur n).1.cfg = s.cfg ∧
    (s.depth = 0 → ∀ f, ((∃ r ∈ s.rows, m r = true ∧ r.file = some f) ∨ s.fileGet f = none) →
      (pageLoop m sel fuel s cur n).1.fileGet f = none) := by
  intro fuel
  induction fuel with
  | zero => intro s cur n _ _ _ hf; omega
  | succ k ih =>
    intro s cur n hasc hinv hp hf
    obtain ⟨h1, h2, h3, h4, h5, h6, h7⟩ := page_step m sel s cur hasc hinv
    have hk := deletePage_keep s ((s.rows.filter m).take s.cfg.page) sel
    have hnil := take_nil_of_pos (s.rows.filter m) s.cfg.page hp
    have hlen := congrArg List.length (List.take_append_drop s.cfg.page (s.rows.filter m))
    have hsum := congrArg sumSizes (List.take_append_drop s.cfg.page (s.rows.filter m))
    rw [List.length_append] at hlen
    rw [sumSizes_append] at hsum
    have hmem : ∀ r ∈ s.rows.filter m,
        r ∈ (s.rows.filter m).take s.cfg.page ∨ r ∈ (s.rows.filter m).drop s.cfg.page := fun r hr =>
      List.mem_append.1 (by rwa [List.take_append_drop])
    have hgone := deletePage_fileGet_mem s ((s.rows.filter m).take s.cfg.page) sel
    have hmono := deletePage_fileGet_mono s ((s.rows.filter m).take s.cfg.page) sel
    simp only [pageLoop, h1]
    -- from here on only the page `T` and the state `s'` after its deletion matter
    generalize (s.rows.filter m).take s.cfg.page = T at *
    generalize s.deletePage T sel = s' at *
    -- a file to be removed is removed with this page, or still belongs to a row to be removed
    have hfile : s.depth = 0 → ∀ f,
        ((∃ r ∈ s.rows, m r = true ∧ r.file = some f) ∨ s.fileGet f = none) →
        (∃ r ∈ s'.rows, m r = true ∧ r.file = some f) ∨ s'.fileGet f = none := by
      rintro hd f (⟨r, hr, hm, hfile⟩ | hnone)
      · rcases hmem r (List.mem_filter.mpr ⟨hr, hm⟩) with hT | hD
        · exact .inr (hgone f hd r hT hfile)
        · rw [← h2] at hD
          exact .inl ⟨r, (List.mem_filter.mp hD).1, hm, hfile⟩
      · exact .inr (hmono f hnone)
    split
    · rename_i hl
      have hT := lastRow?_none hl
      have hM : s.rows.filter m = [] := hnil hT
      have h2' : s'.rows.filter m = [] := by rw [h2, hM]; simp
      refine ⟨?_, ?_, ?_, ?_, hk.2.2.2.1, fun hd f hor => ?_⟩
      · show s'.rows = _
        rw [← h3]; symm; rw [List.filter_eq_self]
        intro a ha
        simpa using List.filter_eq_nil_iff.mp h2' a ha
      · simp [hM]
      · show s'.count = _
        rw [h4, hT, hM]
      · show s'.size = _
        rw [h5, hT, hM]
      · rcases hfile hd f hor with ⟨r, hr, hm, _⟩ | hnone
        · have := List.filter_eq_nil_iff.mp h2' r hr
          simp [hm] at this
        · exact hnone
    · rename_i r hl
      have hr := lastRow?_mem hl
      have hpos : T.length ≥ 1 := List.length_pos_of_mem hr
      obtain ⟨i1, i2, i3, i4, i5, i6⟩ := ih s' r.rowid (n + T.length) h6 (h7 r hr)
        (by rw [hk.2.2.2.1]; exact hp) (by rw [h2]; omega)
      rw [h2] at i2 i3 i4
      refine ⟨by rw [i1, h3], ?_, ?_, ?_, by rw [i5, hk.2.2.2.1], fun hd f hor => ?_⟩
      · rw [i2]; omega
      · rw [i3, h4]; omega
      · rw [i4, h5, ← hsum]; omega
      · exact i6 (by rw [hk.2.2.2.2]; exact hd) f (hfile hd f hor)

/-! ### reading an ordered list in cursor pages -/

/-- in a list ordered by `lt`, a filter that is false up to `r` and true beyond it selects the
part after `r` -/
theorem filter_after {α} {L pre suf : List α} {r : α} {lt : α → α → Prop} (hpw : L.Pairwise lt)
    (hL : L = pre ++ r :: suf) (q : α → Bool) (hq1 : ∀ x ∈ L, lt x r → q x = false)
    (hqr : q r = false) (hq2 : ∀ x ∈ L, lt r x → q x = true) : L.filter q = suf := by
  subst hL
  obtain ⟨_, hrs, hcross⟩ := List.pairwise_append.mp hpw
  rw [show pre ++ r :: suf = pre ++ [r] ++ suf by simp]
  apply filter_append_cut
  · intro t ht
    rcases List.mem_append.mp ht with h | h
    · exact hq1 t (by simp [h]) (hcross t h r List.mem_cons_self)
    · rw [List.mem_singleton.mp h]; exact hqr
  · intro d hd
    exact hq2 d (by simp [hd]) ((List.pairwise_cons.mp hrs).1 d hd)

/-- The loop shared by `__iter__`, `__reversed__` and `iterkeys`: `sel cur` is the query for the
rows beyond the cursor, a page is its first `page` rows, and the last row of a page gives the next
cursor. -/
def pagedRead {α κ} (sel : κ → List α) (key : α → κ) (page : Nat) : Nat → κ → List α → List α
  | 0, _, acc => acc
  | fuel + 1, cur, acc =>
    match ((sel cur).take page).getLast? with
    | none => acc
    | some r => pagedRead sel key page fuel (key r) (acc ++ (sel cur).take page)

/-- if the query at the cursor of a row of `L` returns the part of `L` after that row, the loop
started on a suffix of `L` reads that suffix -/
theorem pagedRead_eq {α κ} (sel : κ → List α) (key : α → κ) (page : Nat) (hp : 0 < page)
    (L : List α) (hsel : ∀ pre r suf, L = pre ++ r :: suf → sel (key r) = suf) :
    ∀ (fuel : Nat) (cur : κ) (acc pre : List α), L = pre ++ sel cur → (sel cur).length < fuel →
      pagedRead sel key page fuel cur acc = acc ++ sel cur
  | 0, _, _, _, _, hf => absurd hf (Nat.not_lt_zero _)
  | fuel + 1, cur, acc, pre, hL, hf => by
    simp only [pagedRead]
    split
    · next hnone =>
      rcases List.take_eq_nil_iff.1 (List.getLast?_eq_none_iff.1 hnone) with h | h
      · omega
      · simp [h]
    · next r hsome =>
      obtain ⟨ys, hys⟩ := List.getLast?_eq_some_iff.1 hsome
      have hcur : sel cur = ys ++ r :: (sel cur).drop page := by
        conv => lhs; rw [← List.take_append_drop page (sel cur), hys]
        simp
      have hnext : sel (key r) = (sel cur).drop page :=
        hsel (pre ++ ys) r _ (by rw [hL, List.append_assoc, ← hcur])
      have hlen : (sel (key r)).length < fuel := by
        have := congrArg List.length hcur
        rw [hnext, List.length_drop]
        simp at this
        omega
      rw [pagedRead_eq sel key page hp L hsel fuel (key r) _ (pre ++ ys ++ [r])
        (by rw [hL, hnext]; conv => lhs; rw [hcur]
            simp) hlen, hnext, List.append_assoc, List.take_append_drop]

theorem iterLoop_keep (asc : Bool) (bound : Nat) : ∀ (fuel : Nat) (s : Cache) (cur : Nat) (acc : List Row),
    (iterLoop asc bound fuel s cur acc).1.rows = s.rows ∧
    (iterLoop asc bound fuel s cur acc).1.files = s.files ∧
    (iterLoop asc bound fuel s cur acc).1.cfg = s.cfg := by
  intro fuel
  induction fuel with
  | zero => intro s cur acc; exact ⟨rfl, rfl, rfl⟩
  | succ k ih =>
    intro s cur acc
    simp only [iterLoop]
    split
    · exact ⟨rfl, rfl, rfl⟩
    · exact ih (s.logSql "pageIter") _ _

/-- the page query of `iterLoop` -/
def iterSel (asc : Bool) (bound : Nat) (rows : List Row) (cur : Nat) : List Row :=
  if asc then rows.filter (fun r => cur < r.rowid && r.rowid < bound)
  else (rows.filter (fun r => 0 < r.rowid && r.rowid < cur)).reverse

theorem iterLoop_eq (asc : Bool) (bound : Nat) :
    ∀ (fuel : Nat) (s : Cache) (cur : Nat) (acc : List Row),
      (iterLoop asc bound fuel s cur acc).2 =
        pagedRead (iterSel asc bound s.rows) (·.rowid) s.cfg.page fuel cur acc
  | 0, _, _, _ => rfl
  | fuel + 1, s, cur, acc => by
    have hpage : (if asc then (s.rows.filter (fun r => cur < r.rowid && r.rowid < bound)).take s.cfg.page
        else ((s.rows.filter (fun r => 0 < r.rowid && r.rowid < cur)).reverse).take s.cfg.page)
        = (iterSel asc bound s.rows cur).take s.cfg.page := by cases asc <;> rfl
    simp only [iterLoop, pagedRead, hpage, lastRow?]
    cases ((iterSel asc bound s.rows cur).take s.cfg.page).getLast? with
    | none => rfl
    | some r => exact iterLoop_eq asc bound fuel (s.logSql "pageIter") r.rowid _

theorem le_maxRowid (rows : List Row) : ∀ r ∈ rows, r.rowid ≤ maxRowid rows := by
  have key : ∀ (l : List Row) (init : Nat),
      init ≤ l.foldl (fun m r => max m r.rowid) init ∧
      ∀ r ∈ l, r.rowid ≤ l.foldl (fun m r => max m r.rowid) init := by
    intro l
    induction l with
    | nil => intro init; simp
    | cons a t ih =>
      intro init
      have := ih (max init a.rowid)
      simp only [List.foldl_cons, List.mem_cons]
      refine ⟨by omega, ?_⟩
      rintro r (rfl | hr)
      · omega
      · exact this.2 r hr
  exact (key rows 0).2


/-- with every rowid between 0 and the bound, the loop started before the first row (after the
last, when descending) reads the whole table -/
theorem iterLoop_all (asc : Bool) (s : Cache) (hasc : RowidsAsc s.rows)
    (hpos : ∀ r ∈ s.rows, 0 < r.rowid) (hp : 0 < s.cfg.page) :
    (iterLoop asc (maxRowid s.rows + 1) (s.rows.length + 1) s
      (if asc then 0 else maxRowid s.rows + 1) []).2 = if asc then s.rows else s.rows.reverse := by
  have hin : ∀ r ∈ s.rows, 0 < r.rowid ∧ r.rowid < maxRowid s.rows + 1 := fun r hr =>
    ⟨hpos r hr, Nat.lt_succ_of_le (le_maxRowid s.rows r hr)⟩
  have hfull : s.rows.filter (fun r => 0 < r.rowid && r.rowid < maxRowid s.rows + 1) = s.rows :=
    List.filter_eq_self.2 fun r hr => by simp [hin r hr]
  rw [iterLoop_eq]
  cases asc with
  | true =>
    have h0 : iterSel true (maxRowid s.rows + 1) s.rows 0 = s.rows := hfull
    have h := pagedRead_eq (iterSel true (maxRowid s.rows + 1) s.rows) (·.rowid) s.cfg.page hp s.rows
      (fun pre r suf hL => filter_after hasc hL _ (fun x _ h => by simp; omega) (by simp)
        (fun x hx h => by simp [(hin x hx).2]; exact h))
      (s.rows.length + 1) 0 [] [] (by rw [h0]; rfl) (by rw [h0]; omega)
    rw [h0] at h
    exact h
  | false =>
    have h0 : iterSel false (maxRowid s.rows + 1) s.rows (maxRowid s.rows + 1) = s.rows.reverse :=
      congrArg List.reverse hfull
    have h := pagedRead_eq (iterSel false (maxRowid s.rows + 1) s.rows) (·.rowid) s.cfg.page hp
      s.rows.reverse
      (fun pre r suf hL => by
        show (s.rows.filter _).reverse = suf
        rw [← List.filter_reverse]
        have hdesc : s.rows.reverse.Pairwise (fun a b => b.rowid < a.rowid) :=
          List.pairwise_reverse.2 hasc
        exact filter_after hdesc hL _
          (fun x _ h => by simp; omega) (by simp)
          (fun x hx h => by simp [(hin x (List.mem_reverse.1 hx)).1]; exact h))
      (s.rows.length + 1) (maxRowid s.rows + 1) [] [] (by rw [h0]; rfl)
      (by rw [h0, List.length_reverse]; omega)
    rw [h0] at h
    exact h

end DC.Cache
