/-
C03_Refine, model side, the writing calls: `set`, `add`, `touch` (`incr`:
RefineIncr.lean).  set/add/incr all end in "INSERT or UPDATE the row of the key,
then `_cull`": `rf_look_setRows` says what the table denotes after the first
step, `rf_cull_tail_gen` (`CullFacts`) what the lazy cull may take away, and
`rf_Wrote` is what the three calls establish in the end.
-/
import DC.Proofs.RefineOps
import DC.Proofs.LossyLemmas

namespace DC.Cache
open DC.Spec

/-- `Disk.store` in terms of `place`: on success the new columns denote `entryOf` of the
placement, read against the state with the value file written -/
theorem rf_store (s : Cache) (E : Externals) (v : PyVal) (read : Bool) (hP : PI (core s) []) :
    match place E s.cfg.disk s.cfg.minFileSize v read with
    | .error e => s.store E v read = .error e
    | .ok p => ∃ s1 c, s.store E v read = .ok (s1, c) ∧ s1.rows = s.rows ∧ s1.cfg = s.cfg ∧
        PI (core s1) [c.file] ∧ (∀ q ∈ s.files, q ∈ s1.files) ∧ c.expT = none ∧ c.tag = .null ∧
        c.val = (entryOf p none .null).val ∧
        (∀ r : Row, r.mode = c.mode → r.val = c.val → r.file = c.file →
          rf_ent s1 r = entryOf p r.expT r.tag) := by
  unfold store
  cases hpl : place E s.cfg.disk s.cfg.minFileSize v read with
  | error e => rfl
  | ok p =>
    cases p with
    | inline mode sv =>
      refine ⟨s, _, rfl, rfl, rfl, hP.cl_congr (by simp), fun q hq => hq, rfl, rfl, rfl, ?_⟩
      intro r h1 h2 h3
      simp only at h1 h2 h3
      unfold rf_ent entryOf
      simp [h1, h2, h3]
    | file mode ct =>
      have hP1 := hP.fwrite ct
      refine ⟨(s.fwrite ct).1, _, rfl, rfl, rfl, hP1, ?_, rfl, rfl, rfl, ?_⟩
      · intro q hq
        show q ∈ s.files ++ [(s.nfile, ct)]
        exact List.mem_append_left _ hq
      · intro r h1 h2 h3
        simp only at h1 h2 h3
        have hmem : (s.nfile, ct) ∈ (s.fwrite ct).1.files := by
          show (s.nfile, ct) ∈ s.files ++ [(s.nfile, ct)]
          simp
        have hget := fileGet_of_mem (s := (s.fwrite ct).1) hP1.nodup hmem
        unfold rf_ent entryOf
        simp [h1, h2, h3, hget]

theorem rf_updF_key (id : Nat) (now : Int) (c : Cols) (r : Row) :
    (updF id now c r).key = r.key ∧ (updF id now c r).raw = r.raw := by
  unfold updF; split <;> exact ⟨rfl, rfl⟩

/-- UPDATE of the row of `K` in place by `f` (`touch`, the increment of `incr`, the UPDATE of `set`) -/
theorem rf_look_upd {s : Cache} (hi : TableInv s) (b : Cache) {r0 : Row} (hr0 : r0 ∈ s.rows) {K : Key}
    (hk : keyMatch K.1 K.2 r0 = true) (f : Row → Row)
    (hf : ∀ r, (f r).key = r.key ∧ (f r).raw = r.raw) (k' : Key) :
    rf_look (s.rows.map (fun r => if r.rowid == r0.rowid then f r else r)) b k' =
      rf_at K (some (rf_ent b (f r0))) (rf_look s.rows b) k' := by
  have hu := hi.tbl.uniq
  rw [rf_look_map _ _ _ (by intro r; split; exact hf r; exact ⟨rfl, rfl⟩)]
  unfold rf_at
  cases hkk : sameKey K k' with
  | true =>
    have hk0' : keyMatch k'.1 k'.2 r0 = true := by rw [← rf_keyMatch_congr hkk]; exact hk
    rw [rf_find_of_mem hu hr0 hk0']
    simp
  | false =>
    simp only [Bool.false_eq_true, if_false]
    unfold rf_look
    cases hfd : s.rows.find? (keyMatch k'.1 k'.2) with
    | none => rfl
    | some x =>
      have hx := List.mem_of_find?_eq_some hfd
      have hkx : keyMatch k'.1 k'.2 x = true := List.find?_some hfd
      have hne := rf_rowid_ne hi hr0 hx hk hkx hkk
      simp [hne]

theorem rf_look_setRows {s s1 t : Cache} (hi : TableInv s) (ht : t.rows = s.rows)
    (hent : ∀ r ∈ s.rows, rf_ent s1 r = rf_ent s r)
    (K : Key) (now : Int) (c : Cols) (e : Entry)
    (he : ∀ r : Row, r.mode = c.mode → r.val = c.val → r.file = c.file → r.expT = c.expT →
      r.tag = c.tag → rf_ent s1 r = e)
    (k' : Key) :
    rf_look (setRows K.1 K.2 now c t) s1 k' = rf_at K (some e) (rf_view s) k' := by
  have hu := hi.tbl.uniq
  have hsel : t.selKey K.1 K.2 = s.selKey K.1 K.2 := selKey_rows ht _ _
  have hold : rf_look s.rows s1 k' = rf_view s k' := rf_look_congr hent k'
  unfold setRows rf_at
  rw [hsel, ht]
  cases hs : s.selKey K.1 K.2 with
  | some r0 =>
    have hr0 : r0 ∈ s.rows := selKey_mem hs
    have hk0 : keyMatch K.1 K.2 r0 = true := List.find?_some hs
    simp only
    refine (rf_look_upd hi s1 hr0 hk0
      (fun r => { r with storeT := now, expT := c.expT, accT := now, accN := 0, tag := c.tag,
                         size := c.size, mode := c.mode, file := c.file, val := c.val })
      (fun _ => ⟨rfl, rfl⟩) k').trans ?_
    rw [he _ rfl rfl rfl rfl rfl, ← hold]
    rfl
  | none =>
    simp only
    rw [rf_look_append, hold]
    have hkn : keyMatch k'.1 k'.2 (newRow t K.1 K.2 now c) = sameKey K k' := rfl
    rw [hkn]
    cases hk : sameKey K k' with
    | true =>
      have : rf_view s k' = none := by
        rw [← rf_view_sameKey hk]
        unfold rf_view rf_look
        unfold selKey at hs
        rw [hs]; rfl
      rw [this]
      simp only [Option.none_or, if_true]
      congr 1
      apply he <;> rfl
    | false => simp

theorem rf_setRows_unique {t : Cache} (hi : TableInv t) (dbk : SqlVal) (raw : Bool) (now : Int)
    (c : Cols) (hnn : dbk ≠ .null) : KeysUnique (setRows dbk raw now c t) ∧
    RowidsAsc (setRows dbk raw now c t) := by
  unfold setRows
  cases hs : t.selKey dbk raw with
  | some r0 =>
    have := updRow_inv r0.rowid now c hi
    exact ⟨this.tbl.uniq, this.tbl.asc⟩
  | none =>
    have := insRow_inv dbk raw now c hi hs hnn
    exact ⟨this.tbl.uniq, this.tbl.asc⟩

theorem rf_cull_tail (t : Cache) (now : Int) (hasc : RowidsAsc t.rows) (hp : t.cfg.policy = .none) :
    (∀ r ∈ (t.cullW now).1.rows, r ∈ t.rows) ∧
    (∀ r ∈ t.rows, r ∉ (t.cullW now).1.rows → expired now r = true) ∧
    (t.cullW now).1.files = t.files ∧ (t.cullW now).1.cfg = t.cfg := by
  obtain ⟨hc, hsub⟩ := cullW_core t now
  refine ⟨hsub, ?_, congrArg Core.files hc, congrArg Core.cfg hc⟩
  intro r hr hnot
  cases hex : expired now r with
  | true => rfl
  | false => exact absurd hp (cullW_removed t now hasc r hr hnot hex).1

theorem rf_cull_tail_gen (t : Cache) (now : Int) (hi : TableInv t) :
    CullFacts t.cfg t.env now t.rows (t.cullW now).1 ∧
    (t.cullW now).1.files = t.files ∧ (t.cullW now).1.cfg = t.cfg := by
  obtain ⟨hc, -⟩ := cullW_core t now
  exact ⟨cullW_facts t now hi, congrArg Core.files hc, congrArg Core.cfg hc⟩

theorem rf_setRows_nonnull {t : Cache} (hi : TableInv t) (dbk : SqlVal) (raw : Bool) (now : Int)
    (c : Cols) (hnn : dbk ≠ .null) : ∀ r ∈ setRows dbk raw now c t, r.key ≠ .null := by
  unfold setRows
  cases hs : t.selKey dbk raw with
  | some r0 => exact (updRow_inv r0.rowid now c hi).tbl.nonnull
  | none => exact (insRow_inv dbk raw now c hi hs hnn).tbl.nonnull

theorem rf_setRows_keep {t : Cache} (hi : TableInv t) (K : Key) (now : Int) (c : Cols) :
    ∀ r ∈ t.rows, keyMatch K.1 K.2 r = false → r ∈ setRows K.1 K.2 now c t := by
  intro r hr hk
  unfold setRows
  cases hs : t.selKey K.1 K.2 with
  | some r0 =>
    simp only
    have hne : r.rowid ≠ r0.rowid := by
      intro hid
      have := rowidsAsc_eq_of_rowid hi.tbl.asc hr (selKey_mem hs) hid
      subst this
      have : keyMatch K.1 K.2 r = true := List.find?_some hs
      rw [hk] at this; cases this
    exact List.mem_map.2 ⟨r, hr, by simp [updF, hne]⟩
  | none => exact List.mem_append_left _ hr

/-- the view after a write that stored `e` under `K` and then culled: the keys of the evicted
rows `L` are gone, expired entries may be gone, everything else is as after the write -/
def rf_Wrote (s c' : Cache) (K : Key) (now : Int) (e : Entry) : Prop :=
  ∃ L, rf_Lossy now (L.map rowKey) (rf_at K (some e) (rf_view s)) (rf_view c') ∧ Loss s c' K now L ∧
    (∀ r ∈ L, ∃ e', rf_at K (some e) (rf_view s) (rowKey r) = some e' ∧ EntOf r e') ∧
    c'.size + sumSizes L ≤ s.size + entrySize e

theorem rf_rowSize_nonneg (rows : List Row) (id : Nat) : 0 ≤ rowSize rows id := by
  unfold rowSize
  split
  · exact Int.natCast_nonneg _
  · exact Int.le_refl _

theorem rf_setRows_size_le {t : Cache} (hi : TableInv t) (dbk : SqlVal) (raw : Bool) (now : Int)
    (c : Cols) (hnn : dbk ≠ .null) : sumSizes (setRows dbk raw now c t) ≤ t.size + c.size := by
  unfold setRows
  cases hs : t.selKey dbk raw with
  | some r0 =>
    have h := (updRow_inv r0.rowid now c hi).tbl.size
    have h0 := rf_rowSize_nonneg t.rows r0.rowid
    show sumSizes (t.updRow r0.rowid now c).rows ≤ _
    rw [← h]
    show (if t.rows.any (·.rowid == r0.rowid) then t.size + c.size - rowSize t.rows r0.rowid else t.size) ≤ _
    split <;> omega
  | none =>
    have h := (insRow_inv dbk raw now c hi hs hnn).tbl.size
    show sumSizes (t.insRow dbk raw now c).rows ≤ _
    rw [← h]
    exact Int.le_refl _

theorem rf_store_size {s s1 : Cache} {E : Externals} {v : PyVal} {read : Bool} {c : Cols} {p : Placement}
    (hst : s.store E v read = .ok (s1, c))
    (hpl : place E s.cfg.disk s.cfg.minFileSize v read = .ok p) (e : Option Int) (t : SqlVal) :
    (c.size : Int) = entrySize (entryOf p e t) := by
  unfold store at hst
  rw [hpl] at hst
  cases p with
  | inline mode sv =>
    simp only [Except.ok.injEq, Prod.mk.injEq] at hst
    rw [← hst.2]; rfl
  | file mode ct =>
    simp only [Except.ok.injEq, Prod.mk.injEq] at hst
    rw [← hst.2]; rfl

theorem rf_Wrote_none {s c' : Cache} {K : Key} {now : Int} {e : Entry} (h : rf_Wrote s c' K now e)
    (hp : s.cfg.policy = .none) :
    rf_Culled now (rf_at K (some e) (rf_view s)) (rf_view c') := by
  obtain ⟨L, h1, h2, -⟩ := h
  have := h2.polNone hp
  subst this
  exact rf_Lossy_nil.1 h1

/-! ### `set` -/

theorem rf_setBody_ok_gen (t : Cache) (dbk : SqlVal) (raw : Bool) (now : Int) (c : Cols)
    (hi : TableInv t) (hnn : dbk ≠ .null)
    (hb : bindable dbk = true) (hcb : c.bindable = true) :
    (setBody dbk raw now c t).ok = true ∧ (setBody dbk raw now c t).out = .bool true ∧
    CullFacts t.cfg t.env now (setRows dbk raw now c t) (setBody dbk raw now c t).s ∧
    (setBody dbk raw now c t).s.files = t.files ∧ (setBody dbk raw now c t).s.cfg = t.cfg := by
  unfold setBody setRows
  simp only [hb, hcb, Bool.not_true, Bool.false_eq_true, if_false]
  cases hs : t.selKey dbk raw with
  | some r0 =>
    simp only
    obtain ⟨h1, h3, h4⟩ := rf_cull_tail_gen ((t.logSql "selKey").updRow r0.rowid now c) now
      (updRow_inv r0.rowid now c (logSql_inv _ hi))
    exact ⟨trivial, trivial, h1, h3, h4⟩
  | none =>
    simp only
    obtain ⟨h1, h3, h4⟩ := rf_cull_tail_gen ((t.logSql "selKey").insRow dbk raw now c) now
      (insRow_inv dbk raw now c (logSql_inv _ hi) hs hnn)
    exact ⟨trivial, trivial, h1, h3, h4⟩

theorem rf_setBody_ok (t : Cache) (dbk : SqlVal) (raw : Bool) (now : Int) (c : Cols)
    (hi : TableInv t) (hp : t.cfg.policy = .none) (hnn : dbk ≠ .null)
    (hb : bindable dbk = true) (hcb : c.bindable = true) :
    (setBody dbk raw now c t).ok = true ∧ (setBody dbk raw now c t).out = .bool true ∧
    (∀ r ∈ (setBody dbk raw now c t).s.rows, r ∈ setRows dbk raw now c t) ∧
    (∀ r ∈ setRows dbk raw now c t, r ∉ (setBody dbk raw now c t).s.rows → expired now r = true) ∧
    (setBody dbk raw now c t).s.files = t.files ∧ (setBody dbk raw now c t).s.cfg = t.cfg := by
  obtain ⟨h1, h2, hf, h3, h4⟩ := rf_setBody_ok_gen t dbk raw now c hi hnn hb hcb
  refine ⟨h1, h2, hf.sub, ?_, h3, h4⟩
  intro r hr hnot
  cases hex : expired now r with
  | true => rfl
  | false =>
    have := mem_lostRows.2 ⟨hr, hex, hnot⟩
    rw [hf.polNone hp] at this; cases this

theorem rf_setBody_fail (t : Cache) (dbk : SqlVal) (raw : Bool) (now : Int) (c : Cols)
    (h : ¬ (bindable dbk = true ∧ c.bindable = true)) :
    (setBody dbk raw now c t).ok = false ∧ (setBody dbk raw now c t).out = .exc "UnicodeEncodeError" ∧
    (setBody dbk raw now c t).s.files = t.files ∧ (setBody dbk raw now c t).s.cfg = t.cfg := by
  unfold setBody
  by_cases hb : bindable dbk = true
  · have hcb : c.bindable = false := by
      cases hc : c.bindable with
      | true => exact absurd ⟨hb, hc⟩ h
      | false => rfl
    simp only [hb, hcb, Bool.not_true, Bool.false_eq_true, if_false, Bool.not_false, if_true]
    exact ⟨trivial, trivial, rfl, rfl⟩
  · have hb : bindable dbk = false := by simpa using hb
    simp only [hb, Bool.not_false, if_true]
    exact ⟨trivial, trivial, rfl, rfl⟩

theorem rf_entryOf_tag (p : Placement) (e : Option Int) (t : SqlVal) : (entryOf p e t).tag = t := by
  cases p <;> rfl
theorem rf_entryOf_val (p : Placement) (e e' : Option Int) (t t' : SqlVal) :
    (entryOf p e t).val = (entryOf p e' t').val := by
  cases p <;> rfl

/-- the transaction of `set` on the state `s1` in which `Disk.store` has placed the value: `e` is
the entry the new columns `cols` denote -/
theorem rf_setTx_view {s s1 : Cache} {E : Externals} {v : PyVal} {read : Bool} {c : Cols}
    (cols : Cols) (K : Key) (now : Int) (e : Entry)
    (hg : Good s) (hst : s.store E v read = .ok (s1, c))
    (hg' : Good (s1.transact (setBody K.1 K.2 now cols) c.file).1)
    (hfsub : ∀ q ∈ s.files, q ∈ s1.files) (hnn : K.1 ≠ .null)
    (he : ∀ r : Row, r.mode = cols.mode → r.val = cols.val → r.file = cols.file → r.expT = cols.expT →
      r.tag = cols.tag → rf_ent s1 r = e)
    (hcs : (cols.size : Int) = entrySize e) :
    if bindable K.1 && cols.bindable then
      (s1.transact (setBody K.1 K.2 now cols) c.file).2 = .bool true ∧
      rf_Wrote s (s1.transact (setBody K.1 K.2 now cols) c.file).1 K now e
    else
      (s1.transact (setBody K.1 K.2 now cols) c.file).2 = .exc "UnicodeEncodeError" ∧
      ∀ k', rf_view (s1.transact (setBody K.1 K.2 now cols) c.file).1 k' = rf_view s k' := by
  obtain ⟨hrows, hcfg, -, hsize, -⟩ := store_keep hst
  have hP1 := (store_PI hst hg.pi).1
  obtain ⟨hR, hF, -, hO⟩ := rf_transact s1 (setBody K.1 K.2 now cols) c.file hP1.depth
  have hentS : ∀ r ∈ s.rows, rf_ent s1 r = rf_ent s r :=
    fun r hr => (rf_ent_mono hfsub hP1.nodup (rf_good_ref hg hr)).symm
  have hi1 : TableInv (s1.log .begin) := log_inv _ (store_inv hst hg.tinv).1
  by_cases hb : (bindable K.1 && cols.bindable) = true
  · rw [if_pos hb]
    simp only [Bool.and_eq_true] at hb
    obtain ⟨hok, hout, hfacts, hfiles, -⟩ :=
      rf_setBody_ok_gen (s1.log .begin) K.1 K.2 now cols hi1 hnn hb.1 hb.2
    have hsz := rf_transact_size s1 (setBody K.1 K.2 now cols) c.file hP1.depth hok
    rw [hok] at hR
    simp only [if_true] at hR
    refine ⟨hO.trans hout, ?_⟩
    rw [show (s1.log .begin).cfg = s.cfg from hcfg,
      show (s1.log .begin).env = s.env from (store_env hst : s1.env = s.env)] at hfacts
    exact rf_lossy_finish (b := s1) hg hg' hfacts hR hsz
      (rf_setRows_unique hi1 K.1 K.2 now cols hnn).1 (rf_setRows_nonnull hi1 _ _ _ _ hnn)
      (by intro q hq; have := hF q hq; rw [hfiles] at this; exact this) hP1.nodup
      (rf_look_setRows (t := s1.log .begin) hg.tinv hrows hentS K now cols e he)
      (by
        have := rf_setRows_keep hi1 K now cols
        rw [show (s1.log .begin).rows = s.rows from hrows] at this
        exact this)
      (by
        have h := rf_setRows_size_le hi1 K.1 K.2 now cols hnn
        rw [show (s1.log .begin).size = s.size from hsize, hcs] at h
        exact h)
  · rw [if_neg hb]
    obtain ⟨hok, hout, hfiles, -⟩ := rf_setBody_fail (s1.log .begin) K.1 K.2 now cols
      (by simpa only [Bool.and_eq_true] using hb)
    rw [hok] at hR
    simp only [Bool.false_eq_true, if_false] at hR
    refine ⟨hO.trans hout, fun k' => ?_⟩
    rw [rf_same hg' (b := s1) (by intro q hq; have := hF q hq; rw [hfiles] at this; exact this)
      hP1.nodup, hR, hrows]
    exact rf_look_congr hentS k'

theorem rf_set_view_gen (s : Cache) (E : Externals) (now : Int) (k v : PyVal) (ttl : Option Int)
    (read : Bool) (tag : SqlVal) (hg : Good s) :
    match place E s.cfg.disk s.cfg.minFileSize v read with
    | .error _ => s.set E now k v ttl read tag = (s, .exc "UnicodeEncodeError")
    | .ok p =>
      if bindable (keyOf E s.cfg k).1 && bindable (entryOf p (ttl.map (now + ·)) tag).tag &&
          bindable (entryOf p (ttl.map (now + ·)) tag).val then
        (s.set E now k v ttl read tag).2 = .bool true ∧
        rf_Wrote s (s.set E now k v ttl read tag).1 (keyOf E s.cfg k) now
          (entryOf p (ttl.map (now + ·)) tag)
      else
        (s.set E now k v ttl read tag).2 = .exc "UnicodeEncodeError" ∧
        ∀ k', rf_view (s.set E now k v ttl read tag).1 k' = rf_view s k' := by
  have hst := rf_store s E v read hg.pi
  have hg' := set_good s E now k v ttl read tag hg
  cases hpl : place E s.cfg.disk s.cfg.minFileSize v read with
  | error e =>
    rw [hpl] at hst
    simp only at hst ⊢
    rw [set_eq, hst]
  | ok p =>
    rw [hpl] at hst
    obtain ⟨s1, c, hst, -, -, -, hfsub, -, -, hval, hent1⟩ := hst
    simp only
    have hS : s.set E now k v ttl read tag =
        s1.transact (fresh := c.file) (setBody (keyOf E s.cfg k).1 (keyOf E s.cfg k).2 now
          { c with expT := ttl.map (now + ·), tag := tag }) := by
      rw [set_eq, hst]; rfl
    rw [hS] at hg' ⊢
    rw [rf_entryOf_tag, rf_entryOf_val p _ none _ .null, ← hval, Bool.and_assoc]
    exact rf_setTx_view { c with expT := ttl.map (now + ·), tag := tag } (keyOf E s.cfg k) now _ hg hst hg'
      hfsub (put_ne_null' E s.cfg.disk k)
      (by
        intro r h1 h2 h3 h4 h5
        simp only at h1 h2 h3 h4 h5
        rw [hent1 r h1 h2 h3, h4, h5])
      (rf_store_size hst hpl _ _)

theorem rf_set_view (s : Cache) (E : Externals) (now : Int) (k v : PyVal) (ttl : Option Int)
    (read : Bool) (tag : SqlVal) (hg : Good s) (hp : s.cfg.policy = .none) :
    match place E s.cfg.disk s.cfg.minFileSize v read with
    | .error _ => s.set E now k v ttl read tag = (s, .exc "UnicodeEncodeError")
    | .ok p =>
      if bindable (keyOf E s.cfg k).1 && bindable (entryOf p (ttl.map (now + ·)) tag).tag &&
          bindable (entryOf p (ttl.map (now + ·)) tag).val then
        (s.set E now k v ttl read tag).2 = .bool true ∧
        rf_Culled now (rf_at (keyOf E s.cfg k) (some (entryOf p (ttl.map (now + ·)) tag)) (rf_view s))
          (rf_view (s.set E now k v ttl read tag).1)
      else
        (s.set E now k v ttl read tag).2 = .exc "UnicodeEncodeError" ∧
        ∀ k', rf_view (s.set E now k v ttl read tag).1 k' = rf_view s k' := by
  have h := rf_set_view_gen s E now k v ttl read tag hg
  revert h
  cases place E s.cfg.disk s.cfg.minFileSize v read with
  | error e => exact id
  | ok p =>
    simp only
    split
    · exact fun h => ⟨h.1, rf_Wrote_none h.2 hp⟩
    · exact id

/-! ### `touch` -/

def rf_touchU (now : Int) (ne : Option Int) (v : Option Entry) : Option Entry :=
  match v with
  | some e => if e.live now then some { e with expT := ne } else some e
  | none => none

def rf_touchBody (dbk : SqlVal) (raw : Bool) (now : Int) (ttl : Option Int) (s : Cache) : Body :=
  let old := s.selKey dbk raw
  let s := s.logSql "selKey"
  match old with
  | some r => if live now r then { s := s.updExp r.rowid (ttl.map (now + ·)), out := .bool true }
              else { s := s, out := .bool false }
  | none => { s := s, out := .bool false }

theorem rf_touch_eq (s : Cache) (E : Externals) (now : Int) (k : PyVal) (ttl : Option Int) :
    s.touch E now k ttl = s.transact (rf_touchBody (keyOf E s.cfg k).1 (keyOf E s.cfg k).2 now ttl) := rfl

theorem rf_touch_view (s : Cache) (E : Externals) (now : Int) (k : PyVal) (ttl : Option Int)
    (hg : Good s) :
    (s.touch E now k ttl).2 = .bool (rf_has now (rf_view s (keyOf E s.cfg k))) ∧
    ∀ k', rf_view (s.touch E now k ttl).1 k' =
      rf_at (keyOf E s.cfg k) (rf_touchU now (ttl.map (now + ·)) (rf_view s (keyOf E s.cfg k)))
        (rf_view s) k' := by
  have hg' := touch_good s E now k ttl hg
  rw [rf_touch_eq] at hg' ⊢
  obtain ⟨hR, hF, -, hO⟩ := rf_transact s (rf_touchBody (keyOf E s.cfg k).1 (keyOf E s.cfg k).2 now ttl)
    none hg.depth
  -- no live row: the body only logs its SELECT
  have hnone : rf_touchBody (keyOf E s.cfg k).1 (keyOf E s.cfg k).2 now ttl (s.log .begin) =
        { s := (s.log .begin).logSql "selKey", out := .bool false } →
      rf_has now (rf_view s (keyOf E s.cfg k)) = false →
      rf_touchU now (ttl.map (now + ·)) (rf_view s (keyOf E s.cfg k)) = rf_view s (keyOf E s.cfg k) →
      (s.transact (rf_touchBody (keyOf E s.cfg k).1 (keyOf E s.cfg k).2 now ttl)).2 =
        .bool (rf_has now (rf_view s (keyOf E s.cfg k))) ∧
      ∀ k', rf_view (s.transact (rf_touchBody (keyOf E s.cfg k).1 (keyOf E s.cfg k).2 now ttl)).1 k' =
        rf_at (keyOf E s.cfg k) (rf_touchU now (ttl.map (now + ·)) (rf_view s (keyOf E s.cfg k)))
          (rf_view s) k' := by
    intro hb hh hU
    rw [hb] at hR hF hO
    simp only [if_true] at hR
    refine ⟨by rw [hO, hh], fun k' => ?_⟩
    rw [rf_same hg' (b := s) hF hg.finv.nodup, hR, hU, rf_at_self (fun k'' h => rf_view_sameKey h s)]
    rfl
  rcases rf_selKey_cases hg.tinv (keyOf E s.cfg k) with ⟨r, hsel, hr, hk, hv⟩ | ⟨hsel, hv⟩
  · have hsel' : (s.log .begin).selKey (keyOf E s.cfg k).1 (keyOf E s.cfg k).2 = some r := hsel
    cases hl : live now r with
    | true =>
      have hb : rf_touchBody (keyOf E s.cfg k).1 (keyOf E s.cfg k).2 now ttl (s.log .begin) =
          { s := ((s.log .begin).logSql "selKey").updExp r.rowid (ttl.map (now + ·)), out := .bool true } := by
        unfold rf_touchBody; simp only [hsel', hl, if_true]
      rw [hb] at hR hF hO
      simp only [if_true] at hR
      refine ⟨by rw [hO, hv]; simp [rf_has, rf_ent_live, hl], ?_⟩
      intro k'
      rw [rf_same hg' (b := s) hF hg.finv.nodup, hR]
      show rf_look (s.rows.map (fun (x : Row) => if x.rowid == r.rowid then { x with expT := ttl.map (now + ·) } else x)) s k' = _
      rw [rf_look_upd hg.tinv s hr hk (fun x => { x with expT := ttl.map (now + ·) }) (fun _ => ⟨rfl, rfl⟩), hv]
      simp only [rf_touchU, rf_ent_live, hl, if_true]
      rfl
    | false =>
      exact hnone (by unfold rf_touchBody; simp only [hsel', hl, Bool.false_eq_true, if_false])
        (by rw [hv]; simp [rf_has, rf_ent_live, hl]) (by rw [hv]; simp [rf_touchU, rf_ent_live, hl])
  · have hsel' : (s.log .begin).selKey (keyOf E s.cfg k).1 (keyOf E s.cfg k).2 = none := hsel
    exact hnone (by unfold rf_touchBody; simp only [hsel']) (by rw [hv]; rfl) (by rw [hv]; rfl)

theorem rf_touchU_rel {v d : Option Entry} {now : Int} (ne : Option Int) (h : rf_VRel v d now) :
    rf_VRel (rf_touchU now ne v) (rf_touchU now ne d) now := by
  rcases rf_VRel_cases h with h1 | ⟨h1, e, hd, he, hl⟩
  · rw [h1]; exact rf_VRel_refl _ _
  · rw [h1, hd]
    simp only [rf_touchU, hl, Bool.false_eq_true, if_false]
    exact .inr ⟨rfl, he⟩

/-- `touch` on the dictionary, in terms of what it holds for the key: the result; the dictionary
afterwards is `m` or `m` with the key rebound, so has every property `P` these have; what it then
holds for each key -/
theorem rf_touch_spec (m : Dict) (E : Externals) (cfg : Cfg) (now : Int) (k : PyVal) (ttl : Option Int) :
    (Spec.touch m E cfg now k ttl).2 = .bool (rf_has now (m.get (keyOf E cfg k))) ∧
    (∀ P : Dict → Prop, P m → (∀ e, P (m.put (keyOf E cfg k) e)) → P (Spec.touch m E cfg now k ttl).1) ∧
    ∀ k', (Spec.touch m E cfg now k ttl).1.get k' =
      rf_at (keyOf E cfg k) (rf_touchU now (ttl.map (now + ·)) (m.get (keyOf E cfg k))) m.get k' := by
  unfold Spec.touch rf_has rf_touchU
  cases hd : m.get (keyOf E cfg k) with
  | none =>
    refine ⟨rfl, fun _ h _ => h, fun k' => ?_⟩
    simp only
    rw [← hd, rf_at_self (fun k'' h => rf_get_sameKey h m)]
  | some e =>
    simp only
    cases hl : e.live now with
    | true =>
      simp only [if_true]
      exact ⟨trivial, fun _ _ h => h _, fun k' => rf_get_put _ _ _ _⟩
    | false =>
      simp only [Bool.false_eq_true, if_false]
      refine ⟨trivial, fun _ h _ => h, fun k' => ?_⟩
      rw [← hd, rf_at_self (fun k'' h => rf_get_sameKey h m)]

/-! ### `add` -/

def rf_addBody (dbk : SqlVal) (raw : Bool) (now : Int) (c : Cols) (s : Cache) : Body :=
  if !bindable dbk then { s := s.log (.sqlFail "selKey"), out := .exc "UnicodeEncodeError", ok := false } else
  let old := s.selKey dbk raw
  let s := s.logSql "selKey"
  match old with
  | some r =>
    if live now r then { s := s, out := .bool false, cleanup := [c.file] }
    else if !c.bindable then
      { s := s.log (.sqlFail "updRow"), out := .exc "UnicodeEncodeError", ok := false }
    else
      let s := s.updRow r.rowid now c
      let (s, cl2) := s.cullW now
      { s := s, out := .bool true, cleanup := [r.file] ++ cl2 }
  | none =>
    if !c.bindable then
      { s := s.log (.sqlFail "insRow"), out := .exc "UnicodeEncodeError", ok := false }
    else
    let s := s.insRow dbk raw now c
    let (s, cl2) := s.cullW now
    { s := s, out := .bool true, cleanup := cl2 }

theorem rf_add_eq (s : Cache) (E : Externals) (now : Int) (k v : PyVal) (ttl : Option Int) (read : Bool)
    (tag : SqlVal) :
    s.add E now k v ttl read tag =
      match s.store E v read with
      | .error _ => (s, .exc "UnicodeEncodeError")
      | .ok (s1, c) =>
        s1.transact (fresh := c.file) (rf_addBody (keyOf E s.cfg k).1 (keyOf E s.cfg k).2 now
          { c with expT := ttl.map (now + ·), tag := tag }) := by
  unfold add rf_addBody
  rfl

theorem rf_addBody_live (t : Cache) (dbk : SqlVal) (raw : Bool) (now : Int) (c : Cols)
    (hb : bindable dbk = true) {r : Row} (hs : t.selKey dbk raw = some r) (hl : live now r = true) :
    (rf_addBody dbk raw now c t).ok = true ∧ (rf_addBody dbk raw now c t).out = .bool false ∧
    (rf_addBody dbk raw now c t).s.rows = t.rows ∧ (rf_addBody dbk raw now c t).s.files = t.files := by
  unfold rf_addBody
  simp only [hb, hs, hl, Bool.not_true, Bool.false_eq_true, if_false, if_true]
  exact ⟨trivial, trivial, rfl, rfl⟩

theorem rf_addBody_store (t : Cache) (dbk : SqlVal) (raw : Bool) (now : Int) (c : Cols)
    (hnl : bindable dbk = true → ∀ r, t.selKey dbk raw = some r → live now r = false) :
    rf_addBody dbk raw now c t = setBody dbk raw now c t := by
  unfold rf_addBody setBody
  cases hb : bindable dbk with
  | false => rfl
  | true =>
    simp only [Bool.not_true, Bool.false_eq_true, if_false]
    cases hs : t.selKey dbk raw with
    | some r => simp only [hnl hb r hs, Bool.false_eq_true, if_false]; split <;> rfl
    | none => simp only; split <;> rfl

theorem rf_add_eq_set (s : Cache) (E : Externals) (now : Int) (k v : PyVal) (ttl : Option Int)
    (read : Bool) (tag : SqlVal) (hg : Good s)
    (hnl : ¬ (bindable (keyOf E s.cfg k).1 = true ∧ rf_has now (rf_view s (keyOf E s.cfg k)) = true)) :
    s.add E now k v ttl read tag = s.set E now k v ttl read tag := by
  rw [rf_add_eq, set_eq]
  cases hst : s.store E v read with
  | error e => rfl
  | ok p =>
    obtain ⟨s1, c⟩ := p
    simp only
    apply rf_transact_congr s1 c.file (store_PI hst hg.pi).1.depth
    apply rf_addBody_store
    intro hb r hr
    rw [selKey_rows (show (s1.log .begin).rows = s.rows from (store_keep hst).1)] at hr
    rcases rf_selKey_cases hg.tinv (keyOf E s.cfg k) with ⟨r', hsel, -, -, hv⟩ | ⟨hsel, -⟩
    · rw [hsel] at hr; cases hr
      cases hl : live now r with
      | false => rfl
      | true => exact absurd ⟨hb, by rw [hv]; exact hl⟩ hnl
    · rw [hsel] at hr; cases hr

theorem rf_add_live (s : Cache) (E : Externals) (now : Int) (k v : PyVal) (ttl : Option Int)
    (read : Bool) (tag : SqlVal) (hg : Good s) {p : Placement}
    (hpl : place E s.cfg.disk s.cfg.minFileSize v read = .ok p)
    (hb : bindable (keyOf E s.cfg k).1 = true)
    (hh : rf_has now (rf_view s (keyOf E s.cfg k)) = true) :
    (s.add E now k v ttl read tag).2 = .bool false ∧
    ∀ k', rf_view (s.add E now k v ttl read tag).1 k' = rf_view s k' := by
  have hg' := add_good s E now k v ttl read tag hg
  have hst := rf_store s E v read hg.pi
  rw [hpl] at hst
  obtain ⟨s1, c, hst, hrows, -, hP1, hfsub, -⟩ := hst
  rw [rf_add_eq, hst] at hg' ⊢
  simp only at hg' ⊢
  rcases rf_selKey_cases hg.tinv (keyOf E s.cfg k) with ⟨r, hsel, -, -, hv⟩ | ⟨-, hv⟩
  · rw [hv] at hh
    obtain ⟨hR, hF, -, hO⟩ := rf_transact s1 (rf_addBody (keyOf E s.cfg k).1 (keyOf E s.cfg k).2 now
      { c with expT := ttl.map (now + ·), tag := tag }) c.file hP1.depth
    obtain ⟨hok, hout, hrw, hfiles⟩ := rf_addBody_live (s1.log .begin) (keyOf E s.cfg k).1
      (keyOf E s.cfg k).2 now { c with expT := ttl.map (now + ·), tag := tag } hb
      ((selKey_rows (show (s1.log .begin).rows = s.rows from hrows) _ _).trans hsel) hh
    rw [hok] at hR
    refine ⟨hO.trans hout, fun k' => ?_⟩
    rw [rf_same hg' (b := s1) (by intro q hq; have := hF q hq; rw [hfiles] at this; exact this)
      hP1.nodup, hR.trans hrw, show (s1.log .begin).rows = s.rows from hrows]
    exact rf_look_congr (fun r hr => (rf_ent_mono hfsub hP1.nodup (rf_good_ref hg hr)).symm) k'
  · rw [hv] at hh; cases hh

theorem rf_add_error (s : Cache) (E : Externals) (now : Int) (k v : PyVal) (ttl : Option Int)
    (read : Bool) (tag : SqlVal) (hg : Good s) {e : StoreErr}
    (hpl : place E s.cfg.disk s.cfg.minFileSize v read = .error e) :
    s.add E now k v ttl read tag = (s, .exc "UnicodeEncodeError") := by
  have hst := rf_store s E v read hg.pi
  rw [hpl] at hst
  simp only at hst
  rw [rf_add_eq, hst]

end DC.Cache
