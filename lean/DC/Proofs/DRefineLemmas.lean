/-
C11_Refine, helper lemmas: `Disk.store` in terms of `place` (without the quiescence
that `rf_store` needs), readability of stored representations, one round of
`pull` / `peek` outside a block, the stages of `Deque.append` inside its block (`drf_stage_*`).
-/
import DC.Proofs.DRefineBlock
import DC.Proofs.RefineCfg
import DC.Model.DSpec

namespace DC.Cache
open DC.Spec

theorem drf_fileGet_append_new (x : Cache) (ct : Content) (l : List (Nat × Content))
    (hl : l = x.files ++ [(x.nfile, ct)]) (hfresh : ∀ p ∈ x.files, p.1 < x.nfile) :
    (l.find? (·.1 == x.nfile)).map (·.2) = some ct := by
  rw [hl, List.find?_append]
  have : x.files.find? (·.1 == x.nfile) = none := by
    rw [List.find?_eq_none]
    intro p hp
    have := hfresh p hp
    simp only [beq_iff_eq]
    omega
  rw [this]
  simp

theorem drf_store_place (x : Cache) (E : Externals) (v : PyVal)
    (hfresh : ∀ p ∈ x.files, p.1 < x.nfile) :
    match place E x.cfg.disk x.cfg.minFileSize v false with
    | .error e => x.store E v false = .error e
    | .ok p => ∃ x1 c, x.store E v false = .ok (x1, c) ∧
        c.val = (entryOf p none .null).val ∧ (c.file ≠ none → c.val = .null) ∧
        (∀ r : Row, r.mode = c.mode → r.val = c.val → r.file = c.file →
          rf_ent x1 r = entryOf p r.expT r.tag) := by
  unfold store
  cases hpl : place E x.cfg.disk x.cfg.minFileSize v false with
  | error e => rfl
  | ok p =>
    cases p with
    | inline mode sv =>
      refine ⟨x, _, rfl, rfl, fun h => absurd rfl h, ?_⟩
      intro r h1 h2 h3
      simp only at h1 h2 h3
      unfold rf_ent entryOf
      simp [h1, h2, h3]
    | file mode ct =>
      refine ⟨(x.fwrite ct).1, _, rfl, rfl, fun _ => rfl, ?_⟩
      intro r h1 h2 h3
      simp only at h1 h2 h3
      have hget : (x.fwrite ct).1.fileGet x.nfile = some ct :=
        drf_fileGet_append_new x ct _ rfl hfresh
      unfold rf_ent entryOf
      have h3' : r.file = some x.nfile := h3
      simp [h1, h2, h3', hget]

/-- the stored representation can be read back: `Disk.fetch` does not fail on it -/
def drf_Readable (e : Entry) : Prop :=
  ∀ (E : Externals) (dk : DiskKind), fetch E dk e.mode e.content e.content.isSome e.val false ≠ .ioerror

/-- the five shapes of what `Disk.store` decides for a value (not a stream): a raw cell that reads
back as the value, a text file, a binary file, a pickle in a cell, a pickle in a file -/
theorem drf_Disk_place_cases (E : Externals) (mfs : Nat) (v : PyVal) (p : Placement)
    (h : Disk.place E mfs v false = .ok p) :
    (∃ sv, column sv = v ∧ p = .inline MODE_RAW sv) ∨
    (∃ s, v = .str s ∧ p = .file MODE_TEXT (.text s)) ∨
    (∃ b, v = .bytes b ∧ p = .file MODE_BINARY (.bin b)) ∨
    p = .inline MODE_PICKLE (.blob (E.dumpsV v)) ∨ p = .file MODE_PICKLE (.bin (E.dumpsV v)) := by
  have hpk : ∀ {q : Except StoreErr Placement},
      q = (if (E.dumpsV v).length < mfs then .ok (.inline MODE_PICKLE (.blob (E.dumpsV v)))
        else .ok (.file MODE_PICKLE (.bin (E.dumpsV v)))) → q = .ok p →
      p = .inline MODE_PICKLE (.blob (E.dumpsV v)) ∨ p = .file MODE_PICKLE (.bin (E.dumpsV v)) := by
    intro q hq hp
    rw [hq] at hp
    split at hp <;> cases hp
    · exact .inl rfl
    · exact .inr rfl
  unfold Disk.place at h
  rw [if_neg Bool.false_ne_true] at h
  cases v with
  | str s =>
    simp only at h
    split at h
    · cases h; exact .inl ⟨_, rfl, rfl⟩
    · split at h <;> cases h
      exact .inr (.inl ⟨s, rfl, rfl⟩)
  | int i =>
    simp only at h
    split at h
    · cases h; exact .inl ⟨_, rfl, rfl⟩
    · exact .inr (.inr (.inr (hpk rfl h)))
  | float f =>
    simp only at h
    split at h
    · exact .inr (.inr (.inr (hpk rfl h)))
    · cases h; exact .inl ⟨_, rfl, rfl⟩
  | bytes b =>
    simp only at h
    split at h <;> cases h
    · exact .inl ⟨_, rfl, rfl⟩
    · exact .inr (.inr (.inl ⟨b, rfl, rfl⟩))
  | none => exact .inr (.inr (.inr (hpk rfl h)))
  | obj o => exact .inr (.inr (.inr (hpk rfl h)))

theorem drf_Disk_place_readable (E : Externals) (mfs : Nat) (v : PyVal) (p : Placement)
    (h : Disk.place E mfs v false = .ok p) (eT : Option Int) (tg : SqlVal) (E' : Externals) :
    Disk.fetch E' (entryOf p eT tg).mode (entryOf p eT tg).content (entryOf p eT tg).content.isSome
      (entryOf p eT tg).val false ≠ .ioerror := by
  rcases drf_Disk_place_cases E mfs v p h with ⟨sv, -, rfl⟩ | ⟨s, -, rfl⟩ | ⟨b, -, rfl⟩ | rfl | rfl <;>
    exact fun hf => Fetched.noConfusion hf

theorem drf_fetch_ioerror (E : Externals) (dk : DiskKind) (mode : Nat) (file : Option Content) (hf : Bool)
    (v : SqlVal) (rd : Bool) (h : Disk.fetch E mode file hf v rd ≠ .ioerror) :
    fetch E dk mode file hf v rd ≠ .ioerror := by
  cases dk with
  | pickle => exact h
  | json =>
    unfold fetch
    simp only
    split
    · split <;> simp
    · exact h

theorem drf_place_readable (E : Externals) (dk : DiskKind) (mfs : Nat) (v : PyVal) (p : Placement)
    (h : place E dk mfs v false = .ok p) (eT : Option Int) (tg : SqlVal) :
    drf_Readable (entryOf p eT tg) := by
  intro E' dk'
  apply drf_fetch_ioerror
  cases dk with
  | pickle => exact drf_Disk_place_readable E mfs v p h eT tg E'
  | json =>
    unfold place at h
    simp only [Bool.false_eq_true, if_false] at h
    exact drf_Disk_place_readable E mfs _ p h eT tg E'

theorem drf_pullSel_core (s : Cache) (hd : s.depth = 0) : core (pullSel s) = core s :=
  rf_transact_core_same s selBody none hd ⟨rfl, rfl, rfl⟩

theorem drf_filter_nil_cl (l : List (Nat × Content)) :
    l.filter (fun p => !([] : List (Option Nat)).contains (some p.1)) = l := by
  rw [List.filter_eq_self]; intros; rfl

theorem drf_pullTake_zero (s : Cache) (E : Externals) (r : Row) (hd : s.depth = 0) :
    core (pullTake s E r) =
      { core s with rows := s.rows.filter (fun a => ![r.rowid].contains a.rowid),
                    files := s.files.filter (fun p => ![r.file].contains (some p.1)) } := by
  have h1 : core (pullDel s r []) =
      { core s with rows := s.rows.filter (fun a => ![r.rowid].contains a.rowid) } := by
    unfold pullDel
    rw [transact_ok_core s (delBody r []) none hd rfl]
    unfold delBody
    simp only [core_delRow, core_logSql, core_log, core_files, drf_filter_nil_cl]
    rfl
  have hd2 : ((pullDel s r []).fetchRow E r false).1.depth = 0 := by
    have := congrArg Core.depth ((core_fetchRow (pullDel s r []) E r false).trans h1)
    simp only [core_depth] at this
    rw [this]; exact hd
  unfold pullTake
  rw [removeCommitted_zero _ _ hd2, core_fremoveAll, core_fetchRow, h1]
  rfl

theorem drf_pull_none (s : Cache) (E : Externals) (now : Int) (front : Bool)
    (hh : qhead s none front = none) :
    (s.pull E now none front false false).1 = pullSel s := by
  unfold pull
  rw [pullLoop_succ]
  simp only [hh]

theorem drf_peek_none (s : Cache) (E : Externals) (now : Int) (front : Bool)
    (hh : qhead s none front = none) :
    (s.peek E now none front false false).1 = pullSel s := by
  unfold peek
  rw [peekLoop_succ]
  simp only [hh]

theorem drf_peek_one (s : Cache) (E : Externals) (now : Int) (front : Bool) (r : Row)
    (hh : qhead s none front = some r) (hlive : expired now r = false)
    (hf : (s.fetchRow E r false).2 ≠ .ioerror) :
    (s.peek E now none front false false).1 = ((pullSel s).fetchRow E r false).1 := by
  unfold peek
  rw [peekLoop_succ]
  simp only [hh, hlive, Bool.false_eq_true, if_false]
  rw [pullSel_fetch s E r]
  split
  · contradiction
  · rfl

theorem drf_peek_core (s : Cache) (E : Externals) (now : Int) (front : Bool) (hd : s.depth = 0)
    (hlive : ∀ r ∈ s.queueRows none, expired now r = false)
    (hf : ∀ r ∈ s.queueRows none, (s.fetchRow E r false).2 ≠ .ioerror) :
    core (s.peek E now none front false false).1 = core s := by
  cases hh : qhead s none front with
  | none => rw [drf_peek_none s E now front hh, drf_pullSel_core s hd]
  | some r =>
    have hr := qhead_mem hh
    rw [drf_peek_one s E now front r hh (hlive r hr) (hf r hr), core_fetchRow, drf_pullSel_core s hd]

theorem drf_valueOf (c : Cache) (E : Externals) (r : Row)
    (href : ∀ f, r.file = some f → ∃ ct, c.fileGet f = some ct) (hrd : drf_Readable (rf_ent c r)) :
    (c.fetchRow E r false).2 ≠ .ioerror ∧
    DSpec.valueOf (rf_ent c r) E c.cfg = fetchedOut (c.fetchRow E r false).2 := by
  have hfr := rf_fetchRow c E r false href
  have hne : (c.fetchRow E r false).2 ≠ .ioerror := by rw [hfr]; exact hrd E c.cfg.disk
  refine ⟨hne, ?_⟩
  unfold DSpec.valueOf Entry.out
  rw [← hfr]
  generalize (c.fetchRow E r false).2 = f at hne
  cases f <;> simp [withFlags] at hne ⊢

theorem drf_BI_nodup {x : Cache} (h : drf_BI x) : (x.files.map (·.1)).Nodup := h.pi.nodup

theorem drf_BI_href {x : Cache} (h : drf_BI x) {a : Row} (ha : a ∈ x.rows) :
    ∀ f, a.file = some f → ∃ ct, x.fileGet f = some ct := by
  intro f hf
  obtain ⟨-, ct, h1, -⟩ := h.pi.ref a ha f hf
  exact ⟨ct, fileGet_of_mem (drf_BI_nodup h) h1⟩

theorem drf_ent_files {a b : Cache} (h : a.files = b.files) (r : Row) : rf_ent a r = rf_ent b r := by
  unfold rf_ent fileGet
  rw [h]

/-- `Y` is `X` with some rows removed: same configuration, and the rows left denote what they did -/
structure drf_Sub (X Y : Cache) : Prop where
  cfg : Y.cfg = X.cfg
  statistics : Y.statistics = X.statistics
  rows : ∀ a ∈ Y.rows, a ∈ X.rows
  entries : ∀ a ∈ Y.rows, rf_ent Y a = rf_ent X a

theorem drf_Sub.refl (X : Cache) : drf_Sub X X := ⟨rfl, rfl, fun _ h => h, fun _ _ => rfl⟩

theorem drf_Sub.trans {X Y Z : Cache} (h1 : drf_Sub X Y) (h2 : drf_Sub Y Z) : drf_Sub X Z where
  cfg := h2.cfg.trans h1.cfg
  statistics := h2.statistics.trans h1.statistics
  rows a ha := h1.rows a (h2.rows a ha)
  entries a ha := (h2.entries a ha).trans (h1.entries a (h2.rows a ha))

/-- leaving the block: a quiescent state with the same table; the surviving rows denote the same
entries -/
theorem drf_stage_tend (x : Cache) (h : drf_BI x) :
    Good x.tend ∧ x.tend.queueRows none = x.queueRows none ∧ drf_Sub x x.tend := by
  obtain ⟨hg, hc⟩ := drf_BI_tend x h
  have hfiles : x.tend.files = x.files.filter (fun p => !x.pending.contains (some p.1)) :=
    congrArg Core.files hc
  have hrows : x.tend.rows = x.rows := congrArg Core.rows hc
  refine ⟨hg, tend_queueRows x none, congrArg Core.cfg hc, congrArg Core.statistics hc,
    fun a ha => hrows ▸ ha, fun a ha => ?_⟩
  exact rf_ent_mono (a := x.tend) (b := x)
    (by intro p hp; rw [hfiles] at hp; exact (List.mem_filter.1 hp).1) (drf_BI_nodup h)
    (rf_good_ref hg ha)

/-- one `pull` inside the block from a non-empty queue whose rows never expire and can be read: the
end row goes, the others and the configuration stay -/
theorem drf_stage_pull_end (X : Cache) (E : Externals) (now : Int) (front : Bool) (hBI : drf_BI X)
    (hrd : ∀ a ∈ X.rows, drf_Readable (rf_ent X a)) (hexp : ∀ a ∈ X.rows, a.expT = none)
    (hne : X.queueRows none ≠ []) :
    drf_BI (X.pull E now none front false false).1 ∧
    (X.pull E now none front false false).1.queueRows none =
      (if front then (X.queueRows none).tail else (X.queueRows none).dropLast) ∧
    drf_Sub X (X.pull E now none front false false).1 := by
  obtain ⟨r0, hh⟩ : ∃ r0, (if front then (X.queueRows none).head?
      else (X.queueRows none).getLast?) = some r0 := by
    cases front with
    | false => exact ⟨_, List.getLast?_eq_some_getLast hne⟩
    | true => exact ⟨_, List.head?_eq_some_head hne⟩
  have hqh : qhead X none front = some r0 := by unfold qhead lastRow?; exact hh
  have hr0 : r0 ∈ X.rows := (mem_qrows.1 (qhead_mem hqh)).1
  have hlive : expired now r0 = false := by unfold expired; rw [hexp r0 hr0]
  have hf : (X.fetchRow E r0 false).2 ≠ .ioerror :=
    (drf_valueOf X E r0 (drf_BI_href hBI hr0) (hrd r0 hr0)).1
  obtain ⟨hBI2, hc⟩ := drf_BI_pull X E now front r0 hBI hqh hlive hf
  have hr2 : (X.pull E now none front false false).1.rows = X.rows.filter (fun a => ![r0.rowid].contains a.rowid) :=
    congrArg Core.rows hc
  exact ⟨hBI2, (pull_end X E now none front hBI.tinv r0 hh hlive hf).2, congrArg Core.cfg hc,
    congrArg Core.statistics hc, fun a ha => by rw [hr2] at ha; exact (List.mem_filter.1 ha).1,
    fun a _ => drf_ent_files (congrArg Core.files hc) a⟩

/-- the number `push` picks keeps the budget: one step beyond the end item, or the origin -/
theorem drf_pushNum_bounds (s : Cache) (back : Bool) (n : Nat) {num : Int}
    (hroom : ∀ r ∈ s.queueRows none, ∀ k, queueNum r.key = some k →
      1 + ((n + 1 : Nat) : Int) ≤ k ∧ k + ((n + 1 : Nat) : Int) ≤ 999999999999998)
    (hor : n + 1 ≤ s.cfg.qorigin ∧ s.cfg.qorigin + (n + 1) ≤ 999999999999999)
    (hn : pushNum s none back = some num) :
    1 + (n : Int) ≤ num ∧ num + (n : Int) ≤ 999999999999998 := by
  unfold pushNum at hn
  split at hn
  · simp only [Option.some.injEq] at hn
    subst hn
    constructor <;> omega
  · rename_i r hr
    have hmem : r ∈ s.queueRows none := by
      cases back with
      | true => exact lastRow?_mem hr
      | false => exact List.mem_of_head? hr
    cases hk : queueNum r.key with
    | none => rw [hk] at hn; cases hn
    | some k =>
      rw [hk] at hn
      simp only [Option.map_some, Option.some.injEq] at hn
      have := hroom r hmem k hk
      subst hn
      cases back <;> simp <;> omega

/-- `X` is `s` with one more row `r`, at the chosen end of the queue, that never expires, carries
the number `num` and denotes `e`; `X` is inside a block -/
structure drf_Pushed (s X : Cache) (n : Nat) (left : Bool) (e : Entry) (r : Row) (num : Int) : Prop where
  bi : drf_BI X
  rows : X.rows = s.rows ++ [r]
  queue : X.queueRows none = (if left then r :: s.queueRows none else s.queueRows none ++ [r])
  cfg : X.cfg = s.cfg
  statistics : X.statistics = s.statistics
  expT : r.expT = none
  key : r.key = .int num
  /-- `num` keeps `n` steps away from both ends of the usable numbers -/
  room : 1 + (n : Int) ≤ num ∧ num + (n : Int) ≤ 999999999999998
  files : ∀ q ∈ s.files, q ∈ X.files
  entry : rf_ent X r = e

theorem drf_Pushed.fresh {s X n left e r num} (h : drf_Pushed s X n left e r num) : r ∉ s.rows := by
  intro hr
  have hasc := h.bi.tinv.tbl.asc
  unfold RowidsAsc at hasc
  rw [h.rows, List.pairwise_append] at hasc
  have := hasc.2.2 r hr r (by simp)
  omega

theorem drf_Pushed.inQueue {s X n left e r num} (h : drf_Pushed s X n left e r num) :
    qfilter none r = true := by
  have hrq : r ∈ qrows X.rows none := by
    rw [← queueRows_eq, h.queue]; cases left <;> simp
  exact (mem_qrows.1 hrq).2

/-- a row of `X` is the new one, or an old one that denotes what it did -/
theorem drf_Pushed.entries {s X n left e r num} (h : drf_Pushed s X n left e r num) (hg : Good s) :
    ∀ a ∈ X.rows, (a = r ∧ rf_ent X a = e) ∨ (a ∈ s.rows ∧ rf_ent X a = rf_ent s a) := by
  intro a ha
  rw [h.rows] at ha
  rcases List.mem_append.1 ha with ha | ha
  · exact .inr ⟨ha, (rf_ent_mono h.files (drf_BI_nodup h.bi) (rf_good_ref hg ha)).symm⟩
  · cases List.mem_singleton.1 ha
    exact .inl ⟨rfl, h.entry⟩

/-- the first stage of `append` / `appendleft` when the value can be stored: inside the block one
row is added at the chosen end; it denotes the entry of the placement; nothing else changes -/
theorem drf_stage_push (s : Cache) (E : Externals) (now : Int) (v : PyVal) (left : Bool) (n : Nat)
    (hg : Good s) (hpol : s.cfg.policy = .none) (hnoexp : ∀ r ∈ s.rows, r.expT = none)
    (hqok : QueueOk s none) (hor : OriginOk s)
    (hroom : ∀ r ∈ s.queueRows none, ∀ k, queueNum r.key = some k →
      1 + ((n + 1 : Nat) : Int) ≤ k ∧ k + ((n + 1 : Nat) : Int) ≤ 999999999999998)
    (horN : n + 1 ≤ s.cfg.qorigin ∧ s.cfg.qorigin + (n + 1) ≤ 999999999999999)
    {p : Placement} (hpl : place E s.cfg.disk s.cfg.minFileSize v false = .ok p)
    (hbind : bindable (entryOf p none .null).val = true) :
    ∃ (r : Row) (num : Int),
      drf_Pushed s (s.tbegin.push E now v none (!left) none false .null).1 n left (entryOf p none .null) r num ∧
      (s.tbegin.push E now v none (!left) none false .null).2 = .val (.int num) := by
  obtain ⟨hb0, hp0⟩ := drf_BI_tbegin s hg
  have hsp := drf_store_place s.tbegin E v hb0.pi.fresh
  rw [tbegin_cfg, hpl] at hsp
  obtain ⟨x1, c, hst, hval, -, hent⟩ := hsp
  have hb : (colsOf c none now .null).bindable = true := by
    show (DC.Cache.bindable .null && DC.Cache.bindable c.val) = true
    rw [hval, hbind]; rfl
  have hroom' : ∀ r ∈ s.tbegin.queueRows none, ∀ k, queueNum r.key = some k →
      1 + ((n + 1 : Nat) : Int) ≤ k ∧ k + ((n + 1 : Nat) : Int) ≤ 999999999999998 := by
    rw [tbegin_queueRows]; exact hroom
  have hroomtb : Room s.tbegin none := by
    intro r hr k hk
    have := hroom' r hr k hk
    constructor <;> omega
  have hquiet := quiet_tbegin now hpol hnoexp
  obtain ⟨num, hnum, hsel, hbk, hR, hQ, hout⟩ := push_end_rows s.tbegin E now v none (!left) none .null
    (tbegin_inv _ hg.tinv) hqok.tbegin hst hb hquiet (fun t ht => by cases ht) hor.tbegin hroomtb
    (fun q hq => by cases hq)
  obtain ⟨hBI, hcore⟩ := drf_BI_push_ok s.tbegin E now v (!left) hb0 hp0 hst hnum hsel hb hbk hquiet
  obtain ⟨-, hs2, -⟩ := store_spec hst
  obtain ⟨-, -, hf3, hf4⟩ := drf_store_flat hst
  obtain ⟨-, -, hm3, hm4, hm5, -⟩ := reg_core_fields x1 c.file
  have hbounds := drf_pushNum_bounds s.tbegin (!left) n hroom' (by rw [tbegin_cfg]; exact horN) hnum
  rw [tbegin_rows] at hR
  rw [tbegin_queueRows, tbegin_rows] at hQ
  have hfiles : (s.tbegin.push E now v none (!left) none false .null).1.files = x1.files :=
    (congrArg Core.files hcore).trans hm3
  refine ⟨mkRow s.rows (queueKey none num) now (colsOf c none now .null), num, ?_, hout⟩
  refine { bi := hBI, rows := hR, expT := rfl, key := rfl, room := hbounds,
           queue := ?_, cfg := ?_, statistics := ?_, files := ?_, entry := ?_ }
  · rw [hQ]
    cases left <;> rfl
  · refine (congrArg Core.cfg hcore).trans ?_
    show (reg x1 c.file).cfg = s.cfg
    rw [hm4, hs2, tbegin_cfg]
  · refine (congrArg Core.statistics hcore).trans ?_
    show (reg x1 c.file).statistics = s.statistics
    rw [hm5, hf3]
    unfold tbegin; split <;> rfl
  · intro q hq
    rw [hfiles]
    exact hf4 q (by rw [tbegin_files]; exact hq)
  · rw [drf_ent_files hfiles]
    exact hent _ rfl rfl rfl

/-- the first stage of `append` / `appendleft` when the value cannot be stored: the `push` raises
UnicodeEncodeError and nothing changes -/
theorem drf_stage_fail (s : Cache) (E : Externals) (now : Int) (v : PyVal) (left : Bool) (hg : Good s)
    (hqok : QueueOk s none) (hor : OriginOk s)
    (hroom : Room s none)
    (hfail : match place E s.cfg.disk s.cfg.minFileSize v false with
      | .error _ => True
      | .ok p => bindable (entryOf p none .null).val = false) :
    drf_BI (s.tbegin.push E now v none (!left) none false .null).1 ∧
    core (s.tbegin.push E now v none (!left) none false .null).1 = core s.tbegin ∧
    (s.tbegin.push E now v none (!left) none false .null).2 = .exc "UnicodeEncodeError" := by
  obtain ⟨hb0, hp0⟩ := drf_BI_tbegin s hg
  have hfresh : ∀ q ∈ s.tbegin.files, q.1 < s.tbegin.nfile := hb0.pi.fresh
  have hsp := drf_store_place s.tbegin E v hfresh
  rw [tbegin_cfg] at hsp
  cases hpl : place E s.cfg.disk s.cfg.minFileSize v false with
  | error e =>
    rw [hpl] at hsp
    simp only at hsp
    rw [push_eq, hsp]
    exact ⟨hb0, rfl, rfl⟩
  | ok p =>
    rw [hpl] at hsp hfail
    simp only at hsp hfail
    obtain ⟨x1, c, hst, hval, hfv, -⟩ := hsp
    have hb : (colsOf c none now .null).bindable = false := by
      show (DC.Cache.bindable .null && DC.Cache.bindable c.val) = false
      rw [hval, hfail]; rfl
    have hfile : c.file = none := by
      cases hcf : c.file with
      | none => rfl
      | some f =>
        have := hfv (by rw [hcf]; simp)
        rw [hval] at this
        rw [this] at hfail
        cases hfail
    obtain ⟨num, hnum, -, hrm, hord⟩ := pushNum_spec s.tbegin none (!left) (tbegin_inv _ hg.tinv) hqok.tbegin
      hor.tbegin
    obtain ⟨hn1, hn2⟩ := hrm hroom.tbegin
    have hsel := selKey_new_none s.tbegin none num hn1 hn2 (!left) hord
    exact drf_BI_push_unbindable s.tbegin E now v (!left) hb0 hst hnum hsel hfile hb

/-- … the exception leaves the block, which is rolled back: the state is as before -/
theorem drf_append_fail (s : Cache) (E : Externals) (now : Int) (v : PyVal) (left : Bool) (hg : Good s)
    (hqok : QueueOk s none) (hor : OriginOk s)
    (hroom : Room s none)
    (hfail : match place E s.cfg.disk s.cfg.minFileSize v false with
      | .error _ => True
      | .ok p => bindable (entryOf p none .null).val = false) :
    Good ((s.tbegin.push E now v none (!left) none false .null).1.traise 1) ∧
    core ((s.tbegin.push E now v none (!left) none false .null).1.traise 1) = core s ∧
    (s.tbegin.push E now v none (!left) none false .null).2 = .exc "UnicodeEncodeError" := by
  obtain ⟨hBI, hc, hout⟩ := drf_stage_fail s E now v left hg hqok hor hroom hfail
  obtain ⟨h1, -, -⟩ := drf_tbegin_core s hg
  have htb : s.tbegin = { (s.log .begin) with depth := 1, snap := some s.takeSnap, pending := [], created := [] } := by
    unfold tbegin
    rw [if_pos (by simp [hg.depth])]
  have hsnap : (s.tbegin.push E now v none (!left) none false .null).1.snap = some s.takeSnap := by
    have := congrArg Core.snap hc
    simp only [core_snap] at this
    rw [this, htb]
  have hcr : (s.tbegin.push E now v none (!left) none false .null).1.created = [] := by
    have := congrArg Core.created hc
    simp only [core_created] at this
    rw [this, htb]
  have hcore := drf_traise_core _ s.takeSnap hBI.depth hsnap
  have hfin : core ((s.tbegin.push E now v none (!left) none false .null).1.traise 1) = core s := by
    rw [hcore, hcr, hc, h1]
    simp only [List.map_nil, drf_filter_nil_cl]
    have : (core s.tbegin).files = (core s).files := by simp only [core_files, tbegin_files]
    rw [this]
    rfl
  refine ⟨good_of_pi (traise_inv _ _ hBI.tinv) ?_, hfin, hout⟩
  rw [hfin]
  exact hg.pi

/-- the rest of the block after the push: an optional pull from one end, then the commit -/
theorem drf_stage_finish (X : Cache) (E : Externals) (now : Int) (trim front : Bool)
    (hBI : drf_BI X)
    (hrd : ∀ a ∈ X.rows, drf_Readable (rf_ent X a)) (hexp : ∀ a ∈ X.rows, a.expT = none)
    (hne : trim = true → X.queueRows none ≠ []) {Y : Cache}
    (hY : Y = (if trim then (X.pull E now none front false false).1 else X).tend) :
    Good Y ∧
    Y.queueRows none =
      (if trim then (if front then (X.queueRows none).tail else (X.queueRows none).dropLast)
       else X.queueRows none) ∧
    drf_Sub X Y := by
  subst hY
  cases trim with
  | false => exact drf_stage_tend X hBI
  | true =>
    obtain ⟨hBI2, hq2, hsub2⟩ := drf_stage_pull_end X E now front hBI hrd hexp (hne rfl)
    obtain ⟨hg', hq', hsub'⟩ := drf_stage_tend _ hBI2
    exact ⟨hg', hq'.trans hq2, hsub2.trans hsub'⟩

theorem drf_pageBody_stats (page : List Row) (sel : String) (t : Cache) :
    (pageBody page sel t).s.statistics = t.statistics := by
  unfold pageBody
  simp only
  split
  · rfl
  · have := congrArg Core.statistics (core_delIn (page.map (·.rowid)) (t.logSql sel))
    simp only [core_statistics] at this
    exact this

theorem drf_deletePage_stats (s : Cache) (page : List Row) (sel : String) :
    (s.deletePage page sel).statistics = s.statistics := by
  rw [deletePage_eq]
  by_cases hd : 0 < s.depth
  · rw [transact_inblock _ hd, if_pos (pageBody_ok _ _ _)]
    exact drf_pageBody_stats page sel _
  · have hd0 : s.depth = 0 := by omega
    rw [transact_zero s _ hd0 (pageBody_ok _ _ _)]
    have := congrArg Core.statistics (core_fremoveAll (pageBody page sel (s.log .begin)).cleanup
      ((pageBody page sel (s.log .begin)).s.log .commit))
    simp only [core_statistics] at this
    rw [this]
    exact drf_pageBody_stats page sel _

theorem drf_clearLoop_stats : ∀ (fuel : Nat) (s : Cache) (cur n : Nat),
    (clearLoop fuel s cur n).1.statistics = s.statistics := by
  intro fuel
  induction fuel with
  | zero => intro s cur n; rfl
  | succ f ih =>
    intro s cur n
    unfold clearLoop
    simp only
    split
    · exact drf_deletePage_stats _ _ _
    · rw [ih]; exact drf_deletePage_stats _ _ _

theorem drf_clear_stats (s : Cache) : (s.clear).1.statistics = s.statistics := by
  unfold clear
  have := drf_clearLoop_stats (s.rows.length + 1) s 0 0
  generalize clearLoop (s.rows.length + 1) s 0 0 = r at this
  rcases r with ⟨s1, n1⟩
  exact this

theorem drf_clear_page0 (s : Cache) (hd : s.depth = 0) (hp : s.cfg.page = 0) :
    core (s.clear).1 = core s := by
  unfold clear
  show core (clearLoop (s.rows.length + 1) s 0 0).1 = core s
  unfold clearLoop
  simp only [hp, List.take_zero]
  show core (s.deletePage [] "pageRowid") = core s
  rw [deletePage_eq]
  exact rf_transact_core_same s (pageBody [] "pageRowid") none hd ⟨rfl, rfl, rfl⟩

end DC.Cache
