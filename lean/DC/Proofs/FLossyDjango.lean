/-
Helper lemmas for C19_Lossy: clocks of concatenated Django histories, the lossy Django-level
specification through the translation to Cache calls, and the frame property of the lossy
specification (a call that does not write to a key leaves its binding alone; only a drop can
remove it).
-/
import DC.Properties.C13_Lossy
import DC.Properties.C19_Refine

namespace DC.Django
open DC.Cache DC.Spec DC.Fanout DC.DjSpec

def dlastClock (t : Int) (ops : List DOp) : Int := ops.foldl (fun t op => (dclock op).getD t) t

theorem djlz_lastClock (C : Conf) (t : Int) (ops : List DOp) :
    lastClock t (ops.map (toOp C)) = dlastClock t ops := by
  unfold lastClock dlastClock
  induction ops generalizing t with
  | nil => rfl
  | cons op ops ih =>
    rw [List.map_cons, List.foldl_cons, List.foldl_cons, djrf_opClock]
    exact ih _

theorem djlz_spec_runLossy (m : Spec.Dict) (C : Conf) (cfg : Cfg) (ops : List DOp)
    (drops : List (List Spec.Key)) :
    DjSpec.runLossy m C cfg ops drops = Spec.runLossy m cfg (ops.map (toOp C)) drops := by
  induction ops generalizing m drops with
  | nil => rfl
  | cons op ops ih =>
    show DjSpec.runLossy (dropKeys (DjSpec.step m C cfg op).1 (drops.headD [])) C cfg ops drops.tail = _
    rw [ih, djrf_spec_step]
    rfl

theorem djlz_spec_outsLossy (m : Spec.Dict) (C : Conf) (cfg : Cfg) (ops : List DOp)
    (drops : List (List Spec.Key)) :
    DjSpec.outsLossy m C cfg ops drops = postAll ops (Spec.outsLossy m cfg (ops.map (toOp C)) drops) := by
  induction ops generalizing m drops with
  | nil => rfl
  | cons op ops ih =>
    rw [DjSpec.outsLossy, List.map_cons, Spec.outsLossy, postAll, ih, djrf_spec_step]

theorem djlz_runLossy_cons (m : Spec.Dict) (C : Conf) (cfg : Cfg) (op : DOp) (ops : List DOp)
    (D : List Spec.Key) (Ds : List (List Spec.Key)) :
    DjSpec.runLossy m C cfg (op :: ops) (D :: Ds) =
      DjSpec.runLossy (dropKeys (DjSpec.step m C cfg op).1 D) C cfg ops Ds := rfl

theorem djlz_runLossy_frame (m : Spec.Dict) (C : Conf) (cfg : Cfg) (hd : cfg.disk = .pickle)
    (ops : List DOp) (drops : List (List Spec.Key)) (E : Externals) (k : Str) (ver : Option Int)
    (hw : ∀ op ∈ ops, writesTo C k (ver.getD C.version) op = false) :
    (DjSpec.runLossy m C cfg ops drops).get (keyOf E cfg (key C k ver)) =
        m.get (keyOf E cfg (key C k ver)) ∨
    ((DjSpec.runLossy m C cfg ops drops).get (keyOf E cfg (key C k ver)) = none ∧
      ∃ D ∈ drops.take ops.length, D.any (fun l => sameKey l (keyOf E cfg (key C k ver))) = true) := by
  induction ops generalizing m drops with
  | nil => exact .inl rfl
  | cons op ops ih =>
    have hfr := djrf_frame m C cfg hd op E k ver (hw op List.mem_cons_self)
    have hw' : ∀ o ∈ ops, writesTo C k (ver.getD C.version) o = false :=
      fun o ho => hw o (List.mem_cons_of_mem _ ho)
    have hstep : DjSpec.runLossy m C cfg (op :: ops) drops =
        DjSpec.runLossy (dropKeys (DjSpec.step m C cfg op).1 (drops.headD [])) C cfg ops drops.tail := rfl
    rw [hstep]
    have hmem : ∀ D, (D = drops.headD [] ∧ D ≠ []) ∨ D ∈ drops.tail.take ops.length →
        D ∈ drops.take (op :: ops).length := by
      intro D hD
      cases drops with
      | nil =>
        rcases hD with ⟨h1, h2⟩ | h
        · exact absurd h1 h2
        · simp at h
      | cons d ds =>
        rw [List.length_cons, List.take_succ_cons]
        rcases hD with ⟨h1, -⟩ | h
        · rw [h1]; exact List.mem_cons_self
        · exact List.mem_cons_of_mem _ h
    have hget : (dropKeys (DjSpec.step m C cfg op).1 (drops.headD [])).get (keyOf E cfg (key C k ver)) =
        if (drops.headD []).any (fun l => sameKey l (keyOf E cfg (key C k ver))) then none
        else m.get (keyOf E cfg (key C k ver)) := by
      rw [rf_get_dropKeys, hfr]
    rcases ih (dropKeys (DjSpec.step m C cfg op).1 (drops.headD [])) drops.tail hw' with h | ⟨h1, D, hD, hany⟩
    · cases ha : (drops.headD []).any (fun l => sameKey l (keyOf E cfg (key C k ver))) with
      | false =>
        rw [ha] at hget
        exact .inl (h.trans hget)
      | true =>
        rw [ha] at hget
        refine .inr ⟨h.trans hget, drops.headD [], hmem _ (.inl ⟨rfl, ?_⟩), ha⟩
        intro h0
        rw [h0] at ha
        cases ha
    · exact .inr ⟨h1, D, hmem D (.inr hD), hany⟩

end DC.Django
