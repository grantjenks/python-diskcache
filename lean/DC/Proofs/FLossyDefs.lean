/-
Definitions used in the statements of C13_Lossy / C19_Lossy (FanoutCache and DjangoCache
refine the *lossy* reference dictionary under every eviction policy): the invariant, the
placement of rows in shards, what a call evicts shard by shard, and the specification run
lossily.  Nothing here is proved except that `FGood` implies `FGoodAny`.
-/
import DC.Properties.C03_Lossy
import DC.Properties.C13_Refine
import DC.Model.DjSpec

namespace DC.Fanout
open DC.Cache DC.Spec

/-- the invariant of C13_Refine for EVERY eviction policy: at least one shard; every shard
quiescent and consistent; one configuration (that of `Fanout.init`: the size limit divided by
the number of shards) with a positive page size -/
structure FGoodAny (f : Fanout) : Prop where
  nonempty : f.shards ≠ []
  good : ∀ s ∈ f.shards, Cache.Good s
  cfg : ∀ s ∈ f.shards, s.cfg = fcfg f
  page : 0 < (fcfg f).page

/-- `FGood` is the special case `policy = none` -/
theorem FGood.toAny {f : Fanout} (h : FGood f) : FGoodAny f := ⟨h.nonempty, h.good, h.cfg, h.page⟩

/-- **every stored row sits in the shard its key is routed to** — more precisely, in the shard
of every key of `V` that the table treats as equal to its key (D11: `1` and `1.0` are one key
for the table and two for the router).  True of `Fanout.init`, kept by every call of a history
that satisfies the routing hypothesis.  Under eviction it matters: a row sitting in a foreign
shard can be evicted there while the shard of its key still holds the item. -/
def FPlacedOn (V : Spec.Key → Prop) (f : Fanout) : Prop :=
  ∀ i s, f.shards[i]? = some s → ∀ r ∈ s.rows, ∀ k, V k → sameKey (rowKey r) k = true → routeK f k = i

def FPlaced (f : Fanout) : Prop := FPlacedOn (fun _ => True) f

/-- the shards a call runs on: the shard of its key, or all of them (clear / evict / expire / cull) -/
def touches (f : Fanout) (op : Cache.Op) (i : Nat) : Prop :=
  match frf_opKey op with
  | some (E, k) => i = f.route E k
  | none => True

/-- **what one call of the sharded cache may evict**: `LL` has one list of rows per shard, and the
`i`-th list is what the Cache call evicted on shard `i` in the sense of `Cache.Evicted`
(C03_Lossy / C09) — so everything is PER SHARD:
 * a shard the call does not run on evicts nothing (a key-addressed call runs on one shard);
 * shard `i` evicts only in a write (or `cull`), only when ITS volume reached ITS limit
   (`size_limit / shards`), at most `cull_limit` rows, unexpired, in the policy's order AMONG THE
   ROWS OF THAT SHARD.
`prep s env` is shard `s` with the database-size observations `env` the call makes there: those of
the fanout for a key-addressed call, those left by the earlier shards for a bulk removal; the
shard afterwards is the state of the Cache call on it. -/
def FEvicted (f : Fanout) (op : Cache.Op) (LL : List (List Row)) : Prop :=
  LL.length = f.shards.length ∧
  ∀ i s, f.shards[i]? = some s →
    (touches f op i → ∃ env, (frf_isBulk op = false → env = f.env) ∧
      (f.step op).1.shards[i]? = some ((prep s env).step op).1 ∧
      Evicted (prep s env) op (LL.getD i [])) ∧
    (¬ touches f op i → LL.getD i [] = [])

/-- the keys the lossy dictionary drops after a call that evicted `LL` -/
def fdrops (LL : List (List Row)) : List Spec.Key := LL.flatten.map rowKey

/-- the rows evicted along a history: one list of per-shard lists per call -/
def FEvictedRun (f : Fanout) : List Cache.Op → List (List (List Row)) → Prop
  | [], LLs => LLs = []
  | op :: ops, LL :: LLs => FEvicted f op LL ∧ FEvictedRun (f.step op).1 ops LLs
  | _ :: _, [] => False

/-- after the call the sharded cache represents (on `V`) the dictionary `m'` without the keys of
the evicted rows; every evicted row held an entry of `m'` that was not expired at `now` -/
structure FLossyOn (V : Spec.Key → Prop) (f' : Fanout) (m' : Spec.Dict) (now : Int)
    (LL : List (List Row)) : Prop where
  refines : FRefinesOn V f' (dropKeys m' (fdrops LL)) now
  was : ∀ L ∈ LL, ∀ r ∈ L, V (rowKey r) →
    ∃ e, m'.get (rowKey r) = some e ∧ EntOf r e ∧ e.expired now = false

end DC.Fanout

namespace DC.DjSpec
open DC.Cache

/-- the Django-level specification run lossily: after each call the keys of the corresponding
element of `drops` are dropped from the dictionary (no drops left: nothing is dropped) -/
def runLossy (m : Spec.Dict) (C : Conf) (cfg : Cfg) : List DOp → List (List Spec.Key) → Spec.Dict
  | [], _ => m
  | op :: ops, drops =>
    runLossy (Spec.dropKeys (step m C cfg op).1 (drops.headD [])) C cfg ops drops.tail

def outsLossy (m : Spec.Dict) (C : Conf) (cfg : Cfg) : List DOp → List (List Spec.Key) → List Out
  | [], _ => []
  | op :: ops, drops =>
    (step m C cfg op).2 ::
      outsLossy (Spec.dropKeys (step m C cfg op).1 (drops.headD [])) C cfg ops drops.tail

end DC.DjSpec
