/- Lemmas for expiry (C04): `isort` sorts under a strict weak order, what the page loop of `expire` removes,
   and what a transaction returns and leaves in the table. -/
import DC.Proofs.Keys

namespace DC

theorem nodup_isort {α} {lt : α → α → Bool} {l : List α} (h : l.Nodup) : (isort lt l).Nodup :=
  (isort_perm lt l).nodup_iff.2 h

/-- `lt` is the strict part of a total preorder -/
structure StrictWeak {α} (lt : α → α → Bool) : Prop where
  asym : ∀ a b, lt a b = true → lt b a = false
  trans : ∀ a b c, lt b a = false → lt c b = false → lt c a = false

theorem isort_sorted {α} {lt : α → α → Bool} (hlt : StrictWeak lt) (l : List α) :
    (isort lt l).Pairwise (fun a b => lt b a = false) :=
  isort_sorted_weak lt (fun _ => True) hlt.asym (fun a b c _ _ _ h1 h2 => hlt.trans c b a h2 h1) l
    (fun _ _ => trivial)

theorem isort_take_le {α} {lt : α → α → Bool} (hlt : StrictWeak lt) (l : List α) (n : Nat) {a b : α}
    (ha : a ∈ (isort lt l).take n) (hb : b ∈ l) (hnb : b ∉ (isort lt l).take n) :
    lt b a = false := by
  have hs := isort_sorted hlt l
  have hb' : b ∈ isort lt l := (mem_isort _).2 hb
  rw [← List.take_append_drop n (isort lt l)] at hs hb'
  rcases List.mem_append.1 hb' with h | h
  · exact absurd h hnb
  · exact (List.pairwise_append.1 hs).2.2 a ha b h

theorem nodup_take_isort {α} {lt : α → α → Bool} {l : List α} (h : l.Nodup) (n : Nat) :
    ((isort lt l).take n).Nodup :=
  (nodup_isort h).sublist (List.take_sublist _ _)

theorem mem_of_mem_take_isort {α} {lt : α → α → Bool} {l : List α} {n : Nat} {a : α}
    (h : a ∈ (isort lt l).take n) : a ∈ l :=
  (mem_isort _).1 (List.mem_of_mem_take h)

theorem length_filter_not_mem {α} [DecidableEq α] {l P : List α} (hl : l.Nodup) (hP : P.Nodup)
    (hsub : ∀ x ∈ P, x ∈ l) :
    (l.filter (fun r => decide (r ∉ P))).length + P.length = l.length := by
  have hperm : (l.filter (fun r => decide (r ∈ P))).Perm P := by
    refine (List.perm_ext_iff_of_nodup (hl.sublist List.filter_sublist) hP).2 ?_
    intro a
    simp only [List.mem_filter, decide_eq_true_eq]
    exact ⟨fun h => h.2, fun h => ⟨hsub a h, h⟩⟩
  have h1 := List.length_eq_countP_add_countP (fun r => decide (r ∈ P)) (l := l)
  rw [List.countP_eq_length_filter, List.countP_eq_length_filter, hperm.length_eq] at h1
  have h2 : l.filter (fun r => decide (r ∉ P)) =
      l.filter (fun a => decide ¬(decide (a ∈ P)) = true) := by
    apply List.filter_congr; intro x _; simp
  rw [h2]; omega

theorem ltOptInt_strictWeak : StrictWeak (fun a b : Option Int => Cache.ltOptInt a b) := by
  constructor
  · intro a b; cases a <;> cases b <;> simp [Cache.ltOptInt] <;> omega
  · intro a b c; cases a <;> cases b <;> cases c <;> simp [Cache.ltOptInt] <;> omega

theorem StrictWeak.comap {α β} {lt : β → β → Bool} (h : StrictWeak lt) (f : α → β) :
    StrictWeak (fun a b => lt (f a) (f b)) :=
  ⟨fun a b => h.asym (f a) (f b), fun a b c => h.trans (f a) (f b) (f c)⟩

namespace Cache

/-! ### the trace is a ghost field -/

@[simp] theorem log_rows_ec (s : Cache) (a : Act) : (s.log a).rows = s.rows := rfl
@[simp] theorem log_cfg_ec (s : Cache) (a : Act) : (s.log a).cfg = s.cfg := rfl
@[simp] theorem log_env (s : Cache) (a : Act) : (s.log a).env = s.env := rfl
@[simp] theorem log_size_ec (s : Cache) (a : Act) : (s.log a).size = s.size := rfl
@[simp] theorem log_count_ec (s : Cache) (a : Act) : (s.log a).count = s.count := rfl
@[simp] theorem log_depth_ec (s : Cache) (a : Act) : (s.log a).depth = s.depth := rfl
@[simp] theorem logSql_cfg_ec (s : Cache) (a : String) : (s.logSql a).cfg = s.cfg := rfl
@[simp] theorem logSql_env (s : Cache) (a : String) : (s.logSql a).env = s.env := rfl
@[simp] theorem logSql_count_ec (s : Cache) (a : String) : (s.logSql a).count = s.count := rfl
@[simp] theorem logSql_depth_ec (s : Cache) (a : String) : (s.logSql a).depth = s.depth := rfl

@[simp] theorem fremove_rows_ec (s : Cache) (f : Nat) : (s.fremove f).rows = s.rows := rfl
@[simp] theorem fremove_cfg_ec (s : Cache) (f : Nat) : (s.fremove f).cfg = s.cfg := rfl

@[simp] theorem fremoveAll_rows (s : Cache) (fs : List (Option Nat)) : (s.fremoveAll fs).rows = s.rows :=
  (fremoveAll_keep fs s).1

@[simp] theorem fremoveAll_cfg (s : Cache) (fs : List (Option Nat)) : (s.fremoveAll fs).cfg = s.cfg :=
  (fremoveAll_keep fs s).2.2.2.1

/-! ### DELETE … WHERE rowid IN (…) -/

@[simp] theorem delRowQuiet_env (s : Cache) (id : Nat) : (s.delRowQuiet id).env = s.env := by
  unfold delRowQuiet; split <;> rfl

@[simp] theorem delIn_cfg (s : Cache) (ids : List Nat) : (s.delIn ids).cfg = s.cfg := (delIn_keep ids s).1

@[simp] theorem delIn_env (s : Cache) (ids : List Nat) : (s.delIn ids).env = s.env := by
  induction ids generalizing s with
  | nil => rfl
  | cons i ids ih => rw [delIn_cons, ih, delRowQuiet_env]

@[simp] theorem delIn_depth (s : Cache) (ids : List Nat) : (s.delIn ids).depth = s.depth :=
  (delIn_keep ids s).2.2

theorem expired_expT {now : Int} {r : Row} (h : expired now r = true) : ∃ t, r.expT = some t ∧ t < now := by
  unfold expired at h
  cases he : r.expT with
  | none => simp [he] at h
  | some t => exact ⟨t, rfl, by simpa [he] using h⟩

/-- the lower-bound clause `? <= expire_time` of the page query -/
def loOk (lo : Option Int) (r : Row) : Bool :=
  match lo, r.expT with | some l, some t => l ≤ t | none, _ => true | _, none => false

theorem expireLoop_succ (now : Int) (fuel : Nat) (s : Cache) (lo : Option Int) (n : Nat)
    (page : List Row)
    (hpage : page = (isort (fun a b => ltOptInt a.expT b.expT) (s.rows.filter (fun r => expired now r &&
      loOk lo r))).take s.cfg.page) :
    expireLoop now (fuel + 1) s lo n =
      match lastRow? page with
      | none => (s.deletePage page "pageExpire", n)
      | some r => expireLoop now fuel (s.deletePage page "pageExpire") r.expT (n + page.length) := by
  subst hpage; rfl

theorem rowLt_strictWeak : StrictWeak (fun a b : Row => ltOptInt a.expT b.expT) :=
  ltOptInt_strictWeak.comap (fun r : Row => r.expT)

theorem expireLoop_spec (now : Int) (fuel : Nat) : ∀ (s : Cache) (lo : Option Int) (n : Nat),
    RowidsAsc s.rows → 0 < s.cfg.page → s.rows.length < fuel →
    (∀ r ∈ s.rows, expired now r = true → ∀ l, lo = some l → ∀ t, r.expT = some t → l ≤ t) →
    (expireLoop now fuel s lo n).1.rows = s.rows.filter (fun r => !(expired now r)) ∧
    (expireLoop now fuel s lo n).2 = n + (s.rows.filter (expired now)).length ∧
    (expireLoop now fuel s lo n).1.cfg = s.cfg := by
  induction fuel with
  | zero => intro s lo n _ _ h; omega
  | succ fuel ih =>
    intro s lo n hasc hp hfuel hlo
    -- `hlo` is the loop invariant: no expired row lies below the cursor `lo`, so the page query
    -- (expired and not below the cursor) sees every expired row
    have hsel : s.rows.filter (fun r => expired now r && loOk lo r) =
        s.rows.filter (expired now) := by
      apply List.filter_congr
      intro r hr
      cases hex : expired now r with
      | false => rfl
      | true =>
        obtain ⟨t, ht, _⟩ := expired_expT hex
        cases lo with
        | none => simp [loOk]
        | some l => simpa [loOk, ht] using hlo r hr hex l rfl t ht
    rw [expireLoop_succ now fuel s lo n _ rfl, hsel]
    generalize hpg : (isort (fun a b : Row => ltOptInt a.expT b.expT) (s.rows.filter (expired now))).take s.cfg.page = page
    have hsubE : ∀ x ∈ page, x ∈ s.rows.filter (expired now) := by
      intro x hx; rw [← hpg] at hx; exact mem_of_mem_take_isort hx
    have hsub : ∀ x ∈ page, x ∈ s.rows := fun x hx => (List.mem_filter.1 (hsubE x hx)).1
    have hpexp : ∀ x ∈ page, expired now x = true := fun x hx => (List.mem_filter.1 (hsubE x hx)).2
    have hrows := deletePage_rows_sub s page "pageExpire" hasc hsub
    have hcfg := (deletePage_keep s page "pageExpire").2.2.2.1
    generalize s.deletePage page "pageExpire" = s' at hrows hcfg ⊢
    cases hlast : lastRow? page with
    | none =>
      have hnil : page = [] := List.getLast?_eq_none_iff.1 hlast
      have hE : s.rows.filter (expired now) = [] := by
        rw [hnil, List.take_eq_nil_iff] at hpg
        rcases hpg with h | h
        · omega
        · have := isort_perm (fun a b : Row => ltOptInt a.expT b.expT) (s.rows.filter (expired now))
          rw [h] at this
          exact this.symm.eq_nil
      refine ⟨?_, by rw [hE]; rfl, hcfg⟩
      show s'.rows = _
      rw [hrows, hnil]
      apply List.filter_congr
      intro r hr
      simpa using List.filter_eq_nil_iff.1 hE r hr
    | some r =>
      have hrp : r ∈ page := List.mem_of_getLast? hlast
      have hnd : s.rows.Nodup := hasc.nodup
      have hpnd : page.Nodup := by
        rw [← hpg]; exact nodup_take_isort (hnd.sublist List.filter_sublist) _
      have hlen := length_filter_not_mem hnd hpnd hsub
      have hpos : 0 < page.length := List.length_pos_of_mem hrp
      have hasc' : RowidsAsc s'.rows := by rw [hrows]; exact hasc.filter _
      obtain ⟨h1, h2, h3⟩ := ih s' r.expT (n + page.length) hasc'
        (by rw [hcfg]; exact hp) (by rw [hrows]; omega)
        (by
          intro x hx hex l hl t ht
          rw [hrows] at hx
          obtain ⟨hxs, hxp⟩ := List.mem_filter.1 hx
          have hxp : x ∉ page := by simpa using hxp
          have hxE : x ∈ s.rows.filter (expired now) := List.mem_filter.2 ⟨hxs, hex⟩
          have hle := isort_take_le rowLt_strictWeak (s.rows.filter (expired now)) s.cfg.page
            (a := r) (b := x) (by rw [hpg]; exact hrp) hxE (by rw [hpg]; exact hxp)
          simp only [ht, hl, ltOptInt] at hle
          simpa using hle)
      refine ⟨?_, ?_, h3.trans hcfg⟩
      · rw [h1, hrows, List.filter_filter]
        apply List.filter_congr
        intro x hx
        by_cases hxp : x ∈ page
        · simp [hxp, hpexp x hxp]
        · simp [hxp]
      · rw [h2, hrows, List.filter_filter]
        have hE := length_filter_not_mem (hnd.sublist (List.filter_sublist (p := expired now))) hpnd hsubE
        rw [List.filter_filter] at hE
        have : List.filter (fun a => expired now a && decide (a ∉ page)) s.rows =
            List.filter (fun a => decide (a ∉ page) && expired now a) s.rows := by
          apply List.filter_congr; intro x _; exact Bool.and_comm _ _
        rw [this]; omega

theorem expire_spec (s : Cache) (now : Int) (hasc : RowidsAsc s.rows) (hp : 0 < s.cfg.page) :
    (expireLoop now (s.rows.length + 1) s none 0).1.rows = s.rows.filter (fun r => !(expired now r)) ∧
    (expireLoop now (s.rows.length + 1) s none 0).2 = (s.rows.filter (expired now)).length ∧
    (expireLoop now (s.rows.length + 1) s none 0).1.cfg = s.cfg := by
  have := expireLoop_spec now (s.rows.length + 1) s none 0 hasc hp (by omega)
    (by intro r _ _ l hl; cases hl)
  simpa using this


theorem eqv_self {k : SqlVal} (h : k ≠ .null) : k.eqv k = true := by
  cases k <;> simp_all [SqlVal.eqv]

@[simp] theorem selLive_log (s : Cache) (a : Act) : (s.log a).selLive = s.selLive := rfl
@[simp] theorem selKey_log (s : Cache) (a : Act) : (s.log a).selKey = s.selKey := rfl

theorem selLive_rows {s t : Cache} (h : t.rows = s.rows) (k : SqlVal) (raw : Bool) (now : Int) :
    t.selLive k raw now = s.selLive k raw now := by
  unfold selLive; rw [h]

theorem selKey_rows {s t : Cache} (h : t.rows = s.rows) (k : SqlVal) (raw : Bool) :
    t.selKey k raw = s.selKey k raw := by
  unfold selKey; rw [h]

/-- A transaction runs its body on a state `t` that differs from `s` in ghost fields only, and
returns the body's outcome.  If the body succeeds, the result is the body's state, committed; if it
raises, the table is the body's (inside a block) or the one before (rolled back). -/
theorem transact_spec (s : Cache) (body : Cache → Body) (fresh : Option Nat) :
    ∃ t, t.rows = s.rows ∧ t.cfg = s.cfg ∧ t.files = s.files ∧ t.depth = s.depth ∧
      (s.transact body fresh).2 = (body t).out ∧
      (((body t).ok = true ∧ (s.transact body fresh).1.rows = (body t).s.rows ∧
          (s.transact body fresh).1.cfg = (body t).s.cfg ∧
          ((body t).cleanup = [] → (s.transact body fresh).1.files = (body t).s.files)) ∨
       ((body t).ok = false ∧ ((s.transact body fresh).1.rows = (body t).s.rows ∨
          (s.transact body fresh).1.rows = s.rows))) := by
  rcases Nat.eq_zero_or_pos s.depth with hd | hd
  · refine ⟨s.log .begin, rfl, rfl, rfl, rfl, ?_⟩
    rw [transact_outer s hd]
    cases h : (body (s.log .begin)).ok
    · exact ⟨rfl, .inr ⟨rfl, .inr (fremoveAll_rows _ _)⟩⟩
    · exact ⟨rfl, .inl ⟨rfl, fremoveAll_rows _ _, fremoveAll_cfg _ _, fun hc => by rw [if_pos rfl, hc]; rfl⟩⟩
  · have hr : (reg s fresh).rows = s.rows ∧ (reg s fresh).cfg = s.cfg ∧
        (reg s fresh).files = s.files ∧ (reg s fresh).depth = s.depth := by
      cases fresh <;> exact ⟨rfl, rfl, rfl, rfl⟩
    refine ⟨reg s fresh, hr.1, hr.2.1, hr.2.2.1, hr.2.2.2, ?_⟩
    rw [transact_inblock s hd]
    cases h : (body (reg s fresh)).ok
    · exact ⟨rfl, .inr ⟨rfl, .inl rfl⟩⟩
    · exact ⟨rfl, .inl ⟨rfl, rfl, rfl, fun _ => rfl⟩⟩

theorem transact_out_eq {s : Cache} {body : Cache → Body} {fresh : Option Nat} {o : Out}
    (h : ∀ t, t.rows = s.rows → (body t).out = o) : (s.transact body fresh).2 = o := by
  obtain ⟨t, ht, -, -, -, hout, -⟩ := transact_spec s body fresh
  rw [hout, h t ht]

theorem transact_rows_eq {s : Cache} {body : Cache → Body} {fresh : Option Nat}
    (h : ∀ t, t.rows = s.rows → (body t).s.rows = s.rows) : (s.transact body fresh).1.rows = s.rows := by
  obtain ⟨t, ht, -, -, -, -, ⟨-, hr, -⟩ | ⟨-, hr | hr⟩⟩ := transact_spec s body fresh
  · rw [hr, h t ht]
  · rw [hr, h t ht]
  · exact hr

theorem selLive_none_of_dead {s : Cache} {k : SqlVal} {raw : Bool} {now : Int}
    (h : ∀ r ∈ s.rows, keyMatch k raw r = true → live now r = false) : s.selLive k raw now = none := by
  unfold selLive
  rw [List.find?_eq_none]
  intro r hr hc
  rw [Bool.and_eq_true] at hc
  rw [h r hr hc.1] at hc
  exact Bool.false_ne_true hc.2

theorem delitem_dead (s : Cache) (E : Externals) (now : Int) (k : PyVal)
    (h : ∀ r ∈ s.rows, keyMatch (DC.put E s.cfg.disk k).1 (DC.put E s.cfg.disk k).2 r = true → live now r = false) :
    ∃ t, s.delitem E now k = (t, .exc "KeyError") ∧ t.rows = s.rows := by
  have hn := selLive_none_of_dead h
  unfold delitem
  generalize DC.put E s.cfg.disk k = p at hn
  refine ⟨_, Prod.ext rfl (transact_out_eq fun t ht => ?_), transact_rows_eq fun t ht => ?_⟩
  · dsimp only; rw [selLive_rows ht, hn]
  · dsimp only; rw [selLive_rows ht, hn]; exact ht

end Cache
end DC
