/- Invariants of the locking protocol (C05, C06, C07, C08, C14), each kept by every micro-step and
by a crash: `Inv` (the database is the replay of the log; only the lock holder is inside a
transaction), `ResInv` (what a client has been handed is its part of the log) and `FInv` (the
database names only files that exist; fresh and cleanup names belong to one client). -/
import DC.Model.Conc

namespace DC.Conc

variable {DB Res : Type}

theorem replay_cons (db0 : DB) (e : Entry DB Res) (l : List (Entry DB Res)) :
    replay db0 (e :: l) = replay (applyEntry db0 e).1 l := by
  simp [replay]

theorem replay_append (db0 : DB) (l : List (Entry DB Res)) (e : Entry DB Res) :
    replay db0 (l ++ [e]) = (applyEntry (replay db0 l) e).1 := by
  simp [replay, List.foldl_append]

theorem replayRes_append (db0 : DB) (l : List (Entry DB Res)) (e : Entry DB Res) :
    replayRes db0 (l ++ [e]) = replayRes db0 l ++ [(applyEntry (replay db0 l) e).2] := by
  induction l generalizing db0 with
  | nil => simp [replayRes, replay]
  | cons a l ih => simp [replayRes, replay_cons, ih]

theorem applyEntry_read (db : DB) (cid : Nat) (g : DB → Res) (f : Option FName) (r : Res) :
    applyEntry db (⟨cid, .read g, f, r⟩ : Entry DB Res) = (db, g db) := rfl

theorem applyEntry_txn (db : DB) (cid : Nat) (fr rt : Bool) (b : Body DB Res) (f : Option FName)
    (r0 : Res) (w : DB) (r : Res) (ok : Bool) (cl : List FName) (hb : b.run db f = (w, r, ok, cl)) :
    applyEntry db (⟨cid, .txn fr rt b, f, r0⟩ : Entry DB Res) = (if ok then w else db, r) := by
  simp [applyEntry, hb]

/-- result already logged but not yet appended to `results` -/
def pending : Pc DB Res → List Res
  | .cleaning r _ => [r]
  | .undo (some r) _ => [r]
  | _ => []

def inTxn (c : Client DB Res) : Bool :=
  match c.pc with
  | .begun _ _ => true
  | .ran _ _ _ _ _ => true
  | _ => false

/-- What the protocol promises about client `i` while `lk` holds the lock and `db` is committed:
a private copy exists only under the client's own lock and was taken from `db`; a finished body
is the body of the current call, run on `db`. -/
def PcOk (lk : Option Nat) (db : DB) (i : Nat) (c : Client DB Res) : Prop :=
  match c.pc with
  | .begun _ w => lk = some i ∧ w = db ∧ ∃ fr rt b rest, c.prog = Op.txn fr rt b :: rest
  | .ran f w r ok cl => lk = some i ∧ ∃ fr rt b rest, c.prog = Op.txn fr rt b :: rest ∧
      b.run db f = (w, r, ok, cl)
  | _ => True

structure Inv (db0 : DB) (s : Sys DB Res) : Prop where
  hdb : s.db = replay db0 s.log
  hres : s.log.map (·.res) = replayRes db0 s.log
  pc : ∀ i c, s.clients[i]? = some c → PcOk s.lock s.db i c
  held : ∀ i, s.lock = some i → ∃ c, s.clients[i]? = some c ∧ inTxn c = true

theorem PcOk.inTxn_lock {lk : Option Nat} {db : DB} {i : Nat} {c : Client DB Res}
    (h : PcOk lk db i c) (ht : inTxn c = true) : lk = some i := by
  unfold PcOk at h
  unfold inTxn at ht
  revert h ht
  cases c.pc <;> intro h ht
  case begun | ran => exact h.1
  all_goals cases ht

theorem PcOk.of_not_inTxn {lk : Option Nat} {db : DB} {i : Nat} {c : Client DB Res}
    (ht : inTxn c = false) : PcOk lk db i c := by
  unfold PcOk
  unfold inTxn at ht
  revert ht
  cases c.pc <;> intro ht
  case begun | ran => cases ht
  all_goals trivial

theorem getElem?_set_cases {α : Type} {l : List α} {i j : Nat} {a b : α}
    (h : (l.set i a)[j]? = some b) : (j = i ∧ b = a) ∨ (j ≠ i ∧ l[j]? = some b) := by
  by_cases hji : j = i
  · subst hji
    rw [List.getElem?_set] at h
    simp at h
    exact .inl ⟨rfl, h.2.symm⟩
  · rw [List.getElem?_set_ne (Ne.symm hji)] at h
    exact .inr ⟨hji, h⟩

/-- the effective micro-steps of client `cid`, currently `c` -/
inductive Step (s : Sys DB Res) (cid : Nat) (c : Client DB Res) : Sys DB Res → Prop
  | read (g : DB → Res) (rest : List (Op DB Res)) :
      c.pc = .idle → c.prog = .read g :: rest →
      Step s cid c { s with clients := s.clients.set cid (finish c (some (g s.db))),
                            log := s.log ++ [⟨cid, .read g, none, g s.db⟩] }
  | write (rt : Bool) (b : Body DB Res) (rest : List (Op DB Res)) :
      c.pc = .idle → c.prog = .txn true rt b :: rest →
      Step s cid c { s with clients := s.clients.set cid { c with pc := .wrote s.nextFile },
                            files := s.nextFile :: s.files, nextFile := s.nextFile + 1 }
  | begin0 (rt : Bool) (b : Body DB Res) (rest : List (Op DB Res)) :
      c.pc = .idle → c.prog = .txn false rt b :: rest → s.lock = none →
      Step s cid c { s with clients := s.clients.set cid { c with pc := .begun none s.db },
                            lock := some cid }
  | begin1 (f : FName) (fr rt : Bool) (b : Body DB Res) (rest : List (Op DB Res)) :
      c.pc = .wrote f → c.prog = .txn fr rt b :: rest → s.lock = none →
      Step s cid c { s with clients := s.clients.set cid { c with pc := .begun (some f) s.db },
                            lock := some cid }
  | timeout0 (b : Body DB Res) (rest : List (Op DB Res)) (other : Nat) :
      c.pc = .idle → c.prog = .txn false false b :: rest → s.lock = some other →
      Step s cid c { s with clients := s.clients.set cid (finish c none) }
  | timeout1 (f : FName) (fr : Bool) (b : Body DB Res) (rest : List (Op DB Res)) (other : Nat) :
      c.pc = .wrote f → c.prog = .txn fr false b :: rest → s.lock = some other →
      Step s cid c { s with clients := s.clients.set cid { c with pc := .undo none (some f) } }
  | body (f : Option FName) (w : DB) (fr rt : Bool) (b : Body DB Res) (rest : List (Op DB Res))
      (w' : DB) (r : Res) (ok : Bool) (cl : List FName) :
      c.pc = .begun f w → c.prog = .txn fr rt b :: rest → b.run w f = (w', r, ok, cl) →
      Step s cid c { s with clients := s.clients.set cid { c with pc := .ran f w' r ok cl } }
  | commit (f : Option FName) (w : DB) (r : Res) (cl : List FName) (op : Op DB Res)
      (rest : List (Op DB Res)) :
      c.pc = .ran f w r true cl → c.prog = op :: rest →
      Step s cid c { s with clients := s.clients.set cid { c with pc := .cleaning r cl },
                            db := w, lock := none, log := s.log ++ [⟨cid, op, f, r⟩] }
  | rollback (f : Option FName) (w : DB) (r : Res) (cl : List FName) (op : Op DB Res)
      (rest : List (Op DB Res)) :
      c.pc = .ran f w r false cl → c.prog = op :: rest →
      Step s cid c { s with clients := s.clients.set cid { c with pc := .undo (some r) f },
                            lock := none, log := s.log ++ [⟨cid, op, f, r⟩] }
  | clean (r : Res) (x : FName) (cl : List FName) :
      c.pc = .cleaning r (x :: cl) →
      Step s cid c { s with clients := s.clients.set cid { c with pc := .cleaning r cl },
                            files := s.files.filter (· != x) }
  | cleaned (r : Res) :
      c.pc = .cleaning r [] →
      Step s cid c { s with clients := s.clients.set cid (finish c (some r)) }
  | unlink (r : Option Res) (f : FName) :
      c.pc = .undo r (some f) →
      Step s cid c { s with clients := s.clients.set cid { c with pc := .undo r none },
                            files := s.files.filter (· != f) }
  | undone (r : Option Res) :
      c.pc = .undo r none →
      Step s cid c { s with clients := s.clients.set cid (finish c r) }

theorem step_unlink {s : Sys DB Res} {cid : Nat} {c : Client DB Res} {r : Option Res} {f : FName}
    (hc : s.clients[cid]? = some c) (hpc : c.pc = .undo r (some f)) :
    step s cid = { (setClient s cid { c with pc := .undo r none }) with
      files := s.files.filter (· != f) } := by
  simp [step, hc, hpc]

theorem step_undone {s : Sys DB Res} {cid : Nat} {c : Client DB Res} {r : Option Res}
    (hc : s.clients[cid]? = some c) (hpc : c.pc = .undo r none) :
    step s cid = setClient s cid (finish c r) := by
  simp [step, hc, hpc]

theorem step_cases {P : Sys DB Res → Prop} (s : Sys DB Res) (cid : Nat) (h0 : P s)
    (h1 : ∀ c s', s.clients[cid]? = some c → Step s cid c s' → P s') : P (step s cid) := by
  unfold step
  split
  · exact h0
  · rename_i c hc
    split
    · exact h0
    · rename_i g rest hpc hprog
      exact h1 c _ hc (.read g rest hpc hprog)
    · rename_i rt b rest hpc hprog
      exact h1 c _ hc (.write rt b rest hpc hprog)
    · rename_i rt b rest hpc hprog
      split
      · rename_i hl
        exact h1 c _ hc (.begin0 rt b rest hpc hprog hl)
      · rename_i other hl
        split
        · exact h0
        · rename_i hrt
          simp at hrt; subst hrt
          exact h1 c _ hc (.timeout0 b rest other hpc hprog hl)
    · rename_i f fr rt b rest hpc hprog
      split
      · rename_i hl
        exact h1 c _ hc (.begin1 f fr rt b rest hpc hprog hl)
      · rename_i other hl
        split
        · exact h0
        · rename_i hrt
          simp at hrt; subst hrt
          exact h1 c _ hc (.timeout1 f fr b rest other hpc hprog hl)
    · rename_i f w fr rt b rest hpc hprog
      rcases hb : b.run w f with ⟨w', r, ok, cl⟩
      exact h1 c _ hc (.body f w fr rt b rest w' r ok cl hpc hprog hb)
    · rename_i f w r cl op rest hpc hprog
      exact h1 c _ hc (.commit f w r cl op rest hpc hprog)
    · rename_i f w r cl op rest hpc hprog
      exact h1 c _ hc (.rollback f w r cl op rest hpc hprog)
    · rename_i r x cl hpc
      exact h1 c _ hc (.clean r x cl hpc)
    · rename_i r hpc
      exact h1 c _ hc (.cleaned r hpc)
    · rename_i r f hpc
      exact h1 c _ hc (.unlink r f hpc)
    · rename_i r hpc
      exact h1 c _ hc (.undone r hpc)
    · exact h0

/-- The three kinds of micro-step of client `cid`, as far as the lock is concerned: it leaves lock
and database alone and stays on its side of the transaction boundary; it takes the free lock; or
it gives its own lock back.  Any such rewrite of the client keeps the per-client invariant. -/
theorem Inv.update {db0 : DB} {s s' : Sys DB Res} (h : Inv db0 s) {cid : Nat}
    {c c' : Client DB Res} (hc : s.clients[cid]? = some c)
    (hcl : s'.clients = s.clients.set cid c')
    (hdb : s'.db = replay db0 s'.log) (hres : s'.log.map (·.res) = replayRes db0 s'.log)
    (hown : PcOk s'.lock s'.db cid c')
    (hk : (s'.lock = s.lock ∧ s'.db = s.db ∧ inTxn c' = inTxn c) ∨
      (s.lock = none ∧ s'.lock = some cid ∧ inTxn c' = true) ∨
      (s.lock = some cid ∧ s'.lock = none)) : Inv db0 s' := by
  have hlen : cid < s.clients.length := (List.getElem?_eq_some_iff.1 hc).1
  -- nobody but the lock holder is inside a transaction
  have others : ∀ i ci, i ≠ cid → s.clients[i]? = some ci → (s.lock = none ∨ s.lock = some cid) →
      PcOk s'.lock s'.db i ci := by
    intro i ci hne hi hl
    cases ht : inTxn ci
    · exact PcOk.of_not_inTxn ht
    · have := (h.pc i ci hi).inTxn_lock ht
      rcases hl with hl | hl
      · rw [hl] at this; cases this
      · rw [hl] at this; exact absurd (Option.some.inj this).symm hne
  refine ⟨hdb, hres, ?_, ?_⟩
  · intro i ci hi
    rw [hcl] at hi
    rcases getElem?_set_cases hi with ⟨rfl, rfl⟩ | ⟨hne, hi'⟩
    · exact hown
    · rcases hk with ⟨hl, hd, _⟩ | ⟨hl, _, _⟩ | ⟨hl, _⟩
      · rw [hl, hd]; exact h.pc i ci hi'
      · exact others i ci hne hi' (Or.inl hl)
      · exact others i ci hne hi' (Or.inr hl)
  · intro i hi
    rw [hcl]
    rcases hk with ⟨hl, _, ht⟩ | ⟨_, hl, ht⟩ | ⟨_, hl⟩
    · obtain ⟨ci, hci, hti⟩ := h.held i (hl ▸ hi)
      by_cases hic : i = cid
      · subst hic
        rw [hc] at hci
        cases hci
        exact ⟨c', List.getElem?_set_self hlen, ht ▸ hti⟩
      · exact ⟨ci, by rw [List.getElem?_set_ne (Ne.symm hic)]; exact hci, hti⟩
    · rw [hl] at hi
      cases hi
      exact ⟨c', List.getElem?_set_self hlen, ht⟩
    · rw [hl] at hi
      cases hi

theorem Inv_step {db0 : DB} {s : Sys DB Res} (h : Inv db0 s) (cid : Nat) :
    Inv db0 (step s cid) := by
  apply step_cases s cid h
  intro c s' hc hs
  have hpcOk := h.pc cid c hc
  have quiet {c' : Client DB Res} (ht : inTxn c' = inTxn c) :
      s.lock = s.lock ∧ s.db = s.db ∧ inTxn c' = inTxn c := ⟨rfl, rfl, ht⟩
  cases hs
  case read g rest hpc hprog =>
    refine h.update hc rfl ?_ ?_ trivial (.inl (quiet (by simp [inTxn, finish, hpc])))
    · simp [replay_append, ← h.hdb, applyEntry_read]
    · simp [replayRes_append, ← h.hdb, h.hres, applyEntry_read]
  case begin0 rt b rest hpc hprog hl | begin1 f fr rt b rest hpc hprog hl =>
    exact h.update hc rfl h.hdb h.hres ⟨rfl, rfl, _, _, _, _, hprog⟩ (.inr (.inl ⟨hl, rfl, rfl⟩))
  case body f w fr rt b rest w' r ok cl hpc hprog hb =>
    simp only [PcOk, hpc] at hpcOk
    obtain ⟨hl, rfl, _⟩ := hpcOk
    exact h.update hc rfl h.hdb h.hres ⟨hl, _, _, _, _, hprog, hb⟩
      (.inl (quiet (by simp [inTxn, hpc])))
  case commit f w r cl op rest hpc hprog | rollback f w r cl op rest hpc hprog =>
    simp only [PcOk, hpc] at hpcOk
    obtain ⟨hl, fr, rt, b, rest', hp', hb⟩ := hpcOk
    rw [hprog] at hp'
    obtain ⟨rfl, rfl⟩ := List.cons.inj hp'
    refine h.update hc rfl ?_ ?_ trivial (.inr (.inr ⟨hl, rfl⟩))
    · simp [replay_append, ← h.hdb, applyEntry_txn _ _ _ _ _ _ _ _ _ _ _ hb]
    · simp [replayRes_append, ← h.hdb, h.hres, applyEntry_txn _ _ _ _ _ _ _ _ _ _ _ hb]
  -- the remaining steps touch neither lock nor database nor log, and stay outside a transaction
  all_goals
    exact h.update hc rfl h.hdb h.hres trivial (.inl (quiet (by simp [inTxn, finish, *])))

theorem Inv_init {s : Sys DB Res} (hl : s.lock = none) (hlog : s.log = [])
    (hidle : ∀ c ∈ s.clients, c.pc = Pc.idle ∧ c.results = []) : Inv s.db s := by
  refine ⟨by simp [hlog, replay], by simp [hlog, replayRes], ?_, by simp [hl]⟩
  intro i c hi
  exact PcOk.of_not_inTxn (by simp [inTxn, (hidle c (List.mem_of_getElem? hi)).1])

theorem Inv_run {db0 : DB} {s : Sys DB Res} (h : Inv db0 s) (sched : List Nat) :
    Inv db0 (run s sched) := by
  induction sched generalizing s with
  | nil => exact h
  | cons a l ih => exact ih (Inv_step h a)

theorem Inv_crash {db0 : DB} {s : Sys DB Res} (h : Inv db0 s) (victim : Nat) :
    Inv db0 (crash s victim) := by
  unfold crash
  split
  · exact h
  · rename_i c hc
    refine h.update hc rfl h.hdb h.hres trivial ?_
    cases ht : inTxn c
    · have : s.lock ≠ some victim := fun hl => by
        obtain ⟨c', hc', ht'⟩ := h.held victim hl
        simp_all
      exact .inl ⟨by simp [this], rfl, rfl⟩
    · exact .inr (.inr ⟨(h.pc victim c hc).inTxn_lock ht, by simp [(h.pc victim c hc).inTxn_lock ht]⟩)

theorem crash_lock {db0 : DB} {s : Sys DB Res} (h : Inv db0 s) (victim : Nat) :
    (crash s victim).lock ≠ some victim := by
  unfold crash
  split
  · rename_i hc
    intro hl
    obtain ⟨c, hc', _⟩ := h.held victim hl
    simp [hc'] at hc
  · simp only []
    split <;> simp_all

def ResInv (s : Sys DB Res) : Prop :=
  ∀ (i : Nat) (c : Client DB Res), s.clients[i]? = some c →
    c.results.filterMap id ++ pending c.pc = (s.log.filter (fun e => e.cid == i)).map (·.res)

/-- A micro-step of `cid` either logs nothing and shows its client nothing new, or logs one call
of `cid` whose result the client now holds. -/
theorem ResInv.update {s s' : Sys DB Res} (h : ResInv s) {cid : Nat} {c c' : Client DB Res}
    (hc : s.clients[cid]? = some c) (hcl : s'.clients = s.clients.set cid c')
    (hk : (s'.log = s.log ∧
        c'.results.filterMap id ++ pending c'.pc = c.results.filterMap id ++ pending c.pc) ∨
      (∃ e : Entry DB Res, e.cid = cid ∧ s'.log = s.log ++ [e] ∧
        c'.results.filterMap id ++ pending c'.pc =
          c.results.filterMap id ++ pending c.pc ++ [e.res])) : ResInv s' := by
  intro i ci hi
  rw [hcl] at hi
  rcases getElem?_set_cases hi with ⟨rfl, rfl⟩ | ⟨hne, hi'⟩
  · rcases hk with ⟨hl, hv⟩ | ⟨e, he, hl, hv⟩
    · rw [hl, hv]; exact h i c hc
    · rw [hl, hv, h i c hc]; simp [List.filter_append, he]
  · rcases hk with ⟨hl, _⟩ | ⟨e, he, hl, _⟩
    · rw [hl]; exact h i ci hi'
    · have : (e.cid == i) = false := by simp [he]; exact fun e => hne e.symm
      rw [hl, h i ci hi']; simp [List.filter_append, this]

theorem ResInv_step {s : Sys DB Res} (h : ResInv s) (cid : Nat) : ResInv (step s cid) := by
  apply step_cases s cid h
  intro c s' hc hs
  cases hs
  case read g rest hpc hprog =>
    exact h.update hc rfl (.inr ⟨_, rfl, rfl, by simp [pending, finish, hpc]⟩)
  case commit f w r cl op rest hpc hprog | rollback f w r cl op rest hpc hprog =>
    exact h.update hc rfl (.inr ⟨_, rfl, rfl, by simp [pending, hpc]⟩)
  case unlink r f hpc =>
    exact h.update hc rfl (.inl ⟨rfl, by cases r <;> simp [pending, hpc]⟩)
  case undone r hpc =>
    exact h.update hc rfl (.inl ⟨rfl, by cases r <;> simp [pending, finish, hpc]⟩)
  all_goals exact h.update hc rfl (.inl ⟨rfl, by simp [pending, finish, *]⟩)

theorem ResInv_run {s : Sys DB Res} (h : ResInv s) (sched : List Nat) : ResInv (run s sched) := by
  induction sched generalizing s with
  | nil => exact h
  | cons a l ih => exact ih (ResInv_step h a)

theorem ResInv_init {s : Sys DB Res} (hlog : s.log = [])
    (hidle : ∀ c ∈ s.clients, c.pc = Pc.idle ∧ c.results = []) : ResInv s := by
  intro i c hi
  have := hidle c (List.mem_of_getElem? hi)
  simp [this, hlog, pending]

/-- `BodyOk` of C05.lean, which imports this file, is this predicate (`ProgsOk.safe`) -/
def BodySafe (refs : DB → List FName) (b : Body DB Res) : Prop :=
  ∀ db f w r ok cl, b.run db f = (w, r, ok, cl) → ok = true →
    (∀ x ∈ refs w, x ∈ refs db ∨ some x = f) ∧ (∀ x ∈ cl, x ∉ refs w) ∧
    (∀ x ∈ cl, x ∈ refs db ∨ some x = f)

def ProgsSafe (refs : DB → List FName) (s : Sys DB Res) : Prop :=
  ∀ c ∈ s.clients, ∀ fr rt b, Op.txn fr rt b ∈ c.prog → BodySafe refs b

/-- the fresh value file a client has written and not yet published or removed -/
def freshOf : Pc DB Res → Option FName
  | .wrote f => some f
  | .begun f _ => f
  | .ran f _ _ _ _ => f
  | .undo _ f => f
  | _ => none

/-- the files a client is still going to remove after its COMMIT -/
def cleanOf : Pc DB Res → List FName
  | .cleaning _ cl => cl
  | _ => []

def FLt (s : Sys DB Res) : Prop := ∀ x ∈ s.files, x < s.nextFile

def FRefd (refs : DB → List FName) (s : Sys DB Res) : Prop := ∀ x ∈ refs s.db, x ∈ s.files

def FFresh (refs : DB → List FName) (s : Sys DB Res) : Prop :=
  ∀ (i : Nat) (c : Client DB Res) (f : FName), s.clients[i]? = some c → freshOf c.pc = some f →
    f ∈ s.files ∧ f ∉ refs s.db

def FDistinct (s : Sys DB Res) : Prop :=
  ∀ (i j : Nat) (ci cj : Client DB Res) (f : FName), s.clients[i]? = some ci →
    s.clients[j]? = some cj → i ≠ j → freshOf ci.pc = some f →
      freshOf cj.pc ≠ some f ∧ f ∉ cleanOf cj.pc

def FClean (refs : DB → List FName) (s : Sys DB Res) : Prop :=
  ∀ (i : Nat) (c : Client DB Res) (x : FName), s.clients[i]? = some c → x ∈ cleanOf c.pc →
    x ∉ refs s.db ∧ x < s.nextFile

structure FInv (refs : DB → List FName) (s : Sys DB Res) : Prop where
  progs : ProgsSafe refs s
  lt : FLt s
  refd : FRefd refs s
  fresh : FFresh refs s
  distinct : FDistinct s
  clean : FClean refs s

theorem commit_facts {refs : DB → List FName} {db0 : DB} {s : Sys DB Res} (hI : Inv db0 s)
    (hp : ProgsSafe refs s) {cid : Nat} {c : Client DB Res} {f : Option FName} {w : DB} {r : Res}
    {cl : List FName} (hc : s.clients[cid]? = some c) (hpc : c.pc = .ran f w r true cl) :
    (∀ x ∈ refs w, x ∈ refs s.db ∨ some x = f) ∧ (∀ x ∈ cl, x ∉ refs w) ∧
    (∀ x ∈ cl, x ∈ refs s.db ∨ some x = f) := by
  have hpcOk := hI.pc cid c hc
  simp only [PcOk, hpc] at hpcOk
  obtain ⟨_, fr, rt, b, rest', hp', hb⟩ := hpcOk
  have hbs : BodySafe refs b :=
    hp c (List.mem_of_getElem? hc) fr rt b (by rw [hp']; exact List.mem_cons_self)
  exact hbs _ _ _ _ _ _ hb rfl

theorem mem_filter_bne {x y : FName} {l : List FName} (hy : y ∈ l) :
    y ∈ l.filter (· != x) ∨ y = x := by
  by_cases e : y = x
  · exact .inr e
  · exact .inl (List.mem_filter.2 ⟨hy, by simpa using e⟩)

/-- What a micro-step of client `cid` may do to the value files.  File names are only ever handed
out upwards; a file leaves the directory only if it is the client's own fresh or cleanup name and
the database does not name it; the database comes to name nothing but the client's fresh file.
The client's fresh file stays or is brand-new; its cleanup names come from its earlier ones, from
the database, or from its fresh file. -/
theorem FInv.update {refs : DB → List FName} {s s' : Sys DB Res} (h : FInv refs s) {cid : Nat}
    {c c' : Client DB Res} (hc : s.clients[cid]? = some c)
    (hcl : s'.clients = s.clients.set cid c') (hprog : ∀ op ∈ c'.prog, op ∈ c.prog)
    (hnf : s.nextFile ≤ s'.nextFile) (hlt : FLt s')
    (hrefs : ∀ x ∈ refs s'.db, x ∈ refs s.db ∨ freshOf c.pc = some x)
    (hfiles : ∀ x ∈ s.files, x ∈ s'.files ∨
      (x ∉ refs s'.db ∧ (freshOf c.pc = some x ∨ x ∈ cleanOf c.pc)))
    (hf : ∀ f, freshOf c'.pc = some f →
      (freshOf c.pc = some f ∨ s.nextFile ≤ f) ∧ f ∈ s'.files ∧ f ∉ refs s'.db)
    (hx : ∀ x ∈ cleanOf c'.pc,
      (x ∈ cleanOf c.pc ∨ x ∈ refs s.db ∨ freshOf c.pc = some x) ∧ x ∉ refs s'.db) :
    FInv refs s' := by
  -- what the invariant says about another client's names, seen from `cid`
  have ofresh : ∀ i ci f, i ≠ cid → s.clients[i]? = some ci → freshOf ci.pc = some f →
      f ∈ s.files ∧ f ∉ refs s.db ∧ freshOf c.pc ≠ some f ∧ f ∉ cleanOf c.pc :=
    fun i ci f hne hi hfi =>
      ⟨(h.fresh i ci f hi hfi).1, (h.fresh i ci f hi hfi).2, h.distinct i cid ci c f hi hc hne hfi⟩
  have oclean : ∀ i ci x, i ≠ cid → s.clients[i]? = some ci → x ∈ cleanOf ci.pc →
      x ∉ refs s.db ∧ x < s.nextFile ∧ freshOf c.pc ≠ some x :=
    fun i ci x hne hi hxi => ⟨(h.clean i ci x hi hxi).1, (h.clean i ci x hi hxi).2,
      fun e => (h.distinct cid i c ci x hc hi (Ne.symm hne) e).2 hxi⟩
  refine ⟨?_, hlt, ?_, ?_, ?_, ?_⟩
  · intro ci hci fr rt b hm
    rcases List.mem_iff_getElem?.1 hci with ⟨i, hi⟩
    rw [hcl] at hi
    rcases getElem?_set_cases hi with ⟨_, rfl⟩ | ⟨_, hi'⟩
    · exact h.progs c (List.mem_of_getElem? hc) fr rt b (hprog _ hm)
    · exact h.progs ci (List.mem_of_getElem? hi') fr rt b hm
  · intro x hx'
    have : x ∈ s.files := (hrefs x hx').elim (h.refd x) (fun e => (h.fresh cid c x hc e).1)
    exact (hfiles x this).elim id (fun e => absurd hx' e.1)
  · intro i ci f hi hfi
    rw [hcl] at hi
    rcases getElem?_set_cases hi with ⟨rfl, rfl⟩ | ⟨hne, hi'⟩
    · exact (hf f hfi).2
    · obtain ⟨h1, h2, d1, d2⟩ := ofresh i ci f hne hi' hfi
      exact ⟨(hfiles f h1).elim id (fun e => e.2.elim (absurd · d1) (absurd · d2)),
        fun hw => (hrefs f hw).elim h2 d1⟩
  · intro i j ci cj f hi hj hij hfi
    rw [hcl] at hi hj
    rcases getElem?_set_cases hi with ⟨rfl, rfl⟩ | ⟨hne, hi'⟩
    · rcases getElem?_set_cases hj with ⟨rfl, rfl⟩ | ⟨_, hj'⟩
      · exact absurd rfl hij
      · rcases (hf f hfi).1 with ho | hnew
        · exact h.distinct i j c cj f hc hj' hij ho
        · exact ⟨fun e => Nat.lt_irrefl _ (Nat.lt_of_lt_of_le (h.lt f (h.fresh j cj f hj' e).1) hnew),
            fun e => Nat.lt_irrefl _ (Nat.lt_of_lt_of_le (h.clean j cj f hj' e).2 hnew)⟩
    · rcases getElem?_set_cases hj with ⟨rfl, rfl⟩ | ⟨_, hj'⟩
      · obtain ⟨h1, h2, d1, d2⟩ := ofresh i ci f hne hi' hfi
        refine ⟨fun e => ?_, fun e => ?_⟩
        · exact (hf f e).1.elim d1 (fun hnew => Nat.lt_irrefl _ (Nat.lt_of_lt_of_le (h.lt f h1) hnew))
        · exact (hx f e).1.elim d2 (fun o => o.elim h2 d1)
      · exact h.distinct i j ci cj f hi' hj' hij hfi
  · intro i ci x hi hxi
    rw [hcl] at hi
    rcases getElem?_set_cases hi with ⟨rfl, rfl⟩ | ⟨hne, hi'⟩
    · refine ⟨(hx x hxi).2, Nat.lt_of_lt_of_le ?_ hnf⟩
      rcases (hx x hxi).1 with o | o | o
      · exact (h.clean i c x hc o).2
      · exact h.lt x (h.refd x o)
      · exact h.lt x (h.fresh i c x hc o).1
    · obtain ⟨h1, h2, d1⟩ := oclean i ci x hne hi' hxi
      exact ⟨fun hw => (hrefs x hw).elim h1 d1, Nat.lt_of_lt_of_le h2 hnf⟩

theorem FInv.frame {refs : DB → List FName} {s s' : Sys DB Res} (h : FInv refs s) {cid : Nat}
    {c c' : Client DB Res} (hc : s.clients[cid]? = some c)
    (hcl : s'.clients = s.clients.set cid c') (hprog : ∀ op ∈ c'.prog, op ∈ c.prog)
    (hdb : s'.db = s.db) (hfl : s'.files = s.files) (hnf : s'.nextFile = s.nextFile)
    (hf : ∀ f, freshOf c'.pc = some f → freshOf c.pc = some f)
    (hx : ∀ x ∈ cleanOf c'.pc, x ∈ cleanOf c.pc) : FInv refs s' := by
  refine h.update hc hcl hprog (Nat.le_of_eq hnf.symm) ?_ ?_ ?_ ?_ ?_
  · rw [FLt, hfl, hnf]
    exact h.lt
  · rw [hdb]
    exact fun _ hx => .inl hx
  · rw [hfl]
    exact fun _ hx => .inl hx
  · intro f hf'
    rw [hfl, hdb]
    exact ⟨.inl (hf f hf'), h.fresh cid c f hc (hf f hf')⟩
  · intro x hx'
    rw [hdb]
    exact ⟨.inl (hx x hx'), (h.clean cid c x hc (hx x hx')).1⟩

/-- `write` makes a file under a name never used before; `commit` publishes the fresh file and
takes over the cleanup list of the body (`commit_facts`); `clean` and `unlink` remove a file the
committed state does not name. -/
theorem FInv_step {refs : DB → List FName} {db0 : DB} {s : Sys DB Res} (hI : Inv db0 s)
    (h : FInv refs s) (cid : Nat) : FInv refs (step s cid) := by
  apply step_cases s cid h
  intro c s' hc hs
  cases hs
  case write rt b rest hpc hprog =>
    refine h.update hc rfl (fun _ h => h) (Nat.le_succ _) ?_ (fun _ hx => .inl hx)
      (fun x hx => .inl (List.mem_cons_of_mem _ hx)) ?_ (fun x hx => nomatch hx)
    · intro x hx
      rcases List.mem_cons.1 hx with rfl | hx
      · exact Nat.lt_succ_self _
      · exact Nat.lt_succ_of_lt (h.lt x hx)
    · intro f hf
      cases hf
      exact ⟨.inr (Nat.le_refl _), List.mem_cons_self,
        fun hm => Nat.lt_irrefl _ (h.lt _ (h.refd _ hm))⟩
  case commit f w r cl op rest hpc hprog =>
    obtain ⟨hA, hB, hC⟩ := commit_facts hI h.progs hc hpc
    have own : ∀ x, some x = f → freshOf c.pc = some x := fun x e => by rw [hpc]; exact e.symm
    exact h.update hc rfl (fun _ h => h) (Nat.le_refl _) h.lt
      (fun x hx => (hA x hx).imp_right (own x)) (fun _ hx => .inl hx) (fun f hf => nomatch hf)
      (fun x hx => ⟨.inr ((hC x hx).imp_right (own x)), hB x hx⟩)
  case clean r x cl hpc =>
    have old : ∀ y ∈ x :: cl, y ∈ cleanOf c.pc := fun y hy => by rw [hpc]; exact hy
    exact h.update hc rfl (fun _ h => h) (Nat.le_refl _)
      (fun y hy => h.lt y (List.mem_filter.1 hy).1) (fun _ hy => .inl hy)
      (fun y hy => (mem_filter_bne hy).imp_right fun (e : y = x) =>
        ⟨(h.clean cid c y hc (old y (e ▸ List.mem_cons_self))).1,
          .inr (old y (e ▸ List.mem_cons_self))⟩)
      (fun f hf => nomatch hf)
      (fun y hy => ⟨.inl (old y (List.mem_cons_of_mem _ hy)),
        (h.clean cid c y hc (old y (List.mem_cons_of_mem _ hy))).1⟩)
  case unlink r f hpc =>
    have old : freshOf c.pc = some f := by rw [hpc]; rfl
    exact h.update hc rfl (fun _ h => h) (Nat.le_refl _)
      (fun y hy => h.lt y (List.mem_filter.1 hy).1) (fun _ hy => .inl hy)
      (fun y hy => (mem_filter_bne hy).imp_right fun (e : y = f) =>
        ⟨e ▸ (h.fresh cid c f hc old).2, .inl (e ▸ old)⟩)
      (fun f hf => nomatch hf) (fun x hx => nomatch hx)
  -- the remaining steps leave database and files alone and hand the client no new name
  all_goals
    refine h.frame hc rfl ?_ rfl rfl rfl (by rw [‹c.pc = _›]; exact fun _ h => h)
      (by rw [‹c.pc = _›]; exact fun _ h => h)
    intro op hop
    first
      | exact hop
      | exact List.mem_of_mem_tail hop

theorem FInv_run {refs : DB → List FName} {db0 : DB} {s : Sys DB Res} (hI : Inv db0 s)
    (h : FInv refs s) (sched : List Nat) : FInv refs (run s sched) := by
  induction sched generalizing s with
  | nil => exact h
  | cons a l ih => exact ih (Inv_step hI a) (FInv_step hI h a)

theorem FInv_init {refs : DB → List FName} {s : Sys DB Res} (hp : ProgsSafe refs s)
    (hidle : ∀ c ∈ s.clients, c.pc = Pc.idle ∧ c.results = [])
    (hfresh : ∀ f ∈ s.files, f < s.nextFile) (h0 : ∀ x ∈ refs s.db, x ∈ s.files) :
    FInv refs s := by
  have key : ∀ (i : Nat) (c : Client DB Res), s.clients[i]? = some c → c.pc = Pc.idle :=
    fun i c hi => (hidle c (List.mem_of_getElem? hi)).1
  refine ⟨hp, hfresh, h0, ?_, ?_, ?_⟩
  · intro i c f hi hf
    rw [key i c hi] at hf
    simp [freshOf] at hf
  · intro i j ci cj f hi hj hne hf
    rw [key i ci hi] at hf
    simp [freshOf] at hf
  · intro i c x hi hx
    rw [key i c hi] at hx
    simp [cleanOf] at hx

theorem FInv_crash {refs : DB → List FName} {s : Sys DB Res} (h : FInv refs s) (victim : Nat) :
    FInv refs (crash s victim) := by
  unfold crash
  split
  · exact h
  · rename_i c hc
    exact h.frame hc rfl (fun _ hm => nomatch hm) rfl rfl rfl (fun _ hf => nomatch hf)
      (fun _ hx => nomatch hx)

end DC.Conc
