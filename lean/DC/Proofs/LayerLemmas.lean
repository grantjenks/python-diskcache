/- helper lemmas for the FanoutCache and DjangoCache models: `each` visits every shard once, in order
(`each_shape`); the parts from which C19 shows `Django.makeKey` injective in version and key -/
import DC.Proofs.Queue
import DC.Model.Layers
import DC.Properties.C03_Paging

namespace DC

namespace Fanout

theorem onShard_getElem_ne (f : Fanout) (i j : Nat) (op : Cache → Cache × Out) (hj : j ≠ i) :
    (f.onShard i op).1.shards[j]? = f.shards[j]? := by
  unfold onShard
  split
  · rfl
  · simp only
    rw [List.getElem?_set_ne (Ne.symm hj)]

theorem onShard_some (f : Fanout) (i : Nat) (op : Cache → Cache × Out) (s : Cache)
    (hs : f.shards[i]? = some s) :
    (f.onShard i op).2 = (op { s with env := f.env, envMiss := false, trace := [] }).2 ∧
    (f.onShard i op).1.shards[i]? = some (op { s with env := f.env, envMiss := false, trace := [] }).1 := by
  unfold onShard
  rw [hs]
  simp only [true_and]
  have hi : i < f.shards.length := by
    rcases List.getElem?_eq_some_iff.1 hs with ⟨h, _⟩
    exact h
  rw [List.getElem?_set_self hi]

theorem onShard_shards_length (f : Fanout) (i : Nat) (op : Cache → Cache × Out) :
    (f.onShard i op).1.shards.length = f.shards.length := by
  unfold onShard
  split
  · rfl
  · simp

theorem onShard_forall (f : Fanout) (i : Nat) (op : Cache → Cache × Out) (P : Cache → Prop)
    (h0 : ∀ s ∈ f.shards, P s)
    (h1 : ∀ s ∈ f.shards, P (op { s with env := f.env, envMiss := false, trace := [] }).1) :
    ∀ s' ∈ (f.onShard i op).1.shards, P s' := by
  unfold onShard
  split
  · exact h0
  · next s hs =>
    intro s' hs'
    rcases List.mem_or_eq_of_mem_set hs' with h | rfl
    · exact h0 s' h
    · exact h1 s (List.mem_of_getElem? hs)

def eachStep (op : Cache → Cache × Out) (acc : Fanout × List Out) (i : Nat) : Fanout × List Out :=
  ((acc.1.onShard i op).1, acc.2 ++ [(acc.1.onShard i op).2])

theorem each_eq (f : Fanout) (op : Cache → Cache × Out) :
    f.each op = (List.range f.shards.length).foldl (eachStep op) (f, []) := rfl

theorem each_induct (f : Fanout) (op : Cache → Cache × Out) (P : Nat → Fanout × List Out → Prop)
    (h0 : P 0 (f, []))
    (hstep : ∀ k acc, k < f.shards.length → P k acc → P (k + 1) (eachStep op acc k)) :
    P f.shards.length (f.each op) := by
  rw [each_eq]
  have : ∀ k, k ≤ f.shards.length → P k ((List.range k).foldl (eachStep op) (f, [])) := by
    intro k
    induction k with
    | zero => intro _; exact h0
    | succ k ih =>
      intro hk
      rw [List.range_succ, List.foldl_append]
      exact hstep k _ (by omega) (ih (by omega))
  exact this _ (Nat.le_refl _)

theorem foldl_add_sum {α : Type} (o : α → Out) (g : Int → Out → Int) (v : α → Int)
    (h : ∀ a x, g a (o x) = a + v x) (l : List α) (a : Int) :
    (l.map o).foldl g a = a + (l.map v).sum := by
  induction l generalizing a with
  | nil => simp
  | cons x t ih => simp only [List.map_cons, List.foldl_cons, List.sum_cons, h, ih]; omega

theorem sumInts_ints (l : List Int) : sumInts (l.map Out.int) = .int l.sum := by
  unfold sumInts
  rw [foldl_add_sum Out.int _ id (fun _ _ => rfl), List.map_id, Int.zero_add]

/-- every shard exactly once, in order: the `i`-th result and the `i`-th shard afterwards are the
Cache call on the `i`-th shard (carrying the observations `env` left by the earlier shards) -/
theorem each_shape (f : Fanout) (op : Cache → Cache × Out) :
    (f.each op).2.length = f.shards.length ∧ (f.each op).1.shards.length = f.shards.length ∧
    ∀ i (hi : i < f.shards.length), ∃ env : List Nat,
      (f.each op).2[i]? = some (op { f.shards[i] with env := env, envMiss := false, trace := [] }).2 ∧
      (f.each op).1.shards[i]? =
        some (op { f.shards[i] with env := env, envMiss := false, trace := [] }).1 := by
  have hI := each_induct f op
    (fun k acc => acc.2.length = k ∧ acc.1.shards.length = f.shards.length ∧
      (∀ j : Nat, k ≤ j → acc.1.shards[j]? = f.shards[j]?) ∧
      ∀ i (hi : i < f.shards.length), i < k → ∃ env : List Nat,
        acc.2[i]? = some (op { f.shards[i] with env := env, envMiss := false, trace := [] }).2 ∧
        acc.1.shards[i]? = some (op { f.shards[i] with env := env, envMiss := false, trace := [] }).1)
    ⟨rfl, rfl, fun _ _ => rfl, fun i _ h => absurd h (Nat.not_lt_zero _)⟩ ?_
  · exact ⟨hI.1, hI.2.1, fun i hi => hI.2.2.2 i hi hi⟩
  · intro k acc hk ⟨hl, hn, hrest, hdone⟩
    have hk2 := hrest k (Nat.le_refl _)
    rw [List.getElem?_eq_getElem hk] at hk2
    obtain ⟨ho, hsh⟩ := onShard_some acc.1 k op _ hk2
    refine ⟨?_, ?_, ?_, ?_⟩
    · show (acc.2 ++ [_]).length = k + 1
      rw [List.length_append, hl]; rfl
    · show (acc.1.onShard k op).1.shards.length = _
      rw [onShard_shards_length, hn]
    · intro j hj
      show (acc.1.onShard k op).1.shards[j]? = _
      rw [onShard_getElem_ne _ _ _ _ (by omega)]
      exact hrest j (by omega)
    · intro i hi hik
      by_cases hik' : i = k
      · subst hik'
        refine ⟨acc.1.env, ?_, hsh⟩
        show (acc.2 ++ [(acc.1.onShard i op).2])[i]? = _
        rw [List.getElem?_append_right (by omega), hl, Nat.sub_self, ho]
        rfl
      · obtain ⟨env, h1, h2⟩ := hdone i hi (by omega)
        refine ⟨env, ?_, ?_⟩
        · show (acc.2 ++ [(acc.1.onShard k op).2])[i]? = _
          rw [List.getElem?_append_left (by omega)]
          exact h1
        · show (acc.1.onShard k op).1.shards[i]? = _
          rw [onShard_getElem_ne _ _ _ _ hik']
          exact h2

theorem each_forall (f : Fanout) (op : Cache → Cache × Out) (P : Cache → Prop)
    (h : ∀ s ∈ f.shards, ∀ env, P (op { s with env := env, envMiss := false, trace := [] }).1) :
    ∀ s' ∈ (f.each op).1.shards, P s' := by
  obtain ⟨-, hn, hp⟩ := each_shape f op
  intro s' hs'
  obtain ⟨i, hi, rfl⟩ := List.getElem_of_mem hs'
  obtain ⟨env, -, h2⟩ := hp i (hn ▸ hi)
  rw [List.getElem?_eq_getElem hi] at h2
  rw [Option.some.inj h2]
  exact h _ (List.getElem_mem _) env

theorem each_map_state {β : Type} (f : Fanout) (op : Cache → Cache × Out) (g g' : Cache → β)
    (h : ∀ s ∈ f.shards, ∀ env,
      g (op { s with env := env, envMiss := false, trace := [] }).1 = g' s) :
    (f.each op).1.shards.map g = f.shards.map g' := by
  obtain ⟨-, hn, hp⟩ := each_shape f op
  apply List.ext_getElem?
  intro i
  rw [List.getElem?_map, List.getElem?_map]
  by_cases hi : i < f.shards.length
  · obtain ⟨env, -, h2⟩ := hp i hi
    rw [h2, List.getElem?_eq_getElem hi, Option.map_some, Option.map_some,
      h _ (List.getElem_mem hi) env]
  · rw [List.getElem?_eq_none (by omega), List.getElem?_eq_none (by omega)]
    rfl

theorem each_map_out (f : Fanout) (op : Cache → Cache × Out) (g' : Cache → Out)
    (h : ∀ s ∈ f.shards, ∀ env,
      (op { s with env := env, envMiss := false, trace := [] }).2 = g' s) :
    (f.each op).2 = f.shards.map g' := by
  obtain ⟨hl, -, hp⟩ := each_shape f op
  apply List.ext_getElem?
  intro i
  rw [List.getElem?_map]
  by_cases hi : i < f.shards.length
  · obtain ⟨env, h1, -⟩ := hp i hi
    rw [h1, List.getElem?_eq_getElem hi, Option.map_some, h _ (List.getElem_mem hi) env]
  · rw [List.getElem?_eq_none (by omega), List.getElem?_eq_none (by omega)]
    rfl

end Fanout

namespace Django

theorem intDigits_eq (n : Nat) : intDigits n = (Nat.toDigits 10 n).map Char.toNat := by
  simp [intDigits]

theorem intDigits_range (n : Nat) : ∀ c ∈ intDigits n, 48 ≤ c ∧ c ≤ 57 := by
  intro c hc
  rw [intDigits_eq, List.mem_map] at hc
  obtain ⟨ch, hch, rfl⟩ := hc
  have := Nat.isDigit_of_mem_toDigits (by decide) (by decide) hch
  simp only [Char.isDigit, Bool.and_eq_true, decide_eq_true_eq] at this
  have h1 : (48 : UInt32).toNat ≤ ch.val.toNat := UInt32.le_iff_toNat_le.1 this.1
  have h2 : ch.val.toNat ≤ (57 : UInt32).toNat := UInt32.le_iff_toNat_le.1 this.2
  exact ⟨h1, h2⟩

theorem intDigits_ne_nil (n : Nat) : intDigits n ≠ [] := by
  rw [intDigits_eq]; simp

theorem intDigits_inj (m n : Nat) (h : intDigits m = intDigits n) : m = n := by
  rw [intDigits_eq, intDigits_eq] at h
  have h' : Nat.toDigits 10 m = Nat.toDigits 10 n := by
    exact (List.map_inj_right (fun a b hab => Char.toNat_inj.1 hab)).1 h
  have := congrArg (fun l => Nat.ofDigitChars 10 l 0) h'
  simpa [Nat.ofDigitChars_toDigits] using this

theorem split_at_sep (sep : Nat) : ∀ (a b k₁ k₂ : List Nat), sep ∉ a → sep ∉ b →
    a ++ sep :: k₁ = b ++ sep :: k₂ → a = b ∧ k₁ = k₂ := by
  intro a
  induction a with
  | nil =>
    intro b k₁ k₂ _ hb h
    cases b with
    | nil => simpa using h
    | cons x t =>
      simp only [List.nil_append, List.cons_append, List.cons.injEq] at h
      exact absurd (h.1 ▸ List.mem_cons_self) hb
  | cons x t ih =>
    intro b k₁ k₂ ha hb h
    cases b with
    | nil =>
      simp only [List.nil_append, List.cons_append, List.cons.injEq] at h
      exact absurd (h.1 ▸ List.mem_cons_self) ha
    | cons y u =>
      simp only [List.cons_append, List.cons.injEq] at h
      have := ih u k₁ k₂ (fun hm => ha (List.mem_cons_of_mem _ hm))
        (fun hm => hb (List.mem_cons_of_mem _ hm)) h.2
      exact ⟨by rw [h.1, this.1], this.2⟩

/-- the version part of `makeKey` -/
def verStr (v : Int) : Str := if v < 0 then 45 :: intDigits (-v).toNat else intDigits v.toNat

theorem verStr_no_sep (v : Int) : 58 ∉ verStr v := by
  unfold verStr
  intro h
  split at h
  · rcases List.mem_cons.1 h with h | h
    · omega
    · have := intDigits_range _ _ h; omega
  · have := intDigits_range _ _ h; omega

theorem verStr_inj (v w : Int) (h : verStr v = verStr w) : v = w := by
  unfold verStr at h
  have hne : ∀ n l, 45 :: l ≠ intDigits n := by
    intro n l he
    have := intDigits_range n 45 (he ▸ List.mem_cons_self)
    omega
  split at h <;> split at h
  · have := intDigits_inj _ _ (List.cons.inj h).2
    omega
  · exact absurd h (hne _ _)
  · exact absurd h.symm (hne _ _)
  · have := intDigits_inj _ _ h
    omega

theorem makeKey_eq (d : Django) (k : Str) (v : Option Int) :
    d.makeKey k v = .str ((d.keyPrefix ++ [58]) ++ (verStr (v.getD d.version) ++ 58 :: k)) := by
  simp [makeKey, verStr]

theorem cache_incr_dead (s : Cache) (E : Externals) (now : Int) (k : PyVal) (delta : Int)
    (hdead : ∀ r ∈ s.rows, Cache.keyMatch (put E s.cfg.disk k).1 (put E s.cfg.disk k).2 r = true →
      Cache.expired now r = true) (hdepth : s.depth = 0) :
    (s.incr E now k delta none).2 = .exc "KeyError" := by
  unfold Cache.incr
  simp only [Cache.transact_outer s hdepth]
  cases hsel : (s.log .begin).selKey (put E s.cfg.disk k).1 (put E s.cfg.disk k).2 with
  | none => simp
  | some r =>
    have hmem : r ∈ s.rows := List.mem_of_find?_eq_some hsel
    have hm : Cache.keyMatch (put E s.cfg.disk k).1 (put E s.cfg.disk k).2 r = true :=
      List.find?_some hsel
    simp [hdead r hmem hm]

end Django

end DC
