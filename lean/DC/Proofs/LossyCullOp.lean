/-
C03_Lossy / C09: the explicit `cull()` under an eviction policy.  After the
expired rows are gone (`expireLoop`), the policy loop (`cullLoop`) removes
batches of rows in the policy's order while the observed volume is above the
limit.  Here: the files that remain are files of the state before, the evicted
rows precede the survivors in the policy order, the loop starts only above the
limit and stops only at an empty table or with the volume within the limit.
-/
import DC.Proofs.LossyOps

namespace DC.Cache
open DC.Spec

theorem volume_env_tail (s : Cache) : s.volume.1.env = s.env.tail := by
  unfold volume
  simp only [logSql_env]
  cases s.env <;> rfl

theorem volume_snd_nil (s : Cache) (h : s.env = []) : s.volume.2 = s.size := by
  unfold volume; simp only [logSql_env, h]; rfl

theorem cullLoop_order : ∀ (fuel : Nat) (s : Cache) (n : Nat), RowidsAsc s.rows →
    ∀ x ∈ s.rows, x ∉ (cullLoop fuel s n).1.rows → ∀ w ∈ (cullLoop fuel s n).1.rows,
      policyLt s.cfg.policy w x = false := by
  intro fuel
  induction fuel with
  | zero => intro s n _ x hx hnot; exact absurd hx hnot
  | succ fuel ih =>
    intro s n hasc x hx hnot w hw
    rw [cullLoop_succ] at hnot hw
    split at hnot
    · rw [volume_rows] at hnot; exact absurd hx hnot
    · rename_i h1
      rw [if_neg h1] at hw
      split at hnot
      · rw [cullEmpty_rows, volume_rows] at hnot; exact absurd hx hnot
      · rename_i h2
        rw [if_neg h2] at hw
        have hasc0 : RowidsAsc s.volume.1.rows := by rw [volume_rows]; exact hasc
        have hrows := cullStep_rows_sub s.volume.1 hasc0 s.volume.1.cfg.batch
        have hcfg : (cullStep s.volume.1 (s.volume.1.selPolicy s.volume.1.cfg.batch)).cfg = s.cfg := by
          rw [cullStep_cfg, volume_cfg]
        have hasc2 : RowidsAsc (cullStep s.volume.1 (s.volume.1.selPolicy s.volume.1.cfg.batch)).rows := by
          rw [hrows]; exact hasc0.filter _
        have hsub := (cullLoop_inv fuel _ (n + (s.volume.1.selPolicy s.volume.1.cfg.batch).length) hasc2).1
        have hw2 := hsub.subset hw
        rw [hrows] at hw2
        obtain ⟨hw3, hw4⟩ := List.mem_filter.1 hw2
        have hw4 : w ∉ s.volume.1.selPolicy s.volume.1.cfg.batch := by simpa using hw4
        by_cases hxb : x ∈ s.volume.1.selPolicy s.volume.1.cfg.batch
        · unfold selPolicy at hxb hw4
          rw [volume_rows, volume_cfg] at hxb hw4
          rw [volume_rows] at hw3
          exact isort_take_le (policyLt_strictWeak _) s.rows _ hxb hw3 hw4
        · have hx2 : x ∈ (cullStep s.volume.1 (s.volume.1.selPolicy s.volume.1.cfg.batch)).rows := by
            rw [hrows]
            exact List.mem_filter.2 ⟨by rw [volume_rows]; exact hx, by simpa using hxb⟩
          have := ih _ _ hasc2 x hx2 hnot w hw
          rw [hcfg] at this
          exact this

theorem cullLoop_started (fuel : Nat) (s : Cache) (n : Nat)
    (hne : (cullLoop fuel s n).1.rows ≠ s.rows) :
    ∀ pb rest, s.env = pb :: rest → aboveLimit s.cfg ((pb : Int) + s.size) = true := by
  intro pb rest henv
  cases fuel with
  | zero => exact absurd rfl hne
  | succ fuel =>
    rw [cullLoop_succ] at hne
    split at hne
    · rw [volume_rows] at hne; exact absurd rfl hne
    · rename_i h1
      rw [volume_cfg, volume_snd_cons s pb rest henv] at h1
      simpa using h1

theorem cullLoop_stopped : ∀ (fuel : Nat) (s : Cache) (n : Nat), RowidsAsc s.rows → 0 < s.cfg.batch →
    s.rows.length < fuel →
    (cullLoop fuel s n).1.rows = [] ∨
    ∃ pb : Nat, (pb = 0 ∨ pb ∈ s.env) ∧
      aboveLimit s.cfg ((pb : Int) + (cullLoop fuel s n).1.size) = false := by
  intro fuel
  induction fuel with
  | zero => intro s n _ _ h; omega
  | succ fuel ih =>
    intro s n hasc hb hlen
    rw [cullLoop_succ]
    split
    · rename_i h1
      right
      rw [volume_cfg] at h1
      simp only [volume_size]
      cases henv : s.env with
      | nil =>
        rw [volume_snd_nil s henv] at h1
        exact ⟨0, .inl rfl, by simpa using h1⟩
      | cons pb rest =>
        rw [volume_snd_cons s pb rest henv] at h1
        exact ⟨pb, .inr (by simp), by simpa using h1⟩
    · split
      · rename_i h2
        left
        rw [cullEmpty_rows, volume_rows]
        have h3 : (s.volume.1.selPolicy s.volume.1.cfg.batch) = [] := List.isEmpty_iff.1 h2
        unfold selPolicy at h3
        rw [volume_rows, volume_cfg] at h3
        have h4 := congrArg List.length h3
        rw [List.length_take, length_isort] at h4
        simp only [List.length_nil] at h4
        exact List.eq_nil_of_length_eq_zero (by omega)
      · rename_i h1 h2
        have hasc0 : RowidsAsc s.volume.1.rows := by rw [volume_rows]; exact hasc
        have hrows := cullStep_rows_sub s.volume.1 hasc0 s.volume.1.cfg.batch
        have hl := length_filter_not_mem hasc0.nodup (selPolicy_nodup hasc0 s.volume.1.cfg.batch)
          (fun x hx => selPolicy_mem hx)
        have hpos : 0 < (s.volume.1.selPolicy s.volume.1.cfg.batch).length := by
          cases hsel : s.volume.1.selPolicy s.volume.1.cfg.batch with
          | nil => rw [hsel] at h2; simp at h2
          | cons a t => simp
        have hcfg : (cullStep s.volume.1 (s.volume.1.selPolicy s.volume.1.cfg.batch)).cfg = s.cfg := by
          rw [cullStep_cfg, volume_cfg]
        rw [volume_rows] at hl
        have := ih (cullStep s.volume.1 (s.volume.1.selPolicy s.volume.1.cfg.batch))
          (n + (s.volume.1.selPolicy s.volume.1.cfg.batch).length)
          (by rw [hrows]; exact hasc0.filter _) (by rw [hcfg]; exact hb)
          (by rw [hrows]; rw [volume_rows]; omega)
        rcases this with h | ⟨pb, hpb, h⟩
        · exact .inl h
        · right
          refine ⟨pb, ?_, by rw [hcfg] at h; exact h⟩
          rcases hpb with h0 | hm
          · exact .inl h0
          · right
            rw [(cullStep_frame _ _).env, volume_env_tail] at hm
            exact List.mem_of_mem_tail hm

theorem lost_partition {now : Int} {X Y : List Row} (h : Y.Sublist X) (hn : X.Nodup)
    (hX : ∀ r ∈ X, expired now r = false) :
    sumSizes Y + sumSizes (lostRows now X Y) = sumSizes X ∧
    Y.length + (lostRows now X Y).length = X.length := by
  have hL : lostRows now X Y = X.filter (fun r => !decide (r ∈ Y)) := by
    unfold lostRows
    apply List.filter_congr
    intro r hr
    simp [hX r hr]
  have hY := filter_mem_sublist h hn
  rw [hL]
  refine ⟨?_, ?_⟩
  · have := sumSizes_filter_add (fun r => decide (r ∈ Y)) X
    rw [hY] at this; exact this
  · have := length_filter_add_not (fun r => decide (r ∈ Y)) X
    rw [hY] at this; exact this

theorem rf_cull_lossy (c : Cache) (now : Int) (hg : Good c) (hpg : 0 < c.cfg.page) :
    (c.cull now).1.rows.Sublist (c.rows.filter (fun r => !(expired now r))) ∧
    (∀ p ∈ (c.cull now).1.files, p ∈ c.files) ∧
    CullLoss c (c.cull now).1 (c.cull now).2 now
      (lostRows now (c.rows.filter (fun r => !(expired now r))) (c.cull now).1.rows) := by
  have hasc := hg.tinv.tbl.asc
  have hspec := cull_spec c now hasc hpg
  have hcount := cull_count c now hasc hpg
  have hti' := cull_inv c now hg.tinv
  obtain ⟨e1, -, e3⟩ := expire_spec c now hasc hpg
  have hti1 := expireLoop_inv now (c.rows.length + 1) (s := c) none 0 hg.tinv
  have henv1 := (rf_expireLoop_frame now (c.rows.length + 1) c none 0).env
  have hXe : ∀ r ∈ c.rows.filter (fun r => !(expired now r)), expired now r = false := by
    intro r hr; simpa using (List.mem_filter.1 hr).2
  have hXasc : RowidsAsc (c.rows.filter (fun r => !(expired now r))) := hasc.filter _
  have hXu : KeysUnique (c.rows.filter (fun r => !(expired now r))) :=
    List.Pairwise.sublist List.filter_sublist hg.tinv.tbl.uniq
  have hXnn : ∀ r ∈ c.rows.filter (fun r => !(expired now r)), r.key ≠ .null :=
    fun r hr => hg.tinv.tbl.nonnull r (List.mem_filter.1 hr).1
  obtain ⟨-, f2, f3, f4⟩ := rf_lost_facts (b := c) (now := now) hXu hXnn (fun r hr => hspec.1.subset hr)
  obtain ⟨p1, p2⟩ := lost_partition hspec.1 hXasc.nodup hXe
  have hlen := length_filter_add_not (expired now) c.rows
  have hcounted : (c.cull now).2 = .int (((c.rows.filter (expired now)).length +
      (lostRows now (c.rows.filter (fun r => !(expired now r))) (c.cull now).1.rows).length : Nat) : Int) := by
    rw [hcount]
    exact congrArg Out.int (by omega)
  refine ⟨hspec.1, (rf_cull_keep c now).1, ?_, ?_, ?_, ?_, hcounted, f2, f3, f4⟩
  · -- policy none
    intro hp
    rw [(cull_none c now hasc hpg hp).1]
    exact lostRows_eq_nil (fun r hr hn => absurd hr hn)
  · -- started
    intro hne pb rest henv
    have hrows : (c.cull now).1.rows ≠ c.rows.filter (fun r => !(expired now r)) := by
      intro hc
      rw [hc] at hne
      exact hne (lostRows_eq_nil (fun r hr hn => absurd hr hn))
    have hsz : (c.cull now).1.size + sumSizes (lostRows now (c.rows.filter (fun r => !(expired now r)))
        (c.cull now).1.rows) = (expireLoop now (c.rows.length + 1) c none 0).1.size := by
      rw [hti'.tbl.size, hti1.tbl.size, e1]; exact p1
    rw [Int.add_assoc, hsz]
    rw [cull_eq] at hrows
    split at hrows
    · exact absurd e1 hrows
    · rw [← e1] at hrows
      have := cullLoop_started _ _ _ hrows pb rest (henv1.trans henv)
      rw [e3] at this
      exact this
  · -- order
    intro r hr w hw
    obtain ⟨hrX, -, hrY⟩ := mem_lostRows.1 hr
    rw [cull_eq] at hrY hw
    split at hrY
    · rw [e1] at hrY; exact absurd hrX hrY
    · rename_i hpol
      rw [if_neg hpol] at hw
      rw [← e1] at hrX
      have := cullLoop_order _ _ _ (by rw [e1]; exact hXasc) r hrX hrY w hw
      rw [e3] at this
      revert this
      cases c.cfg.policy <;> simp [policyLt, policyKey]
  · -- stopped
    intro hpol hb
    rw [cull_eq]
    have hpol' : ((expireLoop now (c.rows.length + 1) c none 0).1.cfg.policy == Policy.none) = false := by
      rw [e3]; simpa using hpol
    simp only [hpol', Bool.false_eq_true, if_false]
    have := cullLoop_stopped ((expireLoop now (c.rows.length + 1) c none 0).1.rows.length + 1)
      (expireLoop now (c.rows.length + 1) c none 0).1 (expireLoop now (c.rows.length + 1) c none 0).2
      (by rw [e1]; exact hXasc) (by rw [e3]; exact hb) (Nat.lt_succ_self _)
    rw [e3, henv1] at this
    exact this

theorem rf_cull_view (c : Cache) (now : Int) (hg : Good c) (hpg : 0 < c.cfg.page) :
    rf_Lossy now ((lostRows now (c.rows.filter (fun r => !(expired now r))) (c.cull now).1.rows).map rowKey)
      (fun k => (rf_view c k).filter (fun e => !e.expired now)) (rf_view (c.cull now).1) := by
  obtain ⟨h1, h2, -⟩ := rf_cull_lossy c now hg hpg
  have hXu : KeysUnique (c.rows.filter (fun r => !(expired now r))) :=
    List.Pairwise.sublist List.filter_sublist hg.tinv.tbl.uniq
  have := rf_lossy (b := c) (now := now) (cull_good c now hg) hXu (fun r hr => h1.subset hr) h2
    hg.finv.nodup
  have hv : rf_look (c.rows.filter (fun r => !(expired now r))) c =
      fun k => (rf_view c k).filter (fun e => !e.expired now) := by
    funext k
    rw [rf_look_filter hg.tinv.tbl.uniq]
    unfold rf_view rf_look
    cases c.rows.find? (keyMatch k.1 k.2) with
    | none => rfl
    | some x =>
      cases h : expired now x <;> simp [Option.filter, rf_ent_expired, h]
  rw [hv] at this
  exact this

end DC.Cache
