/-
Facts about Python comparison for DC/Properties/C11_Seq.lean: trichotomy of `lexLt`, and `pyEq` by
cases on whether the operands have a numeric denotation (`pyNum`).
-/
import DC.Model.Layers

namespace DC

theorem seq_lexLt_trichotomy (x y : List Nat) : (!lexLt y x) = (lexLt x y || x == y) := by
  induction x generalizing y with
  | nil => cases y <;> simp [lexLt]
  | cons a as ih =>
    cases y with
    | nil => simp [lexLt]
    | cons b bs =>
      simp only [lexLt]
      by_cases h1 : a < b
      · have h2 : ¬ b < a := by omega
        have h3 : a ≠ b := by omega
        simp [h1, h2]
      · by_cases h2 : b < a
        · have h3 : a ≠ b := by omega
          simp [h1, h2, h3]
        · have h3 : a = b := by omega
          subst h3
          simp [ih bs]

theorem seq_str_beq (x y : Str) : (PyVal.str x == PyVal.str y) = (x == y) := by
  rw [Bool.eq_iff_iff]; simp

theorem seq_bytes_beq (x y : Bytes) : (PyVal.bytes x == PyVal.bytes y) = (x == y) := by
  rw [Bool.eq_iff_iff]; simp

theorem seq_pyEq_symm (a b : PyVal) : pyEq a b = pyEq b a := by
  unfold pyEq
  cases ha : pyNum a <;> cases hb : pyNum b <;> simp only [Bool.or_comm (pyIsNumber a)]
  all_goals first
    | (congr 1; exact Bool.beq_comm)
    | (exact Bool.beq_comm)
    | skip

theorem seq_pyNum_some_isNumber {a : PyVal} {x : Num} (h : pyNum a = some x) : pyIsNumber a = true := by
  cases a <;> simp [pyNum, pyIsNumber] at h ⊢

theorem seq_not_isNumber_pyNum {a : PyVal} (h : pyIsNumber a = false) : pyNum a = none := by
  cases a <;> simp [pyNum, pyIsNumber] at h ⊢

theorem seq_pyEq_cases (a b : PyVal) :
    (∃ x y, pyNum a = some x ∧ pyNum b = some y ∧ pyEq a b = (x == y)) ∨
    ((pyNum a = none ∨ pyNum b = none) ∧ (pyIsNumber a = true ∨ pyIsNumber b = true) ∧ pyEq a b = false) ∨
    (pyIsNumber a = false ∧ pyIsNumber b = false ∧ pyNum a = none ∧ pyNum b = none ∧ pyEq a b = (a == b)) := by
  have hnone : (pyNum a = none ∨ pyNum b = none) →
      pyEq a b = (if pyIsNumber a || pyIsNumber b then false else a == b) := by
    intro h
    unfold pyEq
    rcases h with h | h
    · rw [h]
    · rw [h]; cases pyNum a <;> rfl
  by_cases hn : pyIsNumber a = true ∨ pyIsNumber b = true
  · have hor : (pyIsNumber a || pyIsNumber b) = true := by rw [Bool.or_eq_true]; exact hn
    cases ha : pyNum a with
    | none => exact .inr (.inl ⟨.inl rfl, hn, by rw [hnone (.inl ha), hor]; rfl⟩)
    | some x =>
      cases hb : pyNum b with
      | none => exact .inr (.inl ⟨.inr rfl, hn, by rw [hnone (.inr hb), hor]; rfl⟩)
      | some y => exact .inl ⟨x, y, rfl, rfl, by unfold pyEq; rw [ha, hb]⟩
  · have hia : pyIsNumber a = false := Bool.eq_false_iff.2 (fun h => hn (.inl h))
    have hib : pyIsNumber b = false := Bool.eq_false_iff.2 (fun h => hn (.inr h))
    have hna := seq_not_isNumber_pyNum hia
    exact .inr (.inr ⟨hia, hib, hna, seq_not_isNumber_pyNum hib, by rw [hnone (.inl hna), hia, hib]; rfl⟩)

theorem seq_pyNum_of_notNaN (a : PyVal) (hn : pyIsNumber a = true)
    (h : ∀ f, a = .float f → floatIsNaN f = false) : ∃ x, pyNum a = some x := by
  cases a <;> simp [pyNum, pyIsNumber] at hn ⊢
  case float f => simp [h f rfl]

end DC
