/-
Helper lemmas for C12_Refine (the Index model refines the insertion-ordered
dictionary of DC/Model/OSpec.lean).

 * the ordered dictionary: look-up after `set` / `del`, the key list after
   `set` / `del`, and extensionality — two dictionaries with the same key list
   and the same look-ups are equal (`irf_ext`);
 * what a look-up returns for an entry, read without `read=True`: a value or
   `default`, never a file handle (`irf_out_shape`, `irf_look_shape`);
 * the abstraction of a cache state: its rows in order, each with the entry it
   denotes (`irf_abs`); its look-ups are the *view* of C03_Refine (`rf_view`),
   so that the per-key lemmas of DC/Proofs/Refine*.lean can be reused: an
   ordered step is "the key list changes like this" + "the view changes like
   that" (`irf_abs_of`).
-/
import DC.Model.OSpec
import DC.Proofs.RefineOps
import DC.Proofs.RefineWrite
import DC.Proofs.RefineDel
import DC.Proofs.IndexLemmas

namespace DC.Cache
open DC.Spec

theorem irf_get_eq (m : ODict) (k : Key) : ODict.get m k = Dict.get m k := rfl

theorem irf_del_eq (m : ODict) (k : Key) : ODict.del m k = Dict.del m k := rfl

theorem irf_has_eq (m : ODict) (k : Key) : m.has k = (m.get k).isSome := rfl

theorem irf_get_sameKey {K k' : Key} (h : sameKey K k' = true) (m : ODict) : m.get K = m.get k' :=
  rf_get_sameKey h m

theorem irf_get_del (m : ODict) (k k' : Key) :
    (m.del k).get k' = if sameKey k k' then none else m.get k' := rf_get_del m k k'

theorem irf_keys_del (m : ODict) (k : Key) : (m.del k).keys = m.keys.filter (fun q => !sameKey q k) := by
  unfold ODict.del ODict.keys
  rw [List.filter_map]
  rfl

theorem irf_get_none_of_keys (m : ODict) (k : Key) (h : ∀ q ∈ m.keys, sameKey q k = false) :
    m.get k = none := by
  unfold ODict.get
  rw [Option.map_eq_none_iff, List.find?_eq_none]
  intro p hp
  rw [h p.1 (List.mem_map.2 ⟨p, hp, rfl⟩)]
  exact Bool.false_ne_true

theorem irf_get_some_mem {m : ODict} {k : Key} {e : Entry} (h : m.get k = some e) :
    ∃ q, (q, e) ∈ m ∧ sameKey q k = true := by
  unfold ODict.get at h
  rw [Option.map_eq_some_iff] at h
  obtain ⟨p, hp, rfl⟩ := h
  exact ⟨p.1, List.mem_of_find?_eq_some hp, List.find?_some (p := fun p : Key × Entry => sameKey p.1 k) hp⟩

theorem irf_del_absent {m : ODict} {k : Key} (h : m.get k = none) : m.del k = m := by
  unfold ODict.del
  rw [List.filter_eq_self]
  intro p hp
  unfold ODict.get at h
  rw [Option.map_eq_none_iff, List.find?_eq_none] at h
  have := h p hp
  simpa using this

theorem irf_spec_delitem_fst (m : ODict) (E : Externals) (cfg : Cfg) (k : PyVal) :
    (OSpec.delitem m E cfg k).1 = m.del (keyOf E cfg k) := by
  unfold OSpec.delitem
  split
  · rfl
  · rename_i hh
    simp only
    rw [irf_del_absent]
    rw [irf_has_eq] at hh
    cases hg : m.get (keyOf E cfg k) with
    | none => rfl
    | some e => rw [hg] at hh; exact absurd rfl hh

theorem irf_spec_setitem_snd (m : ODict) (E : Externals) (cfg : Cfg) (k v : PyVal) :
    (OSpec.setitem m E cfg k v).2 = .none ∨ ∃ e, (OSpec.setitem m E cfg k v).2 = .exc e := by
  unfold OSpec.setitem
  cases place E cfg.disk cfg.minFileSize v false with
  | error e => exact .inr ⟨_, rfl⟩
  | ok p =>
    simp only
    split
    · exact .inl rfl
    · exact .inr ⟨_, rfl⟩

theorem irf_get_append (m : ODict) (k : Key) (e : Entry) (k' : Key) :
    ODict.get (m ++ [(k, e)]) k' = (m.get k').or (if sameKey k k' then some e else none) := by
  unfold ODict.get
  rw [List.find?_append]
  cases m.find? (fun p => sameKey p.1 k') with
  | some x => simp
  | none =>
    simp only [Option.none_or, Option.map_none, List.find?_cons]
    cases sameKey k k' <;> simp

theorem irf_get_set (m : ODict) (k : Key) (e : Entry) (k' : Key) :
    (m.set k e).get k' = if sameKey k k' then some e else m.get k' := by
  unfold ODict.set
  cases hh : m.has k with
  | false =>
    simp only [Bool.false_eq_true, if_false]
    rw [irf_get_append]
    have hn : m.get k = none := by
      rw [irf_has_eq] at hh
      cases hg : m.get k with
      | none => rfl
      | some x => rw [hg] at hh; cases hh
    cases hs : sameKey k k' with
    | true => rw [← irf_get_sameKey hs m, hn]; rfl
    | false => simp
  | true =>
    simp only [if_true]
    unfold ODict.get
    rw [List.find?_map]
    have hf : ((fun p : Key × Entry => sameKey p.1 k') ∘
        fun p : Key × Entry => if sameKey p.1 k = true then (p.1, e) else p) =
        fun p => sameKey p.1 k' := by
      funext p
      simp only [Function.comp]
      split <;> rfl
    rw [hf]
    cases hs : sameKey k k' with
    | true =>
      simp only [if_true]
      have hsome : (m.get k').isSome = true := by rw [← irf_get_sameKey hs m]; exact hh
      unfold ODict.get at hsome
      cases hfind : m.find? (fun p => sameKey p.1 k') with
      | none => rw [hfind] at hsome; cases hsome
      | some p =>
        have hp : sameKey p.1 k' = true := List.find?_some (p := fun p : Key × Entry => sameKey p.1 k') hfind
        have hpk : sameKey p.1 k = true := rf_sameKey_trans hp (rf_sameKey_symm hs)
        simp [hpk]
    | false =>
      simp only [Bool.false_eq_true, if_false]
      cases hfind : m.find? (fun p => sameKey p.1 k') with
      | none => rfl
      | some p =>
        have hp : sameKey p.1 k' = true := List.find?_some (p := fun p : Key × Entry => sameKey p.1 k') hfind
        have hpk : sameKey p.1 k = false := by
          cases hpk : sameKey p.1 k with
          | false => rfl
          | true => rw [rf_sameKey_trans (rf_sameKey_symm hpk) hp] at hs; cases hs
        simp [hpk]

theorem irf_keys_set (m : ODict) (k : Key) (e : Entry) :
    (m.set k e).keys = if m.has k then m.keys else m.keys ++ [k] := by
  unfold ODict.set ODict.keys
  split
  · rw [List.map_map]
    apply List.map_congr_left
    intro p _
    simp only [Function.comp]
    split <;> rfl
  · simp

theorem irf_wf_nil : ODict.WF [] := ⟨List.Pairwise.nil, fun _ h => absurd h List.not_mem_nil⟩

theorem irf_ext : ∀ (a b : ODict), a.WF → a.keys = b.keys → (∀ k, a.get k = b.get k) → a = b
  | [], [], _, _, _ => rfl
  | [], _ :: _, _, hk, _ => by simp [ODict.keys] at hk
  | _ :: _, [], _, hk, _ => by simp [ODict.keys] at hk
  | (ka, ea) :: ta, (kb, eb) :: tb, hw, hk, hg => by
    have hk' : ka = kb ∧ ODict.keys ta = ODict.keys tb := by
      simpa [ODict.keys] using hk
    obtain ⟨rfl, hkt⟩ := hk'
    have hself : sameKey ka ka = true := hw.2 _ (List.mem_cons_self ..)
    have he : ea = eb := by
      have := hg ka
      simp only [ODict.get, List.find?_cons, hself, Option.map_some, Option.some.injEq] at this
      exact this
    subst he
    have hpw := List.pairwise_cons.1 hw.1
    have hwt : ODict.WF ta := ⟨hpw.2, fun p hp => hw.2 p (List.mem_cons_of_mem _ hp)⟩
    have hdiff : ∀ k, sameKey ka k = true → ∀ q ∈ ODict.keys ta, sameKey q k = false := by
      intro k hs q hq
      obtain ⟨p, hp, rfl⟩ := List.mem_map.1 hq
      cases hqk : sameKey p.1 k with
      | false => rfl
      | true =>
        have := hpw.1 p hp
        rw [rf_sameKey_trans hs (rf_sameKey_symm hqk)] at this
        cases this
    have : ta = tb := irf_ext ta tb hwt hkt (fun k => by
      cases hs : sameKey ka k with
      | false =>
        have h := hg k
        simpa only [ODict.get, List.find?_cons, hs] using h
      | true =>
        rw [irf_get_none_of_keys ta k (hdiff k hs),
          irf_get_none_of_keys tb k (by rw [← hkt]; exact hdiff k hs)])
    rw [this]

theorem irf_diskFetch_shape (E : Externals) (mode : Nat) (file : Option Content) (hasFile : Bool)
    (v : SqlVal) :
    Disk.fetch E mode file hasFile v false = .ioerror ∨
      ∃ w, Disk.fetch E mode file hasFile v false = .val w := by
  unfold Disk.fetch
  by_cases h1 : (mode == MODE_RAW) = true
  · rw [if_pos h1]; exact .inr ⟨_, rfl⟩
  rw [if_neg h1]
  by_cases h2 : (mode == MODE_BINARY) = true
  · rw [if_pos h2]
    cases file with
    | none => exact .inl rfl
    | some c => exact .inr ⟨_, rfl⟩
  rw [if_neg h2]
  by_cases h3 : (mode == MODE_TEXT) = true
  · rw [if_pos h3]
    cases file with
    | none => exact .inl rfl
    | some c =>
      cases c with
      | text s => exact .inr ⟨_, rfl⟩
      | bin b => exact .inl rfl
  rw [if_neg h3]
  by_cases h4 : (mode == MODE_PICKLE) = true
  · rw [if_pos h4]
    cases hasFile with
    | true =>
      cases file with
      | none => exact .inl rfl
      | some c => exact .inr ⟨_, rfl⟩
    | false =>
      cases v with
      | blob b => exact .inr ⟨_, rfl⟩
      | _ => exact .inl rfl
  rw [if_neg h4]
  exact .inr ⟨_, rfl⟩

/-- a plain look-up (`read = False`, no flags) returns a value or `default` (value not readable) -/
theorem irf_out_shape (e : Entry) (E : Externals) (cfg : Cfg) :
    e.out E cfg false false false = .default ∨ ∃ v, e.out E cfg false false false = .val v := by
  have hF : fetch E cfg.disk e.mode e.content e.content.isSome e.val false = .ioerror ∨
      ∃ w, fetch E cfg.disk e.mode e.content e.content.isSome e.val false = .val w := by
    unfold fetch
    cases cfg.disk with
    | pickle => exact irf_diskFetch_shape ..
    | json =>
      simp only
      rcases irf_diskFetch_shape E e.mode e.content e.content.isSome e.val with h | ⟨w, h⟩
      · rw [h]; exact .inl rfl
      · rw [h]
        cases w <;> exact .inr ⟨_, rfl⟩
  unfold Entry.out
  rcases hF with h | ⟨w, h⟩
  · rw [h]; exact .inl rfl
  · rw [h]; exact .inr ⟨w, rfl⟩

theorem irf_look_shape (m : ODict) (E : Externals) (cfg : Cfg) (K : Key) :
    OSpec.look m E cfg K = .default ∨ ∃ v, OSpec.look m E cfg K = .val v := by
  unfold OSpec.look
  cases m.get K with
  | none => exact .inl rfl
  | some e => exact irf_out_shape e E cfg

def irf_key (r : Row) : Key := (r.key, r.raw)

def irf_abs (c : Cache) : ODict := c.rows.map (fun r => (irf_key r, rf_ent c r))

theorem irf_abs_keys (c : Cache) : (irf_abs c).keys = c.rows.map irf_key := by
  unfold irf_abs ODict.keys
  rw [List.map_map]
  rfl

theorem irf_abs_length (c : Cache) : (irf_abs c).length = c.rows.length := by
  unfold irf_abs; rw [List.length_map]

theorem irf_abs_get (c : Cache) (k : Key) : (irf_abs c).get k = rf_view c k := by
  unfold irf_abs ODict.get rf_view rf_look
  rw [List.find?_map, Option.map_map]
  have : ((fun p : Key × Entry => sameKey p.1 k) ∘ fun r => (irf_key r, rf_ent c r)) =
      keyMatch k.1 k.2 := by
    funext r; rfl
  rw [this]
  cases c.rows.find? (keyMatch k.1 k.2) <;> rfl

theorem irf_abs_has (c : Cache) (k : Key) :
    (irf_abs c).has k = c.rows.any (keyMatch k.1 k.2) := by
  rw [irf_has_eq, irf_abs_get]
  unfold rf_view rf_look
  rw [Option.isSome_map, Bool.eq_iff_iff, List.find?_isSome, List.any_eq_true]

theorem irf_abs_wf {c : Cache} (h : TableInv c) : (irf_abs c).WF := by
  unfold irf_abs ODict.WF
  refine ⟨?_, ?_⟩
  · rw [List.pairwise_map]
    refine List.Pairwise.imp ?_ h.tbl.uniq
    intro a b hab
    simp only [irf_key, sameKey]
    cases h1 : a.key.eqv b.key with
    | false => rfl
    | true =>
      cases h2 : (a.raw == b.raw) with
      | false => rfl
      | true => exact absurd ⟨h1, by simpa using h2⟩ hab
  · intro p hp
    obtain ⟨r, hr, rfl⟩ := List.mem_map.1 hp
    simp only [irf_key, sameKey, Bool.and_eq_true, beq_self_eq_true, and_true]
    exact eqv_self (h.tbl.nonnull r hr)

theorem irf_abs_rows_files {a b : Cache} (hr : a.rows = b.rows) (hf : a.files = b.files) :
    irf_abs a = irf_abs b := by
  unfold irf_abs
  rw [hr]
  apply List.map_congr_left
  intro r _
  unfold rf_ent fileGet
  rw [hf]

theorem irf_abs_core {a b : Cache} (h : core a = core b) : irf_abs a = irf_abs b :=
  irf_abs_rows_files (congrArg Core.rows h) (congrArg Core.files h)

theorem irf_abs_of {c : Cache} {m : ODict} (ht : TableInv c)
    (hk : c.rows.map irf_key = m.keys) (hv : ∀ k, rf_view c k = m.get k) : irf_abs c = m :=
  irf_ext _ _ (irf_abs_wf ht) (by rw [irf_abs_keys, hk]) (fun k => by rw [irf_abs_get, hv])

theorem irf_good_core {a b : Cache} (hb : Good b) (hc : core a = core b) (ht : TableInv a) : Good a :=
  good_of_pi ht (by rw [hc]; exact hb.pi)

theorem irf_good_nfile {a b : Cache} (hb : Good b) (n : Nat) (hn : b.nfile ≤ n)
    (hc : core a = { core b with nfile := n }) (ht : TableInv a) : Good a := by
  apply good_of_pi ht
  rw [hc]
  have hP := hb.pi
  exact ⟨hP.uid, hP.ref, hP.inj, fun p hp => Nat.lt_of_lt_of_le (hP.fresh p hp) hn, hP.nodup,
    hP.orphan, hP.depth, hP.snap, hP.pending, hP.created⟩

theorem irf_culled_eq {now : Int} {v1 v2 : Key → Option Entry} (hc : rf_Culled now v1 v2)
    (hne : ∀ k e, v1 k = some e → e.expT = none) (k : Key) : v2 k = v1 k := by
  rcases hc k with h | ⟨-, e, he, hx⟩
  · exact h
  · have := hne k e he
    simp [Entry.expired, this] at hx

theorem irf_view_noexp {c : Cache} (h : NoExp c.rows) {k : Key} {e : Entry}
    (hv : rf_view c k = some e) : e.expT = none := by
  unfold rf_view rf_look at hv
  rw [Option.map_eq_some_iff] at hv
  obtain ⟨r, hr, rfl⟩ := hv
  exact h r (List.mem_of_find?_eq_some hr)

theorem irf_live_noexp {e : Entry} (h : e.expT = none) (now : Int) : e.live now = true := by
  simp [Entry.live, h]

end DC.Cache
