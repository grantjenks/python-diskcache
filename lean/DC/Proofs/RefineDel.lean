/-
C03_Refine, model side, the removing calls: `delitem`, `delete`, `pop`.
-/
import DC.Proofs.RefineOps

namespace DC.Cache
open DC.Spec

/-- remove a live entry -/
def rf_delU (now : Int) (v : Option Entry) : Option Entry :=
  match v with
  | some e => if e.live now then none else some e
  | none => none

theorem rf_delU_rel {v d : Option Entry} {now : Int} (h : rf_VRel v d now) :
    rf_VRel (rf_delU now v) (rf_delU now d) now := by
  rcases rf_VRel_cases h with h1 | ⟨h1, e, hd, he, hl⟩
  · rw [h1]; exact rf_VRel_refl _ _
  · rw [h1, hd]
    simp only [rf_delU, hl, Bool.false_eq_true, if_false]
    exact .inr ⟨rfl, he⟩

theorem rf_look_del {s : Cache} (hi : TableInv s) {r : Row} (hr : r ∈ s.rows) {K : Key}
    (hk : keyMatch K.1 K.2 r = true) (k' : Key) :
    rf_look (s.rows.filter (·.rowid != r.rowid)) s k' = rf_at K none (rf_view s) k' := by
  rw [rf_look_filter hi.tbl.uniq]
  unfold rf_at rf_view rf_look
  cases hkk : sameKey K k' with
  | true =>
    have hk' : keyMatch k'.1 k'.2 r = true := by rw [← rf_keyMatch_congr hkk]; exact hk
    rw [rf_find_of_mem hi.tbl.uniq hr hk']
    simp [Option.filter]
  | false =>
    simp only [Bool.false_eq_true, if_false]
    cases hf : s.rows.find? (keyMatch k'.1 k'.2) with
    | none => rfl
    | some x =>
      have hx := List.mem_of_find?_eq_some hf
      have hkx : keyMatch k'.1 k'.2 x = true := List.find?_some hf
      have hne := rf_rowid_ne hi hr hx hk hkx hkk
      simp [Option.filter, hne]

/-! ### `delitem`, `delete` -/

/-- the transaction body of `delitem` -/
def rf_delBody (dbk : SqlVal) (raw : Bool) (now : Int) (s : Cache) : Body :=
  let hit := s.selLive dbk raw now
  let s := s.logSql "selLive"
  match hit with
  | none => { s := s, out := .exc "KeyError", ok := false }
  | some r => { s := s.delRow r.rowid, out := .bool true, cleanup := [r.file] }

theorem rf_delitem_eq (s : Cache) (E : Externals) (now : Int) (k : PyVal) :
    s.delitem E now k = s.transact (rf_delBody (keyOf E s.cfg k).1 (keyOf E s.cfg k).2 now) := rfl

theorem rf_delBody_some {t : Cache} {dbk : SqlVal} {raw : Bool} {now : Int} {r : Row}
    (h : t.selLive dbk raw now = some r) :
    rf_delBody dbk raw now t =
      { s := (t.logSql "selLive").delRow r.rowid, out := .bool true, cleanup := [r.file] } := by
  unfold rf_delBody; simp only [h]

theorem rf_delBody_none {t : Cache} {dbk : SqlVal} {raw : Bool} {now : Int}
    (h : t.selLive dbk raw now = none) :
    rf_delBody dbk raw now t = { s := t.logSql "selLive", out := .exc "KeyError", ok := false } := by
  unfold rf_delBody; simp only [h]

theorem rf_delRow_files (t : Cache) (id : Nat) : (t.delRow id).files = t.files := by
  show ((t.delRowQuiet id).logSql "delRow").files = _
  rw [logSql_files, delRowQuiet_files]

theorem rf_delRow_cfg (t : Cache) (id : Nat) : (t.delRow id).cfg = t.cfg := by
  show ((t.delRowQuiet id).logSql "delRow").cfg = _
  rw [logSql_cfg, delRowQuiet_cfg]

theorem rf_delU_of_not_has {now : Int} {v : Option Entry} (hh : rf_has now v = false) : rf_delU now v = v := by
  unfold rf_has at hh
  unfold rf_delU
  cases v with
  | none => rfl
  | some e => simp only at hh ⊢; rw [hh]; rfl

theorem rf_delitem_view (s : Cache) (E : Externals) (now : Int) (k : PyVal) (hg : Good s) :
    (s.delitem E now k).2 =
      (if rf_has now (rf_view s (keyOf E s.cfg k)) then .bool true else .exc "KeyError") ∧
    ∀ k', rf_view (s.delitem E now k).1 k' =
      rf_at (keyOf E s.cfg k) (rf_delU now (rf_view s (keyOf E s.cfg k))) (rf_view s) k' := by
  have hg' := delitem_good s E now k hg
  rw [rf_delitem_eq] at hg' ⊢
  obtain ⟨hR, hF, -, hO⟩ := rf_transact s (rf_delBody (keyOf E s.cfg k).1 (keyOf E s.cfg k).2 now) none hg.depth
  rcases rf_selLive_cases hg.tinv E k now with ⟨r, hsel, hr, hk, hv, hl⟩ | ⟨hsel, hh⟩
  · have hsel' : (s.log .begin).selLive (keyOf E s.cfg k).1 (keyOf E s.cfg k).2 now = some r := hsel
    rw [rf_delBody_some hsel'] at hR hF hO
    simp only [if_true] at hR hF hO
    have hhas : rf_has now (rf_view s (keyOf E s.cfg k)) = true := by rw [hv]; exact hl
    refine ⟨by rw [hO, hhas]; rfl, ?_⟩
    intro k'
    rw [rf_same hg' (b := s) (by
      intro q hq
      have := hF q hq
      rw [rf_delRow_files] at this
      exact this) hg.finv.nodup, hR, delRow_rows]
    show rf_look (s.rows.filter (·.rowid != r.rowid)) s k' = _
    rw [rf_look_del hg.tinv hr hk k', hv]
    simp [rf_delU, hl]
  · have hsel' : (s.log .begin).selLive (keyOf E s.cfg k).1 (keyOf E s.cfg k).2 now = none := hsel
    rw [rf_delBody_none hsel'] at hR hF hO
    simp only [Bool.false_eq_true, if_false] at hR hF hO
    refine ⟨by rw [hO, hh]; rfl, ?_⟩
    intro k'
    rw [rf_same hg' (b := s) hF hg.finv.nodup, hR, rf_delU_of_not_has hh,
      rf_at_self (fun k'' h => rf_view_sameKey h s)]
    rfl

theorem rf_delete_view (s : Cache) (E : Externals) (now : Int) (k : PyVal) (hg : Good s) :
    (s.delete E now k).2 = .bool (rf_has now (rf_view s (keyOf E s.cfg k))) ∧
    ∀ k', rf_view (s.delete E now k).1 k' =
      rf_at (keyOf E s.cfg k) (rf_delU now (rf_view s (keyOf E s.cfg k))) (rf_view s) k' := by
  obtain ⟨h1, h2⟩ := rf_delitem_view s E now k hg
  rw [delete_fst]
  refine ⟨?_, h2⟩
  unfold delete
  generalize s.delitem E now k = r at h1
  obtain ⟨s', o⟩ := r
  subst h1
  cases rf_has now (rf_view s (keyOf E s.cfg k)) <;> rfl

/-! ### `pop` -/

theorem rf_pop_some {s : Cache} {E : Externals} {now : Int} {k : PyVal} {et tg : Bool} {r : Row}
    (hsel : s.selLive (DC.put E s.cfg.disk k).1 (DC.put E s.cfg.disk k).2 now = some r) :
    s.pop E now k et tg =
      ((((s.transact fun s => { s := (s.logSql "selLive").delRow r.rowid, out := .none }).1.fetchRow E r false).1.removeCommitted r.file),
        match ((s.transact fun s => { s := (s.logSql "selLive").delRow r.rowid, out := .none }).1.fetchRow E r false).2 with
        | .ioerror => defaultFlags et tg
        | f => withFlags (fetchedOut f) et tg r.expT r.tag) := by
  unfold pop
  generalize DC.put E s.cfg.disk k = K at hsel
  rcases K with ⟨dbk, raw⟩
  simp only at hsel ⊢
  simp only [hsel]
  split <;> simp_all

theorem rf_pop_none {s : Cache} {E : Externals} {now : Int} {k : PyVal} {et tg : Bool}
    (hsel : s.selLive (DC.put E s.cfg.disk k).1 (DC.put E s.cfg.disk k).2 now = none) :
    s.pop E now k et tg =
      ((s.transact fun s => { s := s.logSql "selLive", out := .none }).1, defaultFlags et tg) := by
  unfold pop
  generalize DC.put E s.cfg.disk k = K at hsel
  rcases K with ⟨dbk, raw⟩
  simp only at hsel ⊢
  simp only [hsel]

theorem rf_pop_commit (s : Cache) (r : Row) :
    core (s.transact fun s => { s := (s.logSql "selLive").delRow r.rowid, out := .none }).1 =
      core (s.delRow r.rowid) :=
  rf_transact_commits (P := fun c => c = core (s.delRow r.rowid))
    (fun t ht => ⟨rfl, rfl, by rw [core_delRow, core_delRow, core_logSql, ht]⟩)

/-- all `pop` does to the core of the state when it finds the live row `r`: the row and its value
file go -/
theorem rf_pop_core {s : Cache} {E : Externals} {now : Int} {k : PyVal} {r : Row} (et tg : Bool)
    (hd : s.depth = 0)
    (hsel : s.selLive (DC.put E s.cfg.disk k).1 (DC.put E s.cfg.disk k).2 now = some r) :
    core (s.pop E now k et tg).1 =
      { core s with rows := s.rows.filter (·.rowid != r.rowid),
                    files := s.files.filter (fun p => ![r.file].contains (some p.1)) } := by
  rw [rf_pop_some hsel]
  have hc := rf_pop_commit s r
  generalize (s.transact fun s => { s := (s.logSql "selLive").delRow r.rowid, out := .none }).1 = t1
    at hc ⊢
  have hd1 : (t1.fetchRow E r false).1.depth = 0 :=
    (congrArg Core.depth ((core_fetchRow t1 E r false).trans hc)).trans
      ((delRowQuiet_depth s _).trans hd)
  simp only
  rw [removeCommitted_zero _ _ hd1, core_fremoveAll, core_fetchRow, hc,
    show core (s.delRow r.rowid) = _ from core_delRowQuiet s r.rowid]
  rfl

theorem rf_pop_view (s : Cache) (E : Externals) (now : Int) (k : PyVal) (et tg : Bool) (hg : Good s) :
    (s.pop E now k et tg).2 =
      (match rf_view s (keyOf E s.cfg k) with
       | some e => if e.live now then e.out E s.cfg false et tg else defaultFlags et tg
       | none => defaultFlags et tg) ∧
    ∀ k', rf_view (s.pop E now k et tg).1 k' =
      rf_at (keyOf E s.cfg k) (rf_delU now (rf_view s (keyOf E s.cfg k))) (rf_view s) k' := by
  have hg' := pop_good s E now k et tg hg
  rcases rf_selLive_cases hg.tinv E k now with ⟨r, hsel, hr, hk, hv, hl⟩ | ⟨hsel, hh⟩
  · have hc := rf_pop_core et tg hg.depth hsel
    refine ⟨?_, fun k' => ?_⟩
    · rw [rf_pop_some hsel]
      -- the row is read in a state with the files and the configuration of `s`
      have hc1 := rf_pop_commit s r
      rw [fetchRow_snd_congr _ s E r false ((congrArg Core.cfg hc1).trans (rf_delRow_cfg s _))
        ((congrArg Core.files hc1).trans (rf_delRow_files s _)), hv]
      simp only [hl, if_true]
      exact rf_out s E r false et tg (rf_good_ref hg hr)
    · have hfiles : (s.pop E now k et tg).1.files =
          s.files.filter (fun p => ![r.file].contains (some p.1)) := congrArg Core.files hc
      rw [rf_same hg' (b := s) (fun q hq => (List.mem_filter.1 (hfiles ▸ hq)).1) hg.finv.nodup,
        show (s.pop E now k et tg).1.rows = _ from congrArg Core.rows hc,
        rf_look_del hg.tinv hr hk k', hv]
      simp [rf_delU, hl]
  · rw [rf_pop_none hsel] at hg' ⊢
    have hc := rf_transact_core_same s (fun s => { s := s.logSql "selLive", out := .none }) none hg.depth
      ⟨rfl, rfl, rfl⟩
    refine ⟨?_, ?_⟩
    · simp only
      unfold rf_has at hh
      cases hvv : rf_view s (keyOf E s.cfg k) with
      | none => rfl
      | some e => rw [hvv] at hh; simp only at hh ⊢; rw [hh]; rfl
    · intro k'
      simp only
      rw [rf_view_core hc, rf_delU_of_not_has hh, rf_at_self (fun k'' h => rf_view_sameKey h s)]

/-! ### the dictionary side of `get` and of the removing calls -/

theorem rf_has_dict (m : Dict) (K : Key) (now : Int) : m.has K now = rf_has now (m.get K) := by
  unfold Dict.has rf_has
  cases m.get K <;> rfl

/-- `delitem` on the dictionary, in terms of what it holds for the key -/
theorem rf_delitem_spec (m : Dict) (E : Externals) (cfg : Cfg) (now : Int) (k : PyVal) :
    Spec.delitem m E cfg now k =
      (if rf_has now (m.get (keyOf E cfg k)) then m.del (keyOf E cfg k) else m,
       if rf_has now (m.get (keyOf E cfg k)) then .bool true else .exc "KeyError") := by
  unfold Spec.delitem
  rw [rf_has_dict]
  cases rf_has now (m.get (keyOf E cfg k)) <;> rfl

theorem rf_delete_spec (m : Dict) (E : Externals) (cfg : Cfg) (now : Int) (k : PyVal) :
    Spec.delete m E cfg now k =
      ((Spec.delitem m E cfg now k).1, .bool (rf_has now (m.get (keyOf E cfg k)))) := by
  unfold Spec.delete Spec.delitem
  rw [rf_has_dict]
  cases rf_has now (m.get (keyOf E cfg k)) <;> rfl

/-- `get` on the dictionary; the result is read off `v`, what a cache representing the dictionary
holds for the key -/
theorem rf_get_spec {m : Dict} {v : Option Entry} {E : Externals} {cfg : Cfg} {now : Int}
    {k : PyVal} (read et tg : Bool) : rf_VRel v (m.get (keyOf E cfg k)) now →
    Spec.get m E cfg now k read et tg =
      (m, match v with
          | some e => if e.live now then e.out E cfg read et tg else defaultFlags et tg
          | none => defaultFlags et tg) := by
  intro h
  unfold Spec.get
  rcases rf_VRel_cases h with h1 | ⟨h1, e, hd, -, hl⟩
  · rw [h1]
    cases m.get (keyOf E cfg k) with
    | none => rfl
    | some e => simp only; split <;> rfl
  · rw [h1, hd]
    simp only [hl]
    rfl

/-- `pop` returns what `get` returns -/
theorem rf_pop_spec (m : Dict) (E : Externals) (cfg : Cfg) (now : Int) (k : PyVal) (et tg : Bool) :
    Spec.pop m E cfg now k et tg =
      (if rf_has now (m.get (keyOf E cfg k)) then m.del (keyOf E cfg k) else m,
       (Spec.get m E cfg now k false et tg).2) := by
  unfold Spec.pop Spec.get rf_has
  cases m.get (keyOf E cfg k) with
  | none => rfl
  | some e => simp only; split <;> simp_all

theorem rf_del_spec (m : Dict) (K : Key) (now : Int) (k' : Key) :
    (if rf_has now (m.get K) then m.del K else m).get k' = rf_at K (rf_delU now (m.get K)) m.get k' := by
  cases hh : rf_has now (m.get K) with
  | true =>
    simp only [if_true]
    rw [rf_get_del]
    unfold rf_has at hh
    unfold rf_at rf_delU
    cases hv : m.get K with
    | none => simp [hv] at hh
    | some e => simp only [hv] at hh ⊢; rw [hh]; simp
  | false =>
    simp only [Bool.false_eq_true, if_false]
    rw [rf_delU_of_not_has hh, rf_at_self (fun k'' h => rf_get_sameKey h m)]

theorem rf_del_wf {m : Dict} (h : m.WF) (K : Key) (now : Int) :
    Dict.WF (if rf_has now (m.get K) then m.del K else m) := by
  split
  · exact rf_wf_del h K
  · exact h

end DC.Cache
