/- transaction blocks (C06): `Blk a x`, the state inside an open block; `Q4 x y`, a step made of
table statements only.  Inside a block a call is a nested transaction: where its body is a `Q4` step
`Blk.transact_q4` applies; `set`, `add`, `push` store the value first (`Blk.store_transact`), and
`incr` stores inside its body (`Blk.store`, `Blk.regCreated`).  At the end of the file, of general
use: `stats` as one record update, `fremoveAll`, and what the brackets `tend` / `traise` compute. -/
import DC.Proofs.Inv
import DC.Proofs.Files
import DC.Model.Run

namespace DC.Cache

/-- `Blk a x`: `x` is reached from `a` inside an open block (`a.depth > 0`) by steps that keep
the nesting depth and the snapshot, remove no file, never decrease the allocation counter and
register only freshly allocated files in `created`. -/
structure Blk (a x : Cache) : Prop where
  pos : 0 < a.depth
  depth : x.depth = a.depth
  snap : x.snap = a.snap
  files : ∀ p ∈ a.files, p ∈ x.files
  nfile : a.nfile ≤ x.nfile
  created : ∀ f ∈ x.created, f ∈ a.created ∨ a.nfile ≤ f

theorem Blk.refl {s : Cache} (h : 0 < s.depth) : Blk s s :=
  ⟨h, rfl, rfl, fun _ h => h, Nat.le_refl _, fun _ h => .inl h⟩

theorem Blk.pos' {a x : Cache} (h : Blk a x) : 0 < x.depth := by
  rw [h.depth]; exact h.pos

theorem Blk.trans {a x y : Cache} (h : Blk a x) (h2 : Blk x y) : Blk a y := by
  refine ⟨h.pos, h2.depth.trans h.depth, h2.snap.trans h.snap,
    fun p hp => h2.files p (h.files p hp), Nat.le_trans h.nfile h2.nfile, ?_⟩
  intro f hf
  rcases h2.created f hf with h3 | h3
  · exact h.created f h3
  · exact .inr (Nat.le_trans h.nfile h3)

theorem Blk.same {a x y : Cache} (h : Blk a x) (hd : y.depth = x.depth) (hs : y.snap = x.snap)
    (hf : y.files = x.files) (hn : y.nfile = x.nfile) (hc : y.created = x.created) : Blk a y := by
  refine ⟨h.pos, hd.trans h.depth, hs.trans h.snap, ?_, ?_, ?_⟩
  · rw [hf]; exact h.files
  · rw [hn]; exact h.nfile
  · rw [hc]; exact h.created

theorem Blk.core {a x y : Cache} (h : Blk a x) (R : List Row)
    (hc : core y = { core x with rows := R }) : Blk a y := by
  simp only [DC.Cache.core, Core.mk.injEq] at hc
  obtain ⟨-, hf, hn, hd, hs, -, hcr, -, -⟩ := hc
  exact h.same hd hs hf hn hcr

theorem Blk.core' {a x y : Cache} (h : Blk a x) (hc : DC.Cache.core y = DC.Cache.core x) : Blk a y :=
  h.core x.rows (by rw [hc]; rfl)

theorem Blk.log {a x : Cache} (h : Blk a x) (act : Act) : Blk a (x.log act) :=
  h.same rfl rfl rfl rfl rfl

theorem Blk.logSql {a x : Cache} (h : Blk a x) (id : String) : Blk a (x.logSql id) :=
  h.same rfl rfl rfl rfl rfl

theorem Blk.fwrite {a x : Cache} (h : Blk a x) (c : Content) :
    Blk a (x.fwrite c).1 ∧ a.nfile ≤ (x.fwrite c).2 := by
  refine ⟨⟨h.pos, h.depth, h.snap, ?_, ?_, h.created⟩, h.nfile⟩
  · intro p hp
    show p ∈ x.files ++ [(x.nfile, c)]
    exact List.mem_append_left _ (h.files p hp)
  · show a.nfile ≤ x.nfile + 1
    exact Nat.le_succ_of_le h.nfile

theorem Blk.store {a x x' : Cache} {E : Externals} {v : PyVal} {read : Bool} {c : Cols}
    (h : Blk a x) (hst : x.store E v read = .ok (x', c)) :
    Blk a x' ∧ ∀ f, c.file = some f → a.nfile ≤ f := by
  rcases store_ok hst with ⟨rfl, hf⟩ | ⟨ct, rfl, hf, -⟩ <;> rw [hf]
  · exact ⟨h, nofun⟩
  · refine ⟨(h.fwrite ct).1, fun f e => ?_⟩
    cases e
    exact h.nfile

/-- the file `incr` wrote inside its transaction is recorded as created by the block -/
theorem Blk.regCreated {a x : Cache} (h : Blk a x) (f : Option Nat)
    (hf : ∀ g, f = some g → a.nfile ≤ g) : Blk a (x.regCreated f) := by
  rcases regCreated_cases x f with e | ⟨g, hg, -, e⟩
  · rw [e]; exact h
  · rw [e]
    refine ⟨h.pos, h.depth, h.snap, h.files, h.nfile, ?_⟩
    intro k hk
    rcases List.mem_append.1 hk with hk | hk
    · exact h.created k hk
    · simp only [List.mem_singleton] at hk
      subst hk
      exact .inr (hf _ hg)

theorem Blk.fetchRow {a x : Cache} (h : Blk a x) (E : Externals) (r : Row) (read : Bool) :
    Blk a (x.fetchRow E r read).1 :=
  h.core' (core_fetchRow x E r read)

theorem Blk.volume {a x : Cache} (h : Blk a x) : Blk a x.volume.1 :=
  h.core' (core_volume x)

theorem Blk.insRow {a x : Cache} (h : Blk a x) (k : SqlVal) (raw : Bool) (now : Int) (c : Cols) :
    Blk a (x.insRow k raw now c) :=
  h.same rfl rfl rfl rfl rfl

theorem Blk.updRow {a x : Cache} (h : Blk a x) (rowid : Nat) (now : Int) (c : Cols) :
    Blk a (x.updRow rowid now c) :=
  h.same rfl rfl rfl rfl rfl

theorem Blk.updExp {a x : Cache} (h : Blk a x) (rowid : Nat) (e : Option Int) :
    Blk a (x.updExp rowid e) :=
  h.same rfl rfl rfl rfl rfl

theorem Blk.updGet {a x : Cache} (h : Blk a x) (rowid : Nat) (now : Int) :
    Blk a (x.updGet rowid now) :=
  h.same rfl rfl rfl rfl rfl

theorem Blk.updIncr {a x : Cache} (h : Blk a x) (rowid : Nat) (now : Int) (v : SqlVal) :
    Blk a (x.updIncr rowid now v) :=
  h.same rfl rfl rfl rfl rfl

theorem Blk.delRowQuiet {a x : Cache} (h : Blk a x) (rowid : Nat) : Blk a (x.delRowQuiet rowid) :=
  h.core _ (core_delRowQuiet x rowid)

theorem Blk.delRow {a x : Cache} (h : Blk a x) (rowid : Nat) : Blk a (x.delRow rowid) :=
  h.core _ (core_delRow x rowid)

theorem Blk.delIn {a x : Cache} (h : Blk a x) (ids : List Nat) : Blk a (x.delIn ids) :=
  h.core _ (core_delIn ids x)

theorem Blk.cullW {a x : Cache} (h : Blk a x) (now : Int) : Blk a (x.cullW now).1 :=
  h.core _ (cullW_core x now).1

/-- inside a block `_remove_committed` only defers the removal -/
theorem Blk.removeCommitted {a x : Cache} (h : Blk a x) (f : Option Nat) :
    Blk a (x.removeCommitted f) := by
  unfold DC.Cache.removeCommitted
  cases f with
  | none => exact h
  | some f =>
    simp only [h.pos', if_true]
    exact h.same rfl rfl rfl rfl rfl

/-- inside a block a transaction is just its body (no BEGIN, no COMMIT, no ROLLBACK, no file
removal); the file written for it is registered in `created` -/
theorem Blk.transact {a x : Cache} (h : Blk a x) (body : Cache → Body) (fresh : Option Nat)
    (hfr : ∀ f, fresh = some f → a.nfile ≤ f)
    (hb : ∀ t, Blk a t → Blk a (body t).s) :
    Blk a (x.transact body fresh).1 := by
  rw [transact_inblock x h.pos']
  have h1 : Blk a (reg x fresh) := by
    cases fresh with
    | none => exact h
    | some f =>
      refine ⟨h.pos, h.depth, h.snap, h.files, h.nfile, fun g hg => ?_⟩
      rcases List.mem_append.1 hg with hg | hg
      · exact h.created g hg
      · exact .inr (List.mem_singleton.1 hg ▸ hfr f rfl)
  have h2 := hb _ h1
  split
  · exact h2.same rfl rfl rfl rfl rfl
  · exact h2

/-- `x` is reached from `a` by statements on the table: files and block bookkeeping are those of `a` -/
structure Q4 (a x : Cache) : Prop where
  depth : x.depth = a.depth
  snap : x.snap = a.snap
  pending : x.pending = a.pending
  created : x.created = a.created
  files : x.files = a.files
  nfile : x.nfile = a.nfile

theorem Q4.refl (s : Cache) : Q4 s s := ⟨rfl, rfl, rfl, rfl, rfl, rfl⟩

theorem Q4.same {a x y : Cache} (h : Q4 a x) (h1 : y.depth = x.depth) (h2 : y.snap = x.snap)
    (h3 : y.pending = x.pending) (h4 : y.created = x.created) (h5 : y.files = x.files := by rfl)
    (h6 : y.nfile = x.nfile := by rfl) : Q4 a y :=
  ⟨h1.trans h.depth, h2.trans h.snap, h3.trans h.pending, h4.trans h.created, h5.trans h.files,
    h6.trans h.nfile⟩

theorem Q4.core {a x y : Cache} (h : Q4 a x) (R : List Row)
    (hc : DC.Cache.core y = { DC.Cache.core x with rows := R }) : Q4 a y := by
  simp only [DC.Cache.core, Core.mk.injEq] at hc
  obtain ⟨-, hf, hn, hd, hs, hp, hcr, -, -⟩ := hc
  exact h.same hd hs hp hcr hf hn

theorem Q4.core' {a x y : Cache} (h : Q4 a x) (hc : DC.Cache.core y = DC.Cache.core x) : Q4 a y :=
  h.core x.rows (by rw [hc]; rfl)

theorem Q4.log {a x : Cache} (h : Q4 a x) (act : Act) : Q4 a (x.log act) := h.same rfl rfl rfl rfl
theorem Q4.logSql {a x : Cache} (h : Q4 a x) (id : String) : Q4 a (x.logSql id) := h.same rfl rfl rfl rfl
theorem Q4.setMisses {a x : Cache} (h : Q4 a x) (m : Int) : Q4 a { x with misses := m } := h.same rfl rfl rfl rfl
theorem Q4.setHits {a x : Cache} (h : Q4 a x) (m : Int) : Q4 a { x with hits := m } := h.same rfl rfl rfl rfl
theorem Q4.fetchRow {a x : Cache} (h : Q4 a x) (E : Externals) (r : Row) (read : Bool) :
    Q4 a (x.fetchRow E r read).1 := h.core' (core_fetchRow x E r read)
theorem Q4.volume {a x : Cache} (h : Q4 a x) : Q4 a x.volume.1 := h.core' (core_volume x)
theorem Q4.insRow {a x : Cache} (h : Q4 a x) (k : SqlVal) (raw : Bool) (now : Int) (c : Cols) :
    Q4 a (x.insRow k raw now c) := h.same rfl rfl rfl rfl
theorem Q4.updRow {a x : Cache} (h : Q4 a x) (rowid : Nat) (now : Int) (c : Cols) :
    Q4 a (x.updRow rowid now c) := h.same rfl rfl rfl rfl
theorem Q4.updExp {a x : Cache} (h : Q4 a x) (rowid : Nat) (e : Option Int) :
    Q4 a (x.updExp rowid e) := h.same rfl rfl rfl rfl
theorem Q4.updGet {a x : Cache} (h : Q4 a x) (rowid : Nat) (now : Int) :
    Q4 a (x.updGet rowid now) := h.same rfl rfl rfl rfl
theorem Q4.updIncr {a x : Cache} (h : Q4 a x) (rowid : Nat) (now : Int) (v : SqlVal) :
    Q4 a (x.updIncr rowid now v) := h.same rfl rfl rfl rfl
theorem Q4.delRowQuiet {a x : Cache} (h : Q4 a x) (rowid : Nat) : Q4 a (x.delRowQuiet rowid) :=
  h.core _ (core_delRowQuiet x rowid)
theorem Q4.delRow {a x : Cache} (h : Q4 a x) (rowid : Nat) : Q4 a (x.delRow rowid) :=
  h.core _ (core_delRow x rowid)
theorem Q4.delIn {a x : Cache} (h : Q4 a x) (ids : List Nat) : Q4 a (x.delIn ids) :=
  h.core _ (core_delIn ids x)
theorem Q4.cullW {a x : Cache} (h : Q4 a x) (now : Int) : Q4 a (x.cullW now).1 :=
  h.core _ (cullW_core x now).1

theorem store_fields {x x' : Cache} {E : Externals} {v : PyVal} {read : Bool} {c : Cols}
    (hst : x.store E v read = .ok (x', c)) :
    x'.depth = x.depth ∧ x'.snap = x.snap ∧ x'.pending = x.pending ∧ x'.created = x.created ∧
    (∀ p ∈ x'.files, p ∈ x.files ∨ c.file = some p.1) ∧
    x.nfile ≤ x'.nfile ∧ (∀ g, c.file = some g → x.nfile ≤ g) := by
  rcases store_ok hst with ⟨rfl, hf⟩ | ⟨ct, rfl, hf, -⟩ <;> rw [hf]
  · exact ⟨rfl, rfl, rfl, rfl, fun p hp => .inl hp, Nat.le_refl _, nofun⟩
  · refine ⟨rfl, rfl, rfl, rfl, fun p hp => ?_, Nat.le_succ _, fun g hg => by cases hg; exact Nat.le_refl _⟩
    have hp : p ∈ x.files ++ [(x.nfile, ct)] := hp
    rcases List.mem_append.1 hp with hp | hp
    · exact .inl hp
    · exact .inr (by rw [List.mem_singleton.1 hp])

macro "q4_auto" : tactic => `(tactic| repeat' first
    | assumption
    | contradiction
    | with_reducible apply Q4.logSql
    | with_reducible apply Q4.log
    | with_reducible apply Q4.delIn
    | with_reducible apply Q4.volume
    | with_reducible apply Q4.cullW
    | with_reducible apply Q4.insRow
    | with_reducible apply Q4.updRow
    | with_reducible apply Q4.updExp
    | with_reducible apply Q4.updGet
    | with_reducible apply Q4.updIncr
    | with_reducible apply Q4.delRow
    | with_reducible apply Q4.delRowQuiet
    | with_reducible apply Q4.fetchRow
    | split)

theorem Blk.q4 {a x y : Cache} (h : Blk a x) (hq : Q4 x y) : Blk a y :=
  h.same hq.depth hq.snap hq.files hq.nfile hq.created

theorem Blk.transact_q4 {a x : Cache} (h : Blk a x) (body : Cache → Body) (fresh : Option Nat)
    (hfr : ∀ f, fresh = some f → a.nfile ≤ f) (hq : ∀ t, Q4 t (body t).s) :
    Blk a (x.transact body fresh).1 :=
  h.transact body fresh hfr fun _ ht => ht.q4 (hq _)

theorem Blk.transact' {a x : Cache} (h : Blk a x) (body : Cache → Body) (hq : ∀ t, Q4 t (body t).s) :
    Blk a (x.transact body).1 :=
  h.transact_q4 body none (by intro f hf; cases hf) hq

/-- `set`, `add`, `push`: the value is stored first, the transaction runs with the new file as `fresh` -/
theorem Blk.store_transact {a x x1 : Cache} {E : Externals} {v : PyVal} {read : Bool} {c : Cols}
    (h : Blk a x) (hst : x.store E v read = .ok (x1, c)) (body : Cache → Body)
    (hq : ∀ t, Q4 t (body t).s) : Blk a (x1.transact body c.file).1 :=
  (h.store hst).1.transact_q4 _ _ (h.store hst).2 hq

theorem setBody_q4 (dbk : SqlVal) (raw : Bool) (now : Int) (c : Cols) (y : Cache) :
    Q4 y (setBody dbk raw now c y).s := by
  have h0 := Q4.refl y
  unfold setBody
  q4_auto

theorem pageBody_q4 (page : List Row) (sel : String) (x : Cache) : Q4 x (pageBody page sel x).s := by
  have h0 := Q4.refl x
  unfold pageBody
  simp only
  q4_auto

theorem getFast_core (E : Externals) (dbk : SqlVal) (raw : Bool) (now : Int) (read et tg : Bool) (s : Cache) :
    core (getFast E dbk raw now read et tg s).1 = core s := by
  obtain ⟨tr, e⟩ := getFast_fst E dbk raw now read et tg s
  rw [e]; rfl

theorem getBody_q4 (E : Externals) (dbk : SqlVal) (raw : Bool) (now : Int) (read et tg : Bool) (y : Cache) :
    Q4 y (getBody E dbk raw now read et tg y).s := by
  obtain ⟨-, -, tr, h, m, e | ⟨id, e⟩⟩ := getBody_exits E dbk raw now read et tg y <;> rw [e]
  · exact ⟨rfl, rfl, rfl, rfl, rfl, rfl⟩
  · exact (Q4.same (y := { y with trace := tr, hits := h, misses := m }) (Q4.refl y) rfl rfl rfl rfl).updGet id now

theorem set_blk {a s : Cache} (h : Blk a s) (E : Externals) (now : Int) (k v : PyVal) (ttl : Option Int)
    (read : Bool) (tag : SqlVal) : Blk a (s.set E now k v ttl read tag).1 := by
  rw [set_eq]
  split
  · exact h
  · rename_i hst
    exact h.store_transact hst _ (setBody_q4 _ _ _ _)

theorem touch_blk {a s : Cache} (h : Blk a s) (E : Externals) (now : Int) (k : PyVal) (ttl : Option Int) :
    Blk a (s.touch E now k ttl).1 := by
  unfold DC.Cache.touch
  simp only
  apply h.transact'
  intro t
  have h0 := Q4.refl t
  q4_auto

theorem incr_blk {a s : Cache} (h : Blk a s) (E : Externals) (now : Int) (k : PyVal) (delta : Int)
    (dflt : Option Int) : Blk a (s.incr E now k delta dflt).1 := by
  rw [incr_eq]
  refine h.transact _ none (by intro f hf; cases hf) fun t ht => ?_
  rcases incrBody_exits E _ _ now delta dflt t _ rfl with
    ⟨-, tr, e⟩ | ⟨r, v, -, -, -, e⟩ | ⟨v, s1, c, hst, -, ⟨-, e, -⟩ | ⟨r, -, e, -⟩⟩ <;> rw [e]
  · exact ht.same rfl rfl rfl rfl rfl
  · exact (ht.logSql _).updIncr _ _ _
  · obtain ⟨h', hfile⟩ := (ht.logSql _).store hst
    exact ((h'.regCreated c.file hfile).insRow _ _ _ _).cullW now
  · obtain ⟨h', hfile⟩ := (ht.logSql _).store hst
    exact ((h'.regCreated c.file hfile).updRow _ _ _).cullW now

theorem get_blk {a s : Cache} (h : Blk a s) (E : Externals) (now : Int) (k : PyVal) (read et tg : Bool) :
    Blk a (s.get E now k read et tg).1 := by
  rw [get_eq]
  split
  · exact h.core' (getFast_core ..)
  · exact h.transact' _ (getBody_q4 _ _ _ _ _ _ _)

theorem contains_blk {a s : Cache} (h : Blk a s) (E : Externals) (now : Int) (k : PyVal) :
    Blk a (s.contains E now k).1 :=
  h.logSql _

/-- the transaction of `pop` and `pull` that deletes the row; its file is removed afterwards -/
theorem Blk.tdel {a x : Cache} (h : Blk a x) (sel : String) (rowid : Nat) (cl : List (Option Nat)) :
    Blk a (x.transact fun s => { s := (s.logSql sel).delRow rowid, out := .none, cleanup := cl }).1 :=
  h.transact' _ fun t => ((Q4.refl t).logSql sel).delRow rowid

theorem Blk.tsel {a x : Cache} (h : Blk a x) (sel : String) (o : Out) (ok : Bool) :
    Blk a (x.transact fun s => { s := s.logSql sel, out := o, ok := ok }).1 :=
  h.transact' _ fun t => (Q4.refl t).logSql sel

theorem Blk.queueSteps (a : Cache) : QueueSteps (Blk a) where
  sel sel o ok h := h.tsel sel o ok
  del sel r _ h := h.tdel sel r.rowid _
  fetch E r read h := h.fetchRow E r read
  pop sel E r _ h := ((h.tdel sel r.rowid []).fetchRow E r false).removeCommitted r.file

theorem pop_blk {a s : Cache} (h : Blk a s) (E : Externals) (now : Int) (k : PyVal) (et tg : Bool) :
    Blk a (s.pop E now k et tg).1 :=
  pop_keeps (Blk.queueSteps a) E now k et tg h

theorem delitem_blk {a s : Cache} (h : Blk a s) (E : Externals) (now : Int) (k : PyVal) :
    Blk a (s.delitem E now k).1 := by
  unfold DC.Cache.delitem
  simp only
  apply h.transact'
  intro t
  have h0 := Q4.refl t
  q4_auto

theorem delete_blk {a s : Cache} (h : Blk a s) (E : Externals) (now : Int) (k : PyVal) :
    Blk a (s.delete E now k).1 := by
  rw [delete_fst]
  exact delitem_blk h E now k

theorem Blk.deletePage {a x : Cache} (h : Blk a x) (page : List Row) (sel : String) :
    Blk a (x.deletePage page sel) :=
  h.transact' _ (pageBody_q4 page sel)

theorem Blk.pageStep (a : Cache) : PageStep (Blk a) := fun page sel _ h => h.deletePage page sel

theorem cull_blk {a s : Cache} (h : Blk a s) (now : Int) : Blk a (s.cull now).1 := by
  have h1 := expireLoop_keeps (Blk.pageStep a) now (s.rows.length + 1) none 0 h
  rw [cull_eq]
  split
  · exact h1
  · exact cullLoop_keeps (P := Blk a) Blk.volume (fun sel h => h.tsel sel .none true)
      (fun rows _ h => h.transact' _ fun t => (((Q4.refl t).logSql _).delIn _).logSql _) _ _ h1

theorem iter_blk {a s : Cache} (h : Blk a s) (E : Externals) (asc : Bool) : Blk a (s.iter E asc).1 := by
  unfold DC.Cache.iter
  simp only
  split
  · exact h.logSql _
  · exact iterLoop_keeps (P := Blk a) (fun id h => h.logSql id) asc _ _ _ _ (h.logSql _)

theorem iterkeys_blk {a s : Cache} (h : Blk a s) (E : Externals) (rev : Bool) :
    Blk a (s.iterkeys E rev).1 := by
  unfold DC.Cache.iterkeys
  simp only
  split
  · exact h.logSql _
  · exact iterkeysLoop_keeps (P := Blk a) (fun id h => h.logSql id) rev _ _ _ (h.logSql _)

/-- `stats` as a single record update.  Its definition nests six updates; comparing a field of that
term with a field of `s` makes the unifier compare the nested records field by field at every level,
so the lemmas about `stats` rewrite with this equation first. -/
theorem stats_fst (s : Cache) (enable reset : Bool) :
    (s.stats enable reset).1 =
      { s with
        hits := if reset then 0 else s.hits, misses := if reset then 0 else s.misses,
        statistics := enable,
        trace := s.trace ++ [.sql "getHits", .sql "getMisses"] ++
          (if reset then [.sql "setHits", .sql "setMisses"] else []) ++ [.sql "setStatistics"] } := by
  cases reset <;> simp [stats, logSql, log]

theorem stats_blk {a s : Cache} (h : Blk a s) (enable reset : Bool) : Blk a (s.stats enable reset).1 := by
  rw [stats_fst]; exact h.same rfl rfl rfl rfl rfl

theorem fremoveAll_stats (fs : List (Option Nat)) : ∀ s : Cache,
    (s.fremoveAll fs).hits = s.hits ∧ (s.fremoveAll fs).misses = s.misses := by
  induction fs with
  | nil => intro s; exact ⟨rfl, rfl⟩
  | cons a t ih =>
    intro s
    cases a with
    | none => exact ih s
    | some f => exact ih (s.fremove f)

theorem fremoveAll_files (s : Cache) (fs : List (Option Nat)) :
    (s.fremoveAll fs).files = s.files.filter (fun p => !fs.contains (some p.1)) :=
  congrArg Core.files (core_fremoveAll fs s)

theorem fremoveAll_snap (s : Cache) (fs : List (Option Nat)) : (s.fremoveAll fs).snap = s.snap :=
  congrArg Core.snap (core_fremoveAll fs s)

theorem fremoveAll_depth (s : Cache) (fs : List (Option Nat)) : (s.fremoveAll fs).depth = s.depth :=
  congrArg Core.depth (core_fremoveAll fs s)

theorem mem_fremoveAll {s : Cache} {fs : List (Option Nat)} {p : Nat × Content} (hp : p ∈ s.files)
    (hn : some p.1 ∉ fs) : p ∈ (s.fremoveAll fs).files := by
  rw [fremoveAll_files]
  exact List.mem_filter.2 ⟨hp, by simpa using hn⟩

theorem mem_of_fremoveAll {s : Cache} {fs : List (Option Nat)} {p : Nat × Content}
    (hp : p ∈ (s.fremoveAll fs).files) : p ∈ s.files := by
  rw [fremoveAll_files] at hp
  exact (List.mem_filter.1 hp).1

theorem tend_one (s : Cache) (hd : s.depth = 1) :
    s.tend = { ({ (s.log .commit) with depth := 0, snap := none }.fremoveAll s.pending) with
      pending := [], created := [] } := by
  unfold DC.Cache.tend
  rw [if_pos (by simp [hd])]
  rfl

theorem traise_outer (s : Cache) (n : Nat) (p : Snap) (hn : s.depth ≤ n) (hd : 0 < s.depth)
    (hs : s.snap = some p) :
    s.traise n = { ({ ((s.restore p).log .rollback) with depth := 0, snap := none }.fremoveAll
      (s.created.map some)) with pending := [], created := [] } := by
  unfold DC.Cache.traise
  rw [if_pos (by simp [hn, hd])]
  simp only [hs]
  rfl

theorem traise_inner (s : Cache) (n : Nat) (hn : n < s.depth) :
    s.traise n = { s with depth := s.depth - n } := by
  unfold DC.Cache.traise
  have : ¬ (s.depth ≤ n) := by omega
  simp [this]

theorem tend_idle (s : Cache) (hd : s.depth = 0) : s.tend = { s with depth := 0 } := by
  unfold DC.Cache.tend
  simp [hd]

theorem tend_rows (s : Cache) : s.tend.rows = s.rows := by
  unfold tend; split
  · simp only [fremoveAll_rows]; rfl
  · rfl

theorem traise_idle (s : Cache) (n : Nat) (hd : s.depth = 0) : s.traise n = { s with depth := 0 } := by
  unfold DC.Cache.traise
  simp [hd]

end DC.Cache
