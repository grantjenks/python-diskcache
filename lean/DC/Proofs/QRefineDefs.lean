/-
Definitions used in the statements of C10_Refine and C10_LooseRefine (the Cache
model refines the family of queues next to a dictionary of DC/Model/QSpec.lean): the
item a queue row denotes, the refinement relation `QRefines` and its loose form
`QLoose` (queues up to expired items removed by the lazy cull, `Thinned`), the
budgeted invariants `QOk` and `QOkL`.  Only the passages between `QOk` and `QOkL` and the
two equivalences with the vocabulary of DC/Proofs/RefineLemmas.lean are proved here.
-/
import DC.Model.QSpec
import DC.Properties.C10
import DC.Properties.C03_Refine
import DC.Proofs.DRefineLemmas

namespace DC.QSpec

def Thinned (now : Int) (l' l : List Item) : Prop :=
  ∃ keep : Item → Bool, l' = l.filter keep ∧ ∀ it ∈ l, keep it = false → it.ent.expired now = true

end DC.QSpec

namespace DC.Cache
open DC.Spec DC.QSpec

def itemOfRow (c : Cache) (r : Row) : Item := ⟨(queueNum r.key).getD 0, entryOfRow c r⟩

/-- the queue of prefix `p` that state `c` holds: its rows in key order, as items -/
def absQueue (c : Cache) (p : Option Str) : List Item := (c.queueRows p).map (itemOfRow c)

/-- `c` holds for key `k` what the dictionary holds (`d`), at clock `clock`: the same entry, or
nothing if the dictionary's entry expired strictly before `clock` (the cache may have removed
it physically) — the clause of `Refines` (DC/Properties/C03_Refine.lean) for one key -/
def HoldsKey (c : Cache) (k : Spec.Key) (d : Option Spec.Entry) (clock : Int) : Prop :=
  match d with
  | some e => (∃ r, c.selKey k.1 k.2 = some r ∧ entryOfRow c r = e) ∨
              (c.selKey k.1 k.2 = none ∧ e.expired clock = true)
  | none => c.selKey k.1 k.2 = none

/-- `c` represents the specification state `q` at clock `clock`:
 * for EVERY prefix, the rows of the queue of that prefix denote, in key order, the items of the
   specification's queue (exactly: no item is missing, expired or not);
 * the dictionary part is related as in `Refines`, on the keys that are not queue keys;
 * the dictionary binds every key at most once and binds no queue key. -/
structure QRefines (c : Cache) (q : QSpec.State) (clock : Int) : Prop where
  queues : ∀ p, absQueue c p = q.queues.get p
  wf : q.dict.WF
  ord : ∀ b ∈ q.dict, isQueueKey b.1 = false
  dict : ∀ k : Spec.Key, isQueueKey k = false → HoldsKey c k (q.dict.get k) clock

/-- `c` represents the specification state `q` at clock `clock`, LOOSELY: for every prefix the
cache's queue is the specification's queue without some items that are expired at `clock` (the
lazy cull may have removed them physically) — in particular every item that is not expired is
there, in the same order —; the dictionary part is as in `QRefines`. -/
structure QLoose (c : Cache) (q : QSpec.State) (clock : Int) : Prop where
  queues : ∀ p, Thinned clock (absQueue c p) (q.queues.get p)
  wf : q.dict.WF
  ord : ∀ b ∈ q.dict, isQueueKey b.1 = false
  dict : ∀ k : Spec.Key, isQueueKey k = false → HoldsKey c k (q.dict.get k) clock

/-- the budgeted invariant of the history theorem.  `n` bounds the number of further `push`
calls (on any prefix, at either end): every push moves one step away from the origin and the
queue keys have 15 digits (usable numbers 1 … 999999999999998), so every queue key must leave
room for `n` more steps on both sides, and so must the origin (for the queues still empty).
The rest does not change along a history:
 * `good`: table and file invariants, no open transaction block;
 * `pol`: no size-based eviction (`policy = none`; the size-limit regime is C09);
 * `page`: the page size of the bulk-removal loops is positive (100 in core.py);
 * `qok`: every key in a queue range is a well-formed queue key (a number of 15 digits behind
   the prefix; an integer for `prefix=None`) — false as soon as a row with a key such as
   `7`, `7.0` or `"p-5xxxxxxxxxxxxxx"` is stored by `set`;
 * `readable`: every stored item can be read back (true of everything `Disk.store` writes);
 * `quiet`: the lazy cull of a write (`_cull`, up to `cull_limit` expired rows) never removes a
   queue row: `cull_limit = 0`, or no queue row has an expiry time. -/
structure QOk (c : Cache) (n : Nat) : Prop where
  good : Good c
  pol : c.cfg.policy = .none
  page : 0 < c.cfg.page
  qok : ∀ p, QueueOk c p
  room : ∀ p, ∀ r ∈ c.queueRows p, ∀ k, queueNum r.key = some k →
    1 + (n : Int) ≤ k ∧ k + (n : Int) ≤ 999999999999998
  origin : OriginOk c
  originN : n ≤ c.cfg.qorigin ∧ c.cfg.qorigin + n ≤ 999999999999999
  readable : ∀ p, ∀ r ∈ c.queueRows p, drf_Readable (entryOfRow c r)
  quiet : c.cfg.cullLimit = 0 ∨ ∀ p, ∀ r ∈ c.queueRows p, r.expT = none

/-- `QOk` without `quiet`: the invariant of the regime where the lazy cull may remove expired
queue rows (`cull_limit > 0` with expiry times on pushed items), DC/Properties/C10_LooseRefine.lean -/
structure QOkL (c : Cache) (n : Nat) : Prop where
  good : Good c
  pol : c.cfg.policy = .none
  page : 0 < c.cfg.page
  qok : ∀ p, QueueOk c p
  room : ∀ p, ∀ r ∈ c.queueRows p, ∀ k, queueNum r.key = some k →
    1 + (n : Int) ≤ k ∧ k + (n : Int) ≤ 999999999999998
  origin : OriginOk c
  originN : n ≤ c.cfg.qorigin ∧ c.cfg.qorigin + n ≤ 999999999999999
  readable : ∀ p, ∀ r ∈ c.queueRows p, drf_Readable (entryOfRow c r)

theorem QOk.toL {c : Cache} {n : Nat} (h : QOk c n) : QOkL c n :=
  ⟨h.good, h.pol, h.page, h.qok, h.room, h.origin, h.originN, h.readable⟩

theorem QOk.ofL {c : Cache} {n : Nat} (h : QOkL c n)
    (hq : c.cfg.cullLimit = 0 ∨ ∀ p, ∀ r ∈ c.queueRows p, r.expT = none) : QOk c n :=
  ⟨h.good, h.pol, h.page, h.qok, h.room, h.origin, h.originN, h.readable, hq⟩

theorem holdsKey_iff (c : Cache) (k : Spec.Key) (d : Option Spec.Entry) (clock : Int) :
    HoldsKey c k d clock ↔ rf_VRel (rf_view c k) d clock := by
  have hv : rf_view c k = (c.selKey k.1 k.2).map (entryOfRow c) := rfl
  rw [hv]
  unfold HoldsKey rf_VRel
  cases d with
  | none => cases c.selKey k.1 k.2 <;> simp
  | some e => cases c.selKey k.1 k.2 <;> simp

end DC.Cache
