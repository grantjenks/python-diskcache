/-
C03_Lossy, generic part: the dictionary with dropped keys (`Spec.dropKeys`),
views that lost entries to eviction (`rf_Lossy`, the generalization of
`rf_Culled`), and the generic step `rf_lossy`: a state whose rows are a subset
of a list `X` and whose files come from a state `b` denotes the view of `X`
(read against the files of `b`) minus the keys of the missing unexpired rows
(`rf_culled`: none missing). `rf_lossy_finish` takes these table-level facts to the
call-level `Loss`.
-/
import DC.Proofs.RefineLemmas
import DC.Proofs.LossyCull

namespace DC.Cache
open DC.Spec

theorem rf_keyIn_congr (ks : List Key) {a b : Key} (h : sameKey a b = true) :
    ks.any (fun l => sameKey l a) = ks.any (fun l => sameKey l b) := by
  have : (fun l => sameKey l a) = (fun l => sameKey l b) := by
    funext l; exact rf_sameKey_congr_right h l
  rw [this]

theorem rf_get_dropKeys (m : Dict) (ks : List Key) (k : Key) :
    (dropKeys m ks).get k = if ks.any (fun l => sameKey l k) then none else m.get k := by
  unfold dropKeys
  rw [rf_get_filterKey m (fun a => !ks.any (fun l => sameKey l a))
    (fun a b h => by rw [rf_keyIn_congr ks h])]
  cases ks.any (fun l => sameKey l k) <;> rfl

theorem rf_wf_dropKeys {m : Dict} (h : m.WF) (ks : List Key) : (dropKeys m ks).WF := rf_wf_filter h _

theorem rf_dropKeys_nil (m : Dict) : dropKeys m [] = m := by
  unfold dropKeys
  rw [List.filter_eq_self]
  intro a _; rfl

/-- `v2` is `v1` except that the entries of the keys in `lost` were dropped, and possibly some
entries that were expired at `now` -/
def rf_Lossy (now : Int) (lost : List Key) (v1 v2 : Key → Option Entry) : Prop :=
  ∀ k, if lost.any (fun l => sameKey l k) then v2 k = none
       else v2 k = v1 k ∨ (v2 k = none ∧ ∃ e, v1 k = some e ∧ e.expired now = true)

theorem rf_Lossy_nil {now : Int} {v1 v2 : Key → Option Entry} :
    rf_Lossy now [] v1 v2 ↔ rf_Culled now v1 v2 := by
  unfold rf_Lossy rf_Culled
  simp

theorem rf_VRel_lossy {v1 v2 : Key → Option Entry} {now : Int} {lost : List Key}
    (hl : rf_Lossy now lost v1 v2) {m : Dict}
    (h : ∀ k, rf_VRel (v1 k) (m.get k) now) :
    ∀ k, rf_VRel (v2 k) ((dropKeys m lost).get k) now := by
  intro k
  rw [rf_get_dropKeys]
  have hk := hl k
  cases hin : lost.any (fun l => sameKey l k) with
  | true =>
    rw [hin] at hk
    simp only [if_true] at hk ⊢
    exact hk
  | false =>
    rw [hin] at hk
    simp only [Bool.false_eq_true, if_false] at hk ⊢
    exact rf_VRel_culled (v1 := fun _ => v1 k) (v2 := fun _ => v2 k) (fun _ => hk) (k := k) (h k)

theorem rf_assemble_lossy {v v' : Key → Option Entry} {m m' : Dict} {clock now : Int} {K : Key}
    {lost : List Key} {upd : Option Entry → Option Entry}
    (hr : ∀ k, rf_VRel (v k) (m.get k) clock) (hn : clock ≤ now)
    (hA : rf_Lossy now lost (rf_at K (upd (v K)) v) v')
    (hB : ∀ k', m'.get k' = rf_at K (upd (m.get K)) m.get k')
    (hC : ∀ a d, rf_VRel a d now → rf_VRel (upd a) (upd d) now) :
    ∀ k, rf_VRel (v' k) ((dropKeys m' lost).get k) now :=
  rf_VRel_lossy hA (rf_assemble hr hn (rf_Culled_refl _ _) hB hC)

theorem rf_VRel_some {v d : Option Entry} {now : Int} {e : Entry} (h : rf_VRel v d now) (hv : v = some e) :
    d = some e := by
  unfold rf_VRel at h
  split at h
  · rcases h with h | ⟨h, -⟩
    · rw [← h, hv]
    · rw [hv] at h; cases h
  · rw [hv] at h; cases h

theorem rf_keyMatch_self {r : Row} (hnn : r.key ≠ .null) : keyMatch r.key r.raw r = true := by
  simp [keyMatch, eqv_self hnn]

theorem lostRows_sublist (now : Int) (X Y : List Row) : (lostRows now X Y).Sublist X :=
  List.filter_sublist

theorem rf_lossy {c' b : Cache} {X : List Row} {now : Int} (hg' : Good c')
    (hu : KeysUnique X)
    (hsub : ∀ r ∈ c'.rows, r ∈ X)
    (hfiles : ∀ p ∈ c'.files, p ∈ b.files)
    (hnd : (b.files.map (·.1)).Nodup) :
    rf_Lossy now ((lostRows now X c'.rows).map rowKey) (rf_look X b) (rf_view c') := by
  have hent : ∀ r ∈ c'.rows, rf_ent c' r = rf_ent b r :=
    fun r hr => rf_ent_mono hfiles hnd (rf_good_ref hg' hr)
  intro k
  have hnone : ∀ x ∈ X, keyMatch k.1 k.2 x = true → x ∉ c'.rows →
      c'.rows.find? (keyMatch k.1 k.2) = none := by
    intro x hx hkx hxc
    rw [List.find?_eq_none]
    intro y hy hky
    have := keysUnique_eq hu (hsub y hy) hx hky hkx
    subst this
    exact hxc hy
  cases hin : ((lostRows now X c'.rows).map rowKey).any (fun l => sameKey l k) with
  | true =>
    simp only [if_true]
    obtain ⟨l, hl, hlk⟩ := List.any_eq_true.1 hin
    obtain ⟨r, hr, rfl⟩ := List.mem_map.1 hl
    obtain ⟨hrX, -, hrY⟩ := mem_lostRows.1 hr
    unfold rf_view rf_look
    rw [hnone r hrX hlk hrY]; rfl
  | false =>
    simp only [Bool.false_eq_true, if_false]
    unfold rf_view
    rw [rf_look_congr hent k]
    unfold rf_look
    cases hf : X.find? (keyMatch k.1 k.2) with
    | none =>
      left
      have : c'.rows.find? (keyMatch k.1 k.2) = none := by
        rw [List.find?_eq_none]
        intro x hx
        exact List.find?_eq_none.1 hf x (hsub x hx)
      rw [this]
    | some x =>
      have hx := List.mem_of_find?_eq_some hf
      have hkx : keyMatch k.1 k.2 x = true := List.find?_some hf
      by_cases hxc : x ∈ c'.rows
      · left
        rw [rf_find_of_mem hg'.tinv.tbl.uniq hxc hkx]
      · right
        rw [hnone x hx hkx hxc]
        refine ⟨rfl, rf_ent b x, rfl, ?_⟩
        rw [rf_ent_expired]
        cases hex : expired now x with
        | true => rfl
        | false =>
          have : ((lostRows now X c'.rows).map rowKey).any (fun l => sameKey l k) = true :=
            List.any_eq_true.2 ⟨rowKey x, List.mem_map.2 ⟨x, mem_lostRows.2 ⟨hx, hex, hxc⟩, rfl⟩, hkx⟩
          rw [hin] at this; cases this

theorem rf_culled {c' b : Cache} {X : List Row} {now : Int} (hg' : Good c')
    (hu : KeysUnique X)
    (hsub : ∀ r ∈ c'.rows, r ∈ X)
    (hgone : ∀ r ∈ X, r ∉ c'.rows → expired now r = true)
    (hfiles : ∀ p ∈ c'.files, p ∈ b.files)
    (hnd : (b.files.map (·.1)).Nodup) :
    rf_Culled now (rf_look X b) (rf_view c') := by
  have h := rf_lossy (now := now) hg' hu hsub hfiles hnd
  rw [lostRows_eq_nil hgone] at h
  exact rf_Lossy_nil.1 h

theorem rf_lost_facts {c' b : Cache} {X : List Row} {now : Int}
    (hu : KeysUnique X) (hnn : ∀ r ∈ X, r.key ≠ .null)
    (hsub : ∀ r ∈ c'.rows, r ∈ X) :
    (∀ r ∈ lostRows now X c'.rows, rf_look X b (rowKey r) = some (rf_ent b r)) ∧
    (∀ r ∈ lostRows now X c'.rows, expired now r = false) ∧
    (∀ r ∈ lostRows now X c'.rows, c'.selKey r.key r.raw = none) ∧
    KeysUnique (lostRows now X c'.rows) := by
  refine ⟨?_, ?_, ?_, List.Pairwise.sublist (lostRows_sublist now X c'.rows) hu⟩
  · intro r hr
    obtain ⟨hrX, -, -⟩ := mem_lostRows.1 hr
    unfold rf_look
    show (X.find? (keyMatch r.key r.raw)).map (rf_ent b) = _
    rw [rf_find_of_mem hu hrX (rf_keyMatch_self (hnn r hrX))]; rfl
  · intro r hr; exact (mem_lostRows.1 hr).2.1
  · intro r hr
    obtain ⟨hrX, -, hrY⟩ := mem_lostRows.1 hr
    unfold selKey
    rw [List.find?_eq_none]
    intro y hy hky
    have := keysUnique_eq hu (hsub y hy) hrX hky (rf_keyMatch_self (hnn r hrX))
    subst this
    exact hrY hy

theorem fremoveAll_size_env (fs : List (Option Nat)) : ∀ s : Cache,
    (s.fremoveAll fs).size = s.size ∧ (s.fremoveAll fs).env = s.env := by
  induction fs with
  | nil => intro s; exact ⟨rfl, rfl⟩
  | cons a t ih =>
    intro s
    cases a with
    | none => exact ih s
    | some f => exact ih (s.fremove f)

theorem rf_transact_size (s : Cache) (body : Cache → Body) (fresh : Option Nat) (hd : s.depth = 0)
    (hok : (body (s.log .begin)).ok = true) :
    (s.transact body fresh).1.size = (body (s.log .begin)).s.size := by
  rw [transact_outer s hd, if_pos hok]
  exact (fremoveAll_size_env _ _).1

theorem store_env {s s1 : Cache} {E : Externals} {v : PyVal} {read : Bool} {c : Cols}
    (hs : s.store E v read = .ok (s1, c)) : s1.env = s.env := by
  rcases store_ok hs with ⟨rfl, -⟩ | ⟨ct, rfl, -, -⟩ <;> rfl

/-- the call-level statement: `c'` is the state after the call, `tb` the state at the end of the
transaction body (same rows, same size counter), `X` the table after the INSERT/UPDATE -/
theorem rf_lossy_finish {s c' b tb : Cache} {X : List Row} {now : Int} {K : Key}
    {v1 : Key → Option Entry}
    (hg : Good s) (hg' : Good c')
    (hfacts : CullFacts s.cfg s.env now X tb) (hrows : c'.rows = tb.rows) (hsize : c'.size = tb.size)
    (hu : KeysUnique X) (hnn : ∀ r ∈ X, r.key ≠ .null)
    (hfiles : ∀ p ∈ c'.files, p ∈ b.files) (hnd : (b.files.map (·.1)).Nodup)
    (hl : ∀ k', rf_look X b k' = v1 k')
    (hX : ∀ r ∈ s.rows, keyMatch K.1 K.2 r = false → r ∈ X)
    {w : Int} (hXsz : sumSizes X ≤ s.size + w) :
    ∃ L, rf_Lossy now (L.map rowKey) v1 (rf_view c') ∧ Loss s c' K now L ∧
      (∀ r ∈ L, ∃ e, v1 (rowKey r) = some e ∧ EntOf r e) ∧
      c'.size + sumSizes L ≤ s.size + w := by
  have hsub : ∀ r ∈ c'.rows, r ∈ X := by rw [hrows]; exact hfacts.sub
  have hv : rf_look X b = v1 := funext hl
  obtain ⟨f1, f2, f3, f4⟩ := rf_lost_facts (b := b) (now := now) hu hnn hsub
  refine ⟨lostRows now X c'.rows, ?_, ⟨?_, ?_, ?_, ?_, ?_, f2, f3, f4⟩, ?_⟩
  · rw [← hv]; exact rf_lossy hg' hu hsub hfiles hnd
  · intro _
    have h1 := hfacts.count
    rw [← hrows] at h1
    have h2 : expiredGone s c' K now ≤ (expGone now X c'.rows).length := by
      unfold expiredGone
      apply List.Nodup.length_le_of_subset (hg.tinv.tbl.asc.nodup.sublist List.filter_sublist)
      intro r hr
      obtain ⟨hr1, hr2⟩ := List.mem_filter.1 hr
      simp only [Bool.and_eq_true, Bool.not_eq_true', decide_eq_true_eq] at hr2
      unfold expGone
      exact List.mem_filter.2 ⟨hX r hr1 hr2.1.2, by simp [hr2.1.1, hr2.2]⟩
    omega
  · rw [hrows]; exact hfacts.polNone
  · rw [hrows]; exact hfacts.limZero
  · rw [hrows, hsize]; exact hfacts.vol
  · rw [hrows]; exact hfacts.order
  · refine ⟨?_, ?_⟩
    · intro r hr
      refine ⟨rf_ent b r, ?_, rfl, rfl, rfl, rfl⟩
      rw [← hv]; exact f1 r hr
    · have := hfacts.szle
      rw [← hrows, ← hsize] at this
      exact Int.le_trans this hXsz

theorem loss_nil (c c' : Cache) (K : Key) (now : Int) : Loss c c' K now [] where
  count := fun h => absurd rfl h
  polNone := fun _ => rfl
  limZero := fun _ => rfl
  vol := fun h => absurd rfl h
  order := fun _ h => absurd h List.not_mem_nil
  unexpired := fun _ h => absurd h List.not_mem_nil
  gone := fun _ h => absurd h List.not_mem_nil
  uniq := List.Pairwise.nil

end DC.Cache
