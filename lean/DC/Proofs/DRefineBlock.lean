/-
C11_Refine, model side: what `Deque.append` does inside its transaction block
(`tbegin; push; [pull]; tend`) to the part of the state the file invariants talk
about (`core`, DC/Proofs/Files.lean).

`PI (core s) cl` ("files consistent once the files in `cl` are removed") is stated for a
quiescent state (depth 0, no snapshot, nothing pending).  Inside a block the removals are
deferred (`pending`) and the nesting depth is 1, so the invariant of an in-block state `x` is
`PI (drf_flatC (core x)) x.pending`: the same statement about the state with the block
bookkeeping blanked out, with the deferred removals as the cleanup list.
-/
import DC.Proofs.DequeLemmas
import DC.Proofs.RefineOps
import DC.Properties.C08_Seq

namespace DC.Cache

def drf_flatC (c : Core) : Core := { c with depth := 0, snap := none, pending := [], created := [] }

@[simp] theorem drf_flatC_rows (c : Core) : (drf_flatC c).rows = c.rows := rfl
@[simp] theorem drf_flatC_files (c : Core) : (drf_flatC c).files = c.files := rfl
@[simp] theorem drf_flatC_nfile (c : Core) : (drf_flatC c).nfile = c.nfile := rfl
@[simp] theorem drf_flatC_cfg (c : Core) : (drf_flatC c).cfg = c.cfg := rfl
@[simp] theorem drf_flatC_statistics (c : Core) : (drf_flatC c).statistics = c.statistics := rfl

theorem drf_flatC_setRows (c : Core) (R : List Row) :
    drf_flatC { c with rows := R } = { drf_flatC c with rows := R } := rfl

theorem drf_tbegin_core (s : Cache) (h : Good s) :
    drf_flatC (core s.tbegin) = core s ∧ s.tbegin.depth = 1 ∧ s.tbegin.pending = [] := by
  unfold tbegin
  rw [if_pos (by simp [h.depth])]
  refine ⟨?_, rfl, rfl⟩
  simp only [drf_flatC, core, log]
  rw [h.depth, h.snap, h.pending, h.created]

theorem drf_tend_core (x : Cache) (hd : x.depth = 1) :
    core x.tend = { drf_flatC (core x) with
      files := (core x).files.filter (fun p => !x.pending.contains (some p.1)) } := by
  rw [tend_one x hd]
  have := core_fremoveAll x.pending { (x.log .commit) with depth := 0, snap := none }
  simp only [core, drf_flatC, Core.mk.injEq] at this ⊢
  obtain ⟨h1, h2, h3, h4, h5, h6, h7, h8, h9⟩ := this
  exact ⟨h1, h2, h3, h4, h5, trivial, trivial, h8, h9⟩

theorem drf_traise_core (x : Cache) (p : Snap) (hd : x.depth = 1) (hs : x.snap = some p) :
    core (x.traise 1) = { drf_flatC (core x) with
      rows := p.rows,
      files := (core x).files.filter (fun q => !(x.created.map some).contains (some q.1)) } := by
  rw [traise_outer x 1 p (by omega) (by omega) hs]
  have := core_fremoveAll (x.created.map some) { ((x.restore p).log .rollback) with depth := 0, snap := none }
  simp only [core, drf_flatC, Core.mk.injEq] at this ⊢
  obtain ⟨h1, h2, h3, h4, h5, h6, h7, h8, h9⟩ := this
  exact ⟨h1, h2, h3, h4, h5, trivial, trivial, h8, h9⟩

theorem drf_core_mark (x : Cache) (fresh : Option Nat) : drf_flatC (core (reg x fresh)) = drf_flatC (core x) := by
  cases fresh <;> rfl

theorem drf_cullW_quiet (t : Cache) (now : Int) (h : Quiet t now) :
    core (t.cullW now).1 = core t ∧ (t.cullW now).2 = [] := by
  by_cases h0 : t.cfg.cullLimit = 0
  · have h1 : t.cullW now = (t, []) := by unfold cullW; simp [h0]
    rw [h1]; exact ⟨rfl, rfl⟩
  · rcases h with h | ⟨hp, he⟩
    · exact absurd h h0
    · have hE : t.selExpired now t.cfg.cullLimit = [] := by
        unfold selExpired
        have : t.rows.filter (expired now) = [] :=
          List.filter_eq_nil_iff.2 (fun r hr => by simp [he r hr])
        rw [this]; simp [isort]
      rw [cullW_eq t now h0, hE]
      simp only [List.isEmpty_nil, if_true]
      unfold cullTail
      simp [h0, hp]

theorem drf_store_core {x x1 : Cache} {E : Externals} {v : PyVal} {rd : Bool} {c : Cols}
    (hst : x.store E v rd = .ok (x1, c)) :
    (c.file = none ∧ core x1 = core x) ∨
    (∃ ct, c.file = some x.nfile ∧ c.size = ct.size ∧
      core x1 = { core x with files := x.files ++ [(x.nfile, ct)], nfile := x.nfile + 1 }) := by
  rcases store_ok hst with ⟨rfl, hf⟩ | ⟨ct, rfl, hf, hsz⟩
  · exact .inl ⟨hf, rfl⟩
  · exact .inr ⟨ct, hf, hsz, rfl⟩

theorem drf_store_PI {x x1 : Cache} {E : Externals} {v : PyVal} {rd : Bool} {c : Cols}
    (hst : x.store E v rd = .ok (x1, c)) (h : PI (drf_flatC (core x)) []) :
    PI (drf_flatC (core x1)) [c.file] ∧
    (∀ g, c.file = some g → ∃ ct, (g, ct) ∈ x1.files ∧ ct.size = c.size) := by
  rcases drf_store_core hst with ⟨hf, hc⟩ | ⟨ct, hf, hsz, hc⟩
  · rw [hc, hf]
    exact ⟨h.cl_congr (by simp), by simp⟩
  · rw [hc, hf]
    refine ⟨h.fwrite ct, ?_⟩
    intro g hg
    simp only [Option.some.injEq] at hg
    subst hg
    have : x1.files = x.files ++ [(x.nfile, ct)] := congrArg Core.files hc
    exact ⟨ct, by rw [this]; simp, hsz.symm⟩

theorem drf_mkRow_newRow (s : Cache) (k : SqlVal) (now : Int) (c : Cols) :
    newRow s k true now c = mkRow s.rows k now c := rfl

/-- a `push` that succeeds inside a block, on a table the lazy cull leaves alone: one row is
appended, nothing else in `core` changes (the value file was written by `store`) -/
theorem drf_push_block (x : Cache) (E : Externals) (now : Int) (v : PyVal) (back : Bool)
    (hd : 0 < x.depth) {x1 : Cache} {c : Cols} (hst : x.store E v false = .ok (x1, c)) {num : Int}
    (hn : pushNum x none back = some num) (hsel : x.selKey (queueKey none num) true = none)
    (hb : (colsOf c none now .null).bindable = true) (hbk : bindable (queueKey none num) = true)
    (hq : Quiet x now) :
    core (x.push E now v none back none false .null).1 =
      { core (reg x1 c.file) with
        rows := x.rows ++ [mkRow x.rows (queueKey none num) now (colsOf c none now .null)] } := by
  obtain ⟨h1, h2, h3⟩ := store_spec hst
  rw [push_eq, hst]
  simp only
  rw [transact_inblock _ (by rw [h3]; exact hd)]
  have hy1 : (reg x1 c.file).rows = x.rows := by cases c.file <;> exact h1
  have hy2 : (reg x1 c.file).cfg = x.cfg := by cases c.file <;> exact h2
  have hn' : pushNum (reg x1 c.file) none back = some num := by
    rw [pushNum_congr hy1 hy2]; exact hn
  have hsel' : (reg x1 c.file).selKey (queueKey none num) true = none := by
    rw [selKey_rows hy1]; exact hsel
  have hbody := pushBody_some (now := now) (c := colsOf c none now .null) hn' hsel' hb hbk
  have hbody' : pushBody now none back { c with expT := (none : Option Int).map (now + ·), tag := .null }
      (reg x1 c.file) = _ := hbody
  rw [hbody']
  simp only [if_true]
  have hQ : Quiet (((reg x1 c.file).logSql "selQueueEnd").insRow (queueKey none num) true now
      (colsOf c none now .null)) now := by
    rcases hq with h | ⟨hp, he⟩
    · exact .inl (by show (reg x1 c.file).cfg.cullLimit = 0; rw [hy2]; exact h)
    · refine .inr ⟨by show (reg x1 c.file).cfg.policy = .none; rw [hy2]; exact hp, ?_⟩
      intro r hr
      rw [insRow_rows, logSql_rows, hy1] at hr
      rcases List.mem_append.1 hr with hr | hr
      · exact he r hr
      · simp only [List.mem_singleton] at hr
        subst hr
        rfl
  obtain ⟨hc1, hc2⟩ := drf_cullW_quiet _ now hQ
  rw [hc2]
  simp only [List.append_nil]
  have : ∀ t : Cache, core { t with pending := t.pending } = core t := fun _ => rfl
  rw [this, hc1, core_insRow, drf_mkRow_newRow]
  simp only [core_logSql, core_rows, logSql_rows, hy1]

/-- the deferred removal of a pulled row's value file -/
def drf_fileCl (r : Row) : List (Option Nat) :=
  match r.file with
  | some f => [some f]
  | none => []

theorem drf_pullTake_block (x : Cache) (E : Externals) (r : Row) (hd : 0 < x.depth) :
    core (pullTake x E r) =
      { core x with rows := x.rows.filter (fun a => ![r.rowid].contains a.rowid),
                    pending := x.pending ++ drf_fileCl r } := by
  have h1 : core (pullDel x r []) =
      { core x with rows := x.rows.filter (fun a => ![r.rowid].contains a.rowid) } := by
    unfold pullDel
    rw [transact_inblock _ hd]
    unfold delBody reg
    simp only [if_true, List.append_nil]
    have : ∀ t : Cache, core { t with pending := t.pending } = core t := fun _ => rfl
    rw [this, core_delRow, core_logSql]
    rfl
  have hd2 : 0 < ((pullDel x r []).fetchRow E r false).1.depth := by
    have := congrArg Core.depth ((core_fetchRow (pullDel x r []) E r false).trans h1)
    simp only [core_depth] at this
    rw [this]; exact hd
  unfold pullTake removeCommitted drf_fileCl
  cases hf : r.file with
  | none =>
    simp only [List.append_nil]
    rw [core_fetchRow, h1]
    rfl
  | some f =>
    simp only [hd2, if_true]
    have : ∀ t : Cache, core { t with pending := t.pending ++ [some f] } =
        { core t with pending := (core t).pending ++ [some f] } := fun _ => rfl
    rw [this, core_fetchRow, h1]
    rfl

theorem drf_pull_one (x : Cache) (E : Externals) (now : Int) (front : Bool) (r : Row)
    (hh : qhead x none front = some r) (hlive : expired now r = false)
    (hf : (x.fetchRow E r false).2 ≠ .ioerror) :
    (x.pull E now none front false false).1 = pullTake x E r := by
  unfold pull
  rw [pullLoop_succ]
  simp only [hh, hlive, Bool.false_eq_true, if_false]
  rw [pullDel_fetch x E r]
  split
  · contradiction
  · rfl

theorem drf_pushBody_unbindable (now : Int) (p : Option Str) (back : Bool) (c : Cols) (t : Cache)
    {num : Int} (hn : pushNum t p back = some num) (hsel : t.selKey (queueKey p num) true = none)
    (hb : c.bindable = false) :
    (pushBody now p back c t).ok = false ∧ core (pushBody now p back c t).s = core t ∧
    (pushBody now p back c t).out = .exc "UnicodeEncodeError" := by
  unfold pushBody
  rw [hn]
  have hsel' : ((t.logSql "selQueueEnd").selKey (queueKey p num) true) = none := hsel
  simp only [hsel', Option.isSome_none, Bool.false_eq_true, if_false, hb, Bool.not_false, Bool.true_or,
    if_true]
  exact ⟨trivial, rfl, trivial⟩

theorem drf_push_block_unbindable (x : Cache) (E : Externals) (now : Int) (v : PyVal) (back : Bool)
    (hd : 0 < x.depth) {x1 : Cache} {c : Cols} (hst : x.store E v false = .ok (x1, c)) {num : Int}
    (hn : pushNum x none back = some num) (hsel : x.selKey (queueKey none num) true = none)
    (hb : (colsOf c none now .null).bindable = false) :
    core (x.push E now v none back none false .null).1 = core (reg x1 c.file) ∧
    (x.push E now v none back none false .null).2 = .exc "UnicodeEncodeError" := by
  obtain ⟨h1, h2, h3⟩ := store_spec hst
  rw [push_eq, hst]
  simp only
  rw [transact_inblock _ (by rw [h3]; exact hd)]
  have hy1 : (reg x1 c.file).rows = x.rows := by cases c.file <;> exact h1
  have hy2 : (reg x1 c.file).cfg = x.cfg := by cases c.file <;> exact h2
  have hn' : pushNum (reg x1 c.file) none back = some num := by
    rw [pushNum_congr hy1 hy2]; exact hn
  have hsel' : (reg x1 c.file).selKey (queueKey none num) true = none := by
    rw [selKey_rows hy1]; exact hsel
  have hbody : (pushBody now none back { c with expT := (none : Option Int).map (now + ·), tag := .null }
        (reg x1 c.file)).ok = false ∧ _ ∧ _ :=
    drf_pushBody_unbindable now none back (colsOf c none now .null) (reg x1 c.file) hn' hsel' hb
  rw [if_neg (by rw [hbody.1]; simp)]
  exact hbody.2

structure drf_BI (x : Cache) : Prop where
  depth : x.depth = 1
  pi : PI (drf_flatC (core x)) x.pending
  tinv : TableInv x

theorem drf_BI_tbegin (s : Cache) (h : Good s) : drf_BI s.tbegin ∧ s.tbegin.pending = [] := by
  obtain ⟨h1, h2, h3⟩ := drf_tbegin_core s h
  refine ⟨⟨h2, ?_, tbegin_inv _ h.tinv⟩, h3⟩
  rw [h1, h3]
  exact h.pi

theorem drf_BI_tend (x : Cache) (h : drf_BI x) :
    Good x.tend ∧ core x.tend = { drf_flatC (core x) with
      files := (core x).files.filter (fun p => !x.pending.contains (some p.1)) } := by
  have hc := drf_tend_core x h.depth
  refine ⟨good_of_pi (tend_inv _ h.tinv) ?_, hc⟩
  rw [hc]
  exact PI.finish (cl := x.pending) (extra := []) (by simpa using h.pi)

theorem drf_store_flat {x x1 : Cache} {E : Externals} {v : PyVal} {rd : Bool} {c : Cols}
    (hst : x.store E v rd = .ok (x1, c)) :
    x1.pending = x.pending ∧ x1.depth = x.depth ∧ x1.statistics = x.statistics ∧
    (∀ q ∈ x.files, q ∈ x1.files) := by
  rcases drf_store_core hst with ⟨-, hc⟩ | ⟨ct, -, -, hc⟩
  · exact ⟨congrArg Core.pending hc, congrArg Core.depth hc, congrArg Core.statistics hc,
      fun q hq => by rw [show x1.files = x.files from congrArg Core.files hc]; exact hq⟩
  · exact ⟨congrArg Core.pending hc, congrArg Core.depth hc, congrArg Core.statistics hc,
      fun q hq => by
        rw [show x1.files = x.files ++ [(x.nfile, ct)] from congrArg Core.files hc]
        exact List.mem_append_left _ hq⟩

theorem drf_BI_push_ok (x : Cache) (E : Externals) (now : Int) (v : PyVal) (back : Bool)
    (h : drf_BI x) (hp : x.pending = [])
    {x1 : Cache} {c : Cols} (hst : x.store E v false = .ok (x1, c)) {num : Int}
    (hn : pushNum x none back = some num) (hsel : x.selKey (queueKey none num) true = none)
    (hb : (colsOf c none now .null).bindable = true) (hbk : bindable (queueKey none num) = true)
    (hq : Quiet x now) :
    drf_BI (x.push E now v none back none false .null).1 ∧
    core (x.push E now v none back none false .null).1 =
      { core (reg x1 c.file) with
        rows := x.rows ++ [mkRow x.rows (queueKey none num) now (colsOf c none now .null)] } := by
  have hd : 0 < x.depth := by rw [h.depth]; exact Nat.one_pos
  have hcore := drf_push_block x E now v back hd hst hn hsel hb hbk hq
  obtain ⟨hs1, hs2, hs3⟩ := store_spec hst
  obtain ⟨hf1, hf2, -, -⟩ := drf_store_flat hst
  obtain ⟨hm1, hm2, -⟩ := reg_core_fields x1 c.file
  have hpend : (x.push E now v none back none false .null).1.pending = [] := by
    have := congrArg Core.pending hcore
    simp only [core_pending] at this
    rw [this, hm1, hf1, hp]
  have hdep : (x.push E now v none back none false .null).1.depth = 1 := by
    have := congrArg Core.depth hcore
    simp only [core_depth] at this
    rw [this, hm2, hf2, h.depth]
  refine ⟨⟨hdep, ?_, push_inv _ _ _ _ _ _ _ _ _ h.tinv⟩, hcore⟩
  rw [hpend, hcore, drf_flatC_setRows, drf_core_mark]
  obtain ⟨hP1, hfile⟩ := drf_store_PI hst (by rw [← hp]; exact h.pi)
  have hrows1 : (drf_flatC (core x1)).rows = x.rows := hs1
  have key : ({ drf_flatC (core x1) with
        rows := x.rows ++ [mkRow x.rows (queueKey none num) now (colsOf c none now .null)] } : Core) =
      { drf_flatC (core x1) with
        rows := (drf_flatC (core x1)).rows ++ [mkRow x.rows (queueKey none num) now (colsOf c none now .null)] } := by
    rw [hrows1]
  rw [key]
  refine hP1.ins (cl2 := []) _ ?_ ?_ ?_
  · intro a ha
    rw [hrows1] at ha
    have := le_maxRowid x.rows a ha
    show a.rowid ≠ maxRowid x.rows + 1
    omega
  · intro g hg
    have hg' : c.file = some g := hg
    refine ⟨by rw [hg']; exact List.mem_singleton.2 rfl, ?_⟩
    obtain ⟨ct, h1, h2⟩ := hfile g hg'
    exact ⟨ct, h1, h2⟩
  · intro f
    have hrf : (mkRow x.rows (queueKey none num) now (colsOf c none now .null)).file = c.file := rfl
    rw [hrf]
    exact ⟨fun h => absurd h List.not_mem_nil,
      fun ⟨h1, h2⟩ => absurd (List.mem_singleton.1 h1).symm h2⟩

theorem drf_BI_push_unbindable (x : Cache) (E : Externals) (now : Int) (v : PyVal) (back : Bool)
    (h : drf_BI x) {x1 : Cache} {c : Cols} (hst : x.store E v false = .ok (x1, c)) {num : Int}
    (hn : pushNum x none back = some num) (hsel : x.selKey (queueKey none num) true = none)
    (hfile : c.file = none) (hb : (colsOf c none now .null).bindable = false) :
    drf_BI (x.push E now v none back none false .null).1 ∧
    core (x.push E now v none back none false .null).1 = core x ∧
    (x.push E now v none back none false .null).2 = .exc "UnicodeEncodeError" := by
  have hd : 0 < x.depth := by rw [h.depth]; exact Nat.one_pos
  obtain ⟨hcore, hout⟩ := drf_push_block_unbindable x E now v back hd hst hn hsel hb
  rw [hfile] at hcore
  have hx1 : core x1 = core x := by
    rcases drf_store_core hst with ⟨-, hc⟩ | ⟨ct, hf, -⟩
    · exact hc
    · rw [hfile] at hf; cases hf
  have hc2 : core (x.push E now v none back none false .null).1 = core x := hcore.trans hx1
  refine ⟨⟨?_, ?_, push_inv _ _ _ _ _ _ _ _ _ h.tinv⟩, hc2, hout⟩
  · have := congrArg Core.depth hc2
    simp only [core_depth] at this
    rw [this]; exact h.depth
  · have hp := congrArg Core.pending hc2
    simp only [core_pending] at hp
    rw [hp, hc2]; exact h.pi

theorem drf_BI_pull (x : Cache) (E : Externals) (now : Int) (front : Bool) (r : Row)
    (h : drf_BI x) (hh : qhead x none front = some r) (hlive : expired now r = false)
    (hf : (x.fetchRow E r false).2 ≠ .ioerror) :
    drf_BI (x.pull E now none front false false).1 ∧
    core (x.pull E now none front false false).1 =
      { core x with rows := x.rows.filter (fun a => ![r.rowid].contains a.rowid),
                    pending := x.pending ++ drf_fileCl r } := by
  have hd : 0 < x.depth := by rw [h.depth]; exact Nat.one_pos
  have hcore := drf_pullTake_block x E r hd
  rw [← drf_pull_one x E now front r hh hlive hf] at hcore
  refine ⟨⟨?_, ?_, pull_inv _ _ _ _ _ _ _ h.tinv⟩, hcore⟩
  · have := congrArg Core.depth hcore
    simp only [core_depth] at this
    rw [this]; exact h.depth
  · have hp := congrArg Core.pending hcore
    simp only [core_pending] at hp
    rw [hp, hcore]
    have hr : r ∈ x.rows := (mem_qrows.1 (qhead_mem hh)).1
    have := h.pi.delIn [r] (by intro a ha; simp only [List.mem_singleton] at ha; subst ha; exact hr)
    refine PI.cl_congr (c := _) this ?_
    intro f
    unfold drf_fileCl
    cases hrf : r.file <;> simp [hrf]

end DC.Cache
