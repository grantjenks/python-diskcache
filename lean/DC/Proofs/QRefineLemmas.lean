/-
The cache side of C10_Refine and C10_LooseRefine, common part:
 * queue keys (`isQueueKey`) and the queue filters of DC/Proofs/Queue.lean;
 * `Shrunk c c' f`: "`c'` is `c` with the rows outside `f` (and their files) removed" — what it
   means for the queues, the entries, the view of the ordinary keys, the invariants `QOk` / `QOkL`
   and the relations `QRefines` / `QLoose`;
 * `QKeeps c c' now`: what a call that does not address the queues leaves of them.
-/
import DC.Proofs.QSpecLemmas

namespace DC.Cache
open DC.Spec DC.QSpec

theorem inQueue_eq (p : Option Str) (k : SqlVal) : inQueue p k = kfilter p k := rfl

theorem isQueueKey_of_kfilter {p : Option Str} {k : SqlVal} (h : kfilter p k = true) :
    isQueueKey (k, true) = true := by
  have hq : qfilter p { (default : Row) with key := k, raw := true } = true := qfilter_iff.2 ⟨h, rfl⟩
  unfold isQueueKey
  simp only [Bool.true_and]
  cases p with
  | none =>
    have hc := qfilter_none hq
    simp only at hc
    cases k with
    | text cs => cases hc
    | null => cases hc
    | blob b => cases hc
    | int i => exact h
    | real b => exact h
  | some p =>
    obtain ⟨rest, hr, hl⟩ := qfilter_text hq
    simp only at hr
    subst hr
    simp only [List.length_append, hl, Nat.add_sub_cancel, List.take_left', Bool.and_eq_true,
      decide_eq_true_eq]
    exact ⟨by omega, h⟩

theorem kfilter_of_isQueueKey {k : Spec.Key} (h : isQueueKey k = true) :
    ∃ p, kfilter p k.1 = true ∧ k.2 = true := by
  unfold isQueueKey at h
  simp only [Bool.and_eq_true] at h
  obtain ⟨h1, h2⟩ := h
  split at h2
  · simp only [Bool.and_eq_true] at h2
    exact ⟨_, h2.2, h1⟩
  · exact ⟨none, h2, h1⟩

theorem isQueueKey_sameKey {a b : Spec.Key} (h : sameKey a b = true) : isQueueKey a = isQueueKey b := by
  simp only [sameKey, Bool.and_eq_true, beq_iff_eq] at h
  obtain ⟨he, hr⟩ := h
  have key : ∀ a b : Spec.Key, a.1.eqv b.1 = true → a.2 = b.2 → isQueueKey a = true → isQueueKey b = true := by
    intro a b he hr ha
    obtain ⟨p, hp, h2⟩ := kfilter_of_isQueueKey ha
    have := isQueueKey_of_kfilter (kfilter_eqv (SqlVal.eqv_symm _ _ he) hp)
    have hb : b = (b.1, true) := by rw [← hr.symm.trans h2]
    rw [hb]; exact this
  cases h1 : isQueueKey a <;> cases h2 : isQueueKey b <;> try rfl
  · rw [key b a (SqlVal.eqv_symm _ _ he) hr.symm h2] at h1; cases h1
  · rw [key a b he hr h1] at h2; cases h2

theorem keyMatch_ordinary {k : Spec.Key} (hk : isQueueKey k = false) {p : Option Str} {r : Row}
    (hr : qfilter p r = true) : keyMatch k.1 k.2 r = false := by
  cases h : keyMatch k.1 k.2 r with
  | false => rfl
  | true =>
    obtain ⟨h1, h2⟩ := qfilter_iff.1 hr
    have hs : sameKey (r.key, r.raw) k = true := h
    have := isQueueKey_sameKey hs
    rw [hk, h2, isQueueKey_of_kfilter h1] at this
    cases this

structure Shrunk (c c' : Cache) (f : Row → Bool) : Prop where
  good : Good c'
  rows : c'.rows = c.rows.filter f
  cfg : c'.cfg = c.cfg
  files : ∀ p ∈ c'.files, p ∈ c.files

theorem Shrunk.refl {c : Cache} (hg : Good c) : Shrunk c c (fun _ => true) :=
  ⟨hg, (filter_true' _).symm, rfl, fun _ h => h⟩

theorem Shrunk.of_core {c c' : Cache} (hg' : Good c') (h : core c' = core c) : Shrunk c c' (fun _ => true) := by
  refine ⟨hg', ?_, congrArg Core.cfg h, ?_⟩
  · rw [filter_true']; exact congrArg Core.rows h
  · intro p hp
    have : c'.files = c.files := congrArg Core.files h
    rw [← this]; exact hp

/-- one row and its file are removed, as by `delRow` and the removal of the row's value file -/
theorem Shrunk.of_del {s t : Cache} {r : Row} {R : List Row} (hg' : Good t)
    (hrows : t.rows = s.rows.filter (fun x => x.rowid != r.rowid))
    (hc : core t = { core s with rows := R,
                                 files := s.files.filter (fun q => ![r.file].contains (some q.1)) }) :
    Shrunk s t (fun x => x.rowid != r.rowid) := by
  refine ⟨hg', hrows, congrArg Core.cfg hc, fun q hq => ?_⟩
  have : t.files = s.files.filter (fun q => ![r.file].contains (some q.1)) := congrArg Core.files hc
  rw [this] at hq
  exact (List.mem_filter.1 hq).1

theorem Shrunk.trans {a b c : Cache} {f g : Row → Bool} (h1 : Shrunk a b f) (h2 : Shrunk b c g) :
    Shrunk a c (fun x => f x && g x) := by
  refine ⟨h2.good, ?_, h2.cfg.trans h1.cfg, fun p hp => h1.files p (h2.files p hp)⟩
  rw [h2.rows, h1.rows, List.filter_filter]
  apply List.filter_congr
  intro x _
  exact Bool.and_comm _ _

theorem Shrunk.sub {c c' : Cache} {f : Row → Bool} (h : Shrunk c c' f) : ∀ r ∈ c'.rows, r ∈ c.rows := by
  intro r hr; rw [h.rows] at hr; exact (List.mem_filter.1 hr).1

theorem Shrunk.ent {c c' : Cache} {f : Row → Bool} (hg : Good c) (h : Shrunk c c' f) :
    ∀ r ∈ c'.rows, rf_ent c' r = rf_ent c r :=
  fun _ hr => rf_ent_mono h.files hg.finv.nodup (rf_good_ref h.good hr)

theorem Shrunk.qrows {c c' : Cache} {f : Row → Bool} (hg : Good c) (h : Shrunk c c' f)
    (p : Option Str) : c'.queueRows p = (c.queueRows p).filter f := by
  rw [queueRows_eq, queueRows_eq, h.rows, qrows_filter hg.tinv.tbl.uniq hg.tinv.tbl.nonnull]

theorem Shrunk.queue_sub {c c' : Cache} {f : Row → Bool} (hg : Good c) (h : Shrunk c c' f)
    (p : Option Str) : ∀ r ∈ c'.queueRows p, r ∈ c.queueRows p := by
  intro r hr
  rw [h.qrows hg] at hr
  exact (List.mem_filter.1 hr).1

theorem itemOfRow_congr {a b : Cache} {r : Row} (h : rf_ent a r = rf_ent b r) :
    itemOfRow a r = itemOfRow b r := by
  unfold itemOfRow
  rw [entryOfRow_eq, entryOfRow_eq, h]

/-- equal entries on the queue rows give the same abstract queue -/
theorem absQueue_congr {c' b : Cache} {p : Option Str}
    (hent : ∀ r ∈ c'.queueRows p, rf_ent c' r = rf_ent b r) :
    absQueue c' p = (c'.queueRows p).map (itemOfRow b) :=
  List.map_congr_left (fun r hr => itemOfRow_congr (hent r hr))

theorem Shrunk.queue_ent {c c' : Cache} {f : Row → Bool} (hg : Good c) (h : Shrunk c c' f)
    (p : Option Str) : ∀ r ∈ c'.queueRows p, rf_ent c' r = rf_ent c r :=
  fun r hr => h.ent hg r (mem_qrows.1 hr).1

theorem absQueue_shrunk {c c' : Cache} {f : Row → Bool} (hg : Good c) (h : Shrunk c c' f) (p : Option Str) :
    absQueue c' p = (c'.queueRows p).map (itemOfRow c) :=
  absQueue_congr (h.queue_ent hg p)

theorem Shrunk.absQ {c c' : Cache} {f : Row → Bool} (hg : Good c) (h : Shrunk c c' f)
    (p : Option Str) : absQueue c' p = ((c.queueRows p).filter f).map (itemOfRow c) := by
  rw [absQueue_shrunk hg h, h.qrows hg]

theorem Shrunk.absQ_same {c c' : Cache} {f : Row → Bool} (hg : Good c) (h : Shrunk c c' f)
    (p : Option Str) (hf : ∀ r ∈ c.queueRows p, f r = true) : absQueue c' p = absQueue c p := by
  rw [h.absQ hg, List.filter_eq_self.2 hf]; rfl

theorem Shrunk.view {c c' : Cache} {f : Row → Bool} (hg : Good c) (h : Shrunk c c' f) (k : Spec.Key)
    (hf : ∀ r ∈ c.rows, keyMatch k.1 k.2 r = true → f r = true) : rf_view c' k = rf_view c k := by
  rw [rf_same h.good h.files hg.finv.nodup, h.rows, rf_look_filter hg.tinv.tbl.uniq]
  unfold rf_view rf_look
  cases hfd : c.rows.find? (keyMatch k.1 k.2) with
  | none => rfl
  | some x =>
    have := hf x (List.mem_of_find?_eq_some hfd) (List.find?_some hfd)
    simp [Option.filter, this]

theorem Shrunk.view_filter {c c' : Cache} {f : Row → Bool} (hg : Good c) (h : Shrunk c c' f) (k : Spec.Key) :
    rf_view c' k = ((c.rows.find? (keyMatch k.1 k.2)).filter f).map (rf_ent c) := by
  rw [rf_same h.good h.files hg.finv.nodup, h.rows, rf_look_filter hg.tinv.tbl.uniq]

theorem QOkL.le {c : Cache} {a b : Nat} (h : QOkL c a) (hab : b ≤ a) : QOkL c b :=
  { h with
    room := fun p r hr k hk => by
      have := h.room p r hr k hk
      constructor <;> omega
    originN := by
      have := h.originN
      constructor <;> omega }

theorem QOkL.of_rows {c c' : Cache} {a b : Nat} (hok : QOkL c a) (hab : b ≤ a) (hg' : Good c')
    (hcfg : c'.cfg = c.cfg)
    (h : ∀ p, ∀ r ∈ c'.queueRows p,
      (r ∈ c.queueRows p ∧ entryOfRow c' r = entryOfRow c r) ∨
      (∃ k, queueNum r.key = some k ∧ queueKey p k = r.key ∧ 1 + (b : Int) ≤ k ∧
        k + (b : Int) ≤ 999999999999998 ∧ drf_Readable (entryOfRow c' r))) : QOkL c' b := by
  have hb := hok.le hab
  refine ⟨hg', by rw [hcfg]; exact hb.pol, by rw [hcfg]; exact hb.page, ?_, ?_,
    by unfold OriginOk; rw [hcfg]; exact hb.origin, by rw [hcfg]; exact hb.originN, ?_⟩
  · intro p r hr
    rcases h p r hr with ⟨h1, -⟩ | ⟨k, h1, h2, h3, h4, -⟩
    · exact hb.qok p r h1
    · exact ⟨k, h1, h2, by omega, by omega⟩
  · intro p r hr k hk
    rcases h p r hr with ⟨h1, -⟩ | ⟨k', h1, -, h3, h4, -⟩
    · exact hb.room p r h1 k hk
    · rw [h1] at hk; cases hk; exact ⟨h3, h4⟩
  · intro p r hr
    rcases h p r hr with ⟨h1, h2⟩ | ⟨_, -, -, -, -, h5⟩
    · rw [h2]; exact hb.readable p r h1
    · exact h5

theorem QOkL.shrunk {c c' : Cache} {f : Row → Bool} {n : Nat} (hok : QOkL c n) (h : Shrunk c c' f) :
    QOkL c' n := by
  refine hok.of_rows (Nat.le_refl n) h.good h.cfg (fun p r hr => .inl ⟨h.queue_sub hok.good p r hr, ?_⟩)
  rw [entryOfRow_eq, entryOfRow_eq, h.queue_ent hok.good p r hr]

theorem QOk.shrunk {c c' : Cache} {f : Row → Bool} {n : Nat} (hok : QOk c n) (h : Shrunk c c' f) :
    QOk c' n :=
  QOk.ofL (hok.toL.shrunk h) (by
    rw [h.cfg]
    exact hok.quiet.imp id (fun h0 p r hr => h0 p r (h.queue_sub hok.good p r hr)))

theorem QOk.le {c : Cache} {a b : Nat} (h : QOk c a) (hab : b ≤ a) : QOk c b :=
  QOk.ofL (h.toL.le hab) h.quiet

theorem holdsKey_shrunk {c c' : Cache} {f : Row → Bool} {d : Dict} {clock now : Int}
    (hg : Good c) (hd : ∀ k : Spec.Key, isQueueKey k = false → HoldsKey c k (d.get k) clock)
    (hn : clock ≤ now) (h : Shrunk c c' f)
    (hf : ∀ r ∈ c.rows, (∀ p, r ∉ c.queueRows p) → f r = true) :
    ∀ k : Spec.Key, isQueueKey k = false → HoldsKey c' k (d.get k) now := by
  intro k hk
  rw [holdsKey_iff]
  have h0 := (holdsKey_iff _ _ _ _).1 (hd k hk)
  rw [h.view hg k]
  · exact rf_VRel_mono h0 hn
  · intro r hr' hm
    apply hf r hr'
    intro p hp
    rw [queueRows_eq] at hp
    have := keyMatch_ordinary hk (mem_qrows.1 hp).2
    rw [hm] at this; cases this

theorem holdsKey_mono {c : Cache} {k : Spec.Key} {d : Option Spec.Entry} {clock now : Int}
    (h : HoldsKey c k d clock) (hn : clock ≤ now) : HoldsKey c k d now :=
  (holdsKey_iff _ _ _ _).2 (rf_VRel_mono ((holdsKey_iff _ _ _ _).1 h) hn)

theorem QRefines.mono {c : Cache} {q : QSpec.State} {clock now : Int} (h : QRefines c q clock)
    (hn : clock ≤ now) : QRefines c q now :=
  ⟨h.queues, h.wf, h.ord, fun k hk => holdsKey_mono (h.dict k hk) hn⟩

theorem QRefines.loose {c : Cache} {q : QSpec.State} {clock : Int} (h : QRefines c q clock) :
    QLoose c q clock :=
  ⟨fun p => by rw [h.queues p]; exact Thinned.refl _ _, h.wf, h.ord, h.dict⟩

theorem QLoose.vrel {c : Cache} {q : QSpec.State} {clock : Int} (h : QLoose c q clock) :
    ∀ k, isQueueKey k = false → rf_VRel (rf_view c k) (q.dict.get k) clock :=
  fun k hk => (holdsKey_iff _ _ _ _).1 (h.dict k hk)

theorem QLoose.mono {c : Cache} {q : QSpec.State} {clock now : Int} (h : QLoose c q clock)
    (hn : clock ≤ now) : QLoose c q now :=
  ⟨fun p => (h.queues p).mono hn, h.wf, h.ord, fun k hk => holdsKey_mono (h.dict k hk) hn⟩

theorem rows_num_inj {R : List Row} (hu : KeysUnique R) (hn : ∀ r ∈ R, r.key ≠ .null) (p : Option Str)
    {L : List Row} (hsub : ∀ r ∈ L, r ∈ R)
    (hk : ∀ r ∈ L, r.raw = true ∧ ∃ m, queueNum r.key = some m ∧ queueKey p m = r.key) :
    ∀ x ∈ L, ∀ y ∈ L, (queueNum x.key).getD 0 = (queueNum y.key).getD 0 → x = y := by
  intro x hx y hy he
  obtain ⟨rx, mx, h1, h2⟩ := hk x hx
  obtain ⟨ry, my, h3, h4⟩ := hk y hy
  rw [h1, h3] at he
  simp only [Option.getD_some] at he
  subst he
  have hkey : x.key = y.key := by rw [← h2, ← h4]
  have hsx : keyMatch x.key true x = true := by simp [keyMatch, eqv_self (hn x (hsub x hx)), rx]
  have hsy : keyMatch x.key true y = true := by
    rw [hkey]; simp [keyMatch, eqv_self (hn y (hsub y hy)), ry]
  exact keysUnique_eq hu (hsub x hx) (hsub y hy) hsx hsy

/-- a queue of `c'` that is `L` without the rows outside `g`, every entry read as in `b` -/
theorem culled_queue {c' b : Cache} {R L : List Row} {p : Option Str} {g : Row → Bool} {lim : Nat}
    {now : Int} (hu : KeysUnique R) (hnn : ∀ r ∈ R, r.key ≠ .null) (hsub : ∀ r ∈ L, r ∈ R)
    (hk : ∀ r ∈ L, r.raw = true ∧ ∃ m, queueNum r.key = some m ∧ queueKey p m = r.key)
    (hQ : c'.queueRows p = L.filter g) (hent : ∀ r ∈ c'.queueRows p, rf_ent c' r = rf_ent b r)
    (hg : ∀ x ∈ L, g x = false → expired now x = true ∧ lim ≠ 0) :
    Culled lim now (absQueue c' p) (L.map (itemOfRow b)) := by
  rw [absQueue_congr hent, hQ]
  refine ⟨thinned_map_filter now L _ g ?_ (fun x hx hgx => (hg x hx hgx).1), fun h0 => ?_⟩
  · intro x hx y hy hxy
    exact rows_num_inj hu hnn p hsub hk x hx y hy (congrArg Item.num hxy)
  · rw [List.filter_eq_self.2]
    intro x hx
    cases hgx : g x with
    | true => rfl
    | false => exact absurd h0 (hg x hx hgx).2

theorem qr_other_rowid {s : Cache} (hg : Good s) {r x : Row} (hr : r ∈ s.rows) (hx : x ∈ s.rows)
    (hne : x ≠ r) : (x.rowid != r.rowid) = true := by
  simp only [bne_iff_ne, ne_eq]
  intro e
  exact hne (hg.tinv.tbl.asc.inj x hx r hr e)

theorem absQueue_shrunk_other {c c' : Cache} {f : Row → Bool} {p p' : Option Str} (hg : Good c)
    (hsh : Shrunk c c' f) (hf : ∀ x ∈ c.rows, x ∉ c.queueRows p → f x = true) (hp : p ≠ p') :
    absQueue c' p' = absQueue c p' := by
  apply hsh.absQ_same hg
  intro r hr'
  have hrr : r ∈ c.rows := by rw [queueRows_eq] at hr'; exact (mem_qrows.1 hr').1
  apply hf r hrr
  intro hc
  rw [queueRows_eq] at hc hr'
  exact qrows_disjoint hp hc hr'

theorem qrefines_shrunk_put {c c' : Cache} {f : Row → Bool} {q : QSpec.State} {clock now : Int}
    {n : Nat} {p : Option Str} (hok : QOk c n) (hr : QRefines c q clock) (hn : clock ≤ now)
    (hsh : Shrunk c c' f) (hf : ∀ x ∈ c.rows, x ∉ c.queueRows p → f x = true)
    (l : List Item) (hl : absQueue c' p = l) :
    QRefines c' { q with queues := q.queues.put p l } now := by
  have hg := hok.good
  refine ⟨?_, hr.wf, hr.ord, holdsKey_shrunk hg hr.dict hn hsh (fun r hr' h => hf r hr' (h p))⟩
  intro p'
  show _ = (q.queues.put p l).get p'
  rw [get_put]
  by_cases hp : p = p'
  · subst hp; rw [if_pos rfl]; exact hl
  · rw [if_neg hp, ← hr.queues p']
    exact absQueue_shrunk_other hg hsh hf hp

theorem qloose_shrunk_put {c c' : Cache} {f : Row → Bool} {q : QSpec.State} {clock now : Int}
    {n : Nat} {p : Option Str} (hok : QOkL c n) (hr : QLoose c q clock) (hn : clock ≤ now)
    (hsh : Shrunk c c' f) (hf : ∀ x ∈ c.rows, x ∉ c.queueRows p → f x = true)
    (l : List Item) (hl : Thinned now (absQueue c' p) l) :
    QLoose c' { q with queues := q.queues.put p l } now := by
  have hg := hok.good
  refine ⟨?_, hr.wf, hr.ord, holdsKey_shrunk hg hr.dict hn hsh (fun r hr' h => hf r hr' (h p))⟩
  intro p'
  show Thinned now _ ((q.queues.put p l).get p')
  rw [get_put]
  by_cases hp : p = p'
  · subst hp; rw [if_pos rfl]; exact hl
  · rw [if_neg hp, absQueue_shrunk_other hg hsh hf hp]
    exact (hr.queues p').mono hn

/-- the queues after a call at `now` that does not address them: each is what the lazy cull of a
write leaves of it (all of it after a call that does not cull); its rows are rows it had, and
denote what they denoted -/
structure QKeeps (c c' : Cache) (now : Int) : Prop where
  good : Good c'
  cfg : c'.cfg = c.cfg
  queues : ∀ p, Culled c.cfg.cullLimit now (absQueue c' p) (absQueue c p)
  rows : ∀ p, ∀ r ∈ c'.queueRows p, r ∈ c.queueRows p ∧ entryOfRow c' r = entryOfRow c r

theorem QKeeps.refl {c : Cache} (hg : Good c) (now : Int) : QKeeps c c now :=
  ⟨hg, rfl, fun _ => Culled.refl _ _ _, fun _ _ hr => ⟨hr, rfl⟩⟩

theorem QKeeps.of_shrunk {c c' : Cache} {f : Row → Bool} (hg : Good c) (hsh : Shrunk c c' f)
    (hfq : ∀ p, ∀ r ∈ c.queueRows p, f r = true) (now : Int) : QKeeps c c' now := by
  refine ⟨hsh.good, hsh.cfg, fun p => ?_, fun p r hr => ⟨hsh.queue_sub hg p r hr, ?_⟩⟩
  · rw [hsh.absQ_same hg p (hfq p)]; exact Culled.refl _ _ _
  · rw [entryOfRow_eq, entryOfRow_eq, hsh.queue_ent hg p r hr]

theorem QKeeps.okL {c c' : Cache} {now : Int} {n : Nat} (h : QKeeps c c' now) (hok : QOkL c n) :
    QOkL c' n :=
  hok.of_rows (Nat.le_refl n) h.good h.cfg (fun p r hr => .inl (h.rows p r hr))

theorem QKeeps.ok {c c' : Cache} {now : Int} {n : Nat} (h : QKeeps c c' now) (hok : QOk c n) :
    QOk c' n :=
  QOk.ofL (h.okL hok.toL)
    (by rw [h.cfg]; exact hok.quiet.imp id (fun h0 p r hr => h0 p r (h.rows p r hr).1))

/-- under `QOk` (`quiet`) the lazy cull removes no queue row: the queues are what they were -/
theorem QKeeps.absQ {c c' : Cache} {now : Int} {n : Nat} (h : QKeeps c c' now) (hok : QOk c n)
    (p : Option Str) : absQueue c' p = absQueue c p := by
  refine (h.queues p).eq (hok.quiet.imp id (fun h0 it hit => ?_))
  obtain ⟨r, hr, rfl⟩ := List.mem_map.1 hit
  exact h0 p r hr

theorem QKeeps.loose {c c' : Cache} {q : QSpec.State} {clock now : Int} (h : QKeeps c c' now)
    (hr : QLoose c q clock) (hn : clock ≤ now) (d' : Dict) (hwf : d'.WF)
    (hord : ∀ b ∈ d', isQueueKey b.1 = false)
    (hdict : ∀ k, isQueueKey k = false → rf_VRel (rf_view c' k) (d'.get k) now) :
    QLoose c' { q with dict := d' } now :=
  ⟨fun p => (h.queues p).1.trans ((hr.queues p).mono hn), hwf, hord,
    fun k hk => (holdsKey_iff _ _ _ _).2 (hdict k hk)⟩

theorem QKeeps.refines {c c' : Cache} {q q' : QSpec.State} {clock now : Int} {n : Nat}
    (h : QKeeps c c' now) (hok : QOk c n) (hr : QRefines c q clock) (hl : QLoose c' q' now)
    (hq : q'.queues = q.queues) : QRefines c' q' now ∧ QOk c' n :=
  ⟨⟨fun p => by rw [hq]; exact (h.absQ hok p).trans (hr.queues p), hl.wf, hl.ord, hl.dict⟩, h.ok hok⟩

theorem qloose_shrunk_id {c c' : Cache} {f : Row → Bool} {q : QSpec.State} {clock now : Int}
    (hg : Good c) (hr : QLoose c q clock) (hn : clock ≤ now)
    (hsh : Shrunk c c' f) (hf : ∀ x ∈ c.rows, f x = true) : QLoose c' q now ∧ QKeeps c c' now := by
  have hk := QKeeps.of_shrunk hg hsh
    (fun p r hr' => hf r (by rw [queueRows_eq] at hr'; exact (mem_qrows.1 hr').1)) now
  exact ⟨⟨fun p => (hk.queues p).1.trans ((hr.queues p).mono hn), hr.wf, hr.ord,
    holdsKey_shrunk hg hr.dict hn hsh (fun r hr' _ => hf r hr')⟩, hk⟩

end DC.Cache
