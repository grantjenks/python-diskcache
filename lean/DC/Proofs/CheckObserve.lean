/-
helpers for C08_Check: (1) on a directory whose rows, files and counters agree, `check` is its
directory walk and nothing else; (2) `Good` depends only on the rows, the files and the
transaction bookkeeping, so the read-only calls keep it.
-/
import DC.Proofs.CheckLemmas
import DC.Proofs.Files
import DC.Model.Run

namespace DC.Check

/-- `Clean` (Properties/C17.lean) without its two clauses about empty directories -/
structure ItemsClean (s : St) : Prop where
  ref : ∀ r ∈ s.rows, ∀ f, r.file = some f → ∃ ff ∈ s.files, ff.id = f ∧ ff.size = r.size
  known : ∀ ff ∈ s.files, ff.db = false → ∃ r ∈ s.rows, r.file = some ff.id
  count : s.count = s.rows.length
  size : s.size = sumSizes s.rows

theorem rows'_of_itemsClean (s : St) (fnd : (s.files.map (·.id)).Nodup) (c : ItemsClean s) :
    rows' s = s.rows := by
  apply filterMap_eq_self
  intro r hr
  cases hf : r.file with
  | none => exact fixRow_none hf
  | some f =>
    obtain ⟨ff, hm, hid, hsz⟩ := c.ref r hr f hf
    have := find_id_of_mem fnd hm
    rw [hid] at this
    rw [fixRow_found hf this, hsz]

theorem files'_of_itemsClean (s : St) (c : ItemsClean s) : files' s = s.files := by
  apply filter_eq_self'
  intro f hf
  cases hdb : f.db with
  | true => simp
  | false =>
    obtain ⟨r, hr, e⟩ := c.known f hf hdb
    simp only [Bool.or_false, List.contains_eq_mem, List.mem_filterMap, decide_eq_true_eq]
    exact ⟨r, hr, e⟩

theorem check_of_itemsClean (s : St) (nd : (s.rows.map (·.rowid)).Nodup)
    (fnd : (s.files.map (·.id)).Nodup) (c : ItemsClean s) :
    (check false s).2 = (dirPass false s).2 ∧ check true s = dirPass true s := by
  have er := rows'_of_itemsClean s fnd c
  have ef := files'_of_itemsClean s c
  have hR : rowWarns s.files s.rows = [] := by
    rw [rowWarns_nil_iff]
    intro r hr f hf
    obtain ⟨ff, hm, hid, hsz⟩ := c.ref r hr f hf
    have := find_id_of_mem fnd hm
    rw [hid] at this
    exact ⟨ff, this, hsz⟩
  have hU : (filePass false (s.rows.filterMap (·.file)) s).2 = [] := (filePass_nil_iff false s).2 c.known
  have hC : counterWarns s.count s.size s.rows = [] := counterWarns_nil_iff.2 ⟨c.count, c.size⟩
  constructor
  · rw [check_false_snd', hR, hU, hC]; simp
  · apply Prod.ext
    · show (check true s).1 = (dirPass true s).1
      rw [check_true_fst' s nd, dirPass_fst_true, er, ← c.count, ← c.size]
      have e2 : dirs2' s = s.dirs2.filter (fun d => !dir2Empty s d) := by
        simp only [dirs2', ef, dir2Empty, Bool.not_not]
      have e1 : dirs1' s = s.dirs1.filter (fun d =>
          (s.dirs2.filter (fun d => !dir2Empty s d)).any (·.1 == d) || s.files.any (·.under d)) := by
        simp only [dirs1', e2, ef]
      rw [e1, e2, ef]
    · show (check true s).2 = (dirPass true s).2
      obtain ⟨c', z', hc', hz', e⟩ := check_true_snd_exact s nd
      have es : ({ s with files := files' s } : St) = s := by rw [ef]
      rw [e, hR, hU, es, er]
      have : counterWarns c' z' s.rows = [] := by
        rw [counterWarns_nil_iff]
        rw [er] at hc' hz'
        have := c.count; have := c.size
        constructor <;> omega
      simp [this]

theorem dirPass_true_removed (s : St) :
    (dirPass true s).1.rows = s.rows ∧ (dirPass true s).1.count = s.count ∧
    (dirPass true s).1.size = s.size ∧ (dirPass true s).1.files = s.files ∧
    (∀ d ∈ s.dirs2, d ∉ (dirPass true s).1.dirs2 ↔ Warn.emptyDir2 d.1 d.2 ∈ (dirPass true s).2) ∧
    (∀ d ∈ s.dirs1, d ∉ (dirPass true s).1.dirs1 ↔ Warn.emptyDir1 d ∈ (dirPass true s).2) ∧
    (∀ d ∈ (dirPass true s).1.dirs2, d ∈ s.dirs2) ∧ (∀ d ∈ (dirPass true s).1.dirs1, d ∈ s.dirs1) := by
  rw [dirPass_fst_true, dirPass_snd_true]
  refine ⟨rfl, rfl, rfl, rfl, ?_, ?_, fun d hd => (List.mem_filter.1 hd).1, fun d hd => (List.mem_filter.1 hd).1⟩
  · intro d hd
    simp only [List.mem_filter, hd, true_and, List.mem_append, List.mem_map, reduceCtorEq, and_false,
      exists_false, or_false, Warn.emptyDir2.injEq]
    constructor
    · intro h
      exact ⟨d, ⟨hd, by simpa using h⟩, rfl, rfl⟩
    · rintro ⟨d', ⟨_, he⟩, e1, e2⟩
      have : d' = d := Prod.ext e1 e2
      subst this
      simpa using he
  · intro d hd
    simp only [List.mem_filter, hd, true_and, List.mem_append, List.mem_map, reduceCtorEq, and_false,
      exists_false, false_or, Warn.emptyDir1.injEq, exists_eq_right]
    constructor
    · intro h
      simpa using h
    · intro h
      simpa using h

end DC.Check

namespace DC.Cache

theorem good_of_same {s t : Cache} (hg : Good s) (ht : TableInv t)
    (h1 : t.rows = s.rows) (h2 : t.files = s.files) (h3 : t.nfile = s.nfile) (h4 : t.depth = s.depth)
    (h5 : t.snap = s.snap) (h6 : t.pending = s.pending) (h7 : t.created = s.created) : Good t := by
  refine ⟨ht, ⟨?_, ?_, ?_, ?_⟩, ?_, by rw [h4]; exact hg.depth, by rw [h5]; exact hg.snap,
    by rw [h6]; exact hg.pending, by rw [h7]; exact hg.created⟩
  · intro r hr f hf
    rw [h1] at hr
    have : t.fileGet f = s.fileGet f := by unfold fileGet; rw [h2]
    rw [this]
    exact hg.finv.ref r hr f hf
  · rw [h1]; exact hg.finv.inj
  · rw [h2, h3]; exact hg.finv.fresh
  · rw [h2]; exact hg.finv.nodup
  · intro p hp
    rw [h2] at hp
    rw [h1]
    exact hg.noOrphan p hp

theorem good_of_core {s t : Cache} (hg : Good s) (ht : TableInv t) (hc : core t = core s) : Good t := by
  simp only [core, Core.mk.injEq] at hc
  obtain ⟨h1, h2, h3, h4, h5, h6, h7, -, -⟩ := hc
  exact good_of_same hg ht h1 h2 h3 h4 h5 h6 h7

end DC.Cache
