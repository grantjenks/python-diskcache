/-
C03_Lossy, model side: `get` under an eviction policy.  Under `lru` / `lfu` a
successful `get` rewrites the policy column (access_time / access_count) of the
row it read; the *view* of the state (`rf_view`: key ↦ entry) does not see
these columns, so `get` leaves the view alone under every policy.  And the
dictionary side of a write followed by the lazy cull (`rf_wrote_refines`).
-/
import DC.Proofs.RefineCfg
import DC.Proofs.LossyLemmas

namespace DC.Cache
open DC.Spec

/-- a row without its policy bookkeeping (access time, access count) -/
def stripRow (r : Row) : Row := { r with accT := 0, accN := 0 }

theorem rf_ent_strip (c : Cache) (r : Row) : rf_ent c (stripRow r) = rf_ent c r := rfl

theorem rf_ent_touchPolicy (c : Cache) (p : Policy) (now : Int) (r : Row) :
    rf_ent c (touchPolicy p now r) = rf_ent c r := by
  cases p <;> rfl

theorem rf_view_touchCore {a s : Cache} {id : Nat} {now : Int}
    (h : core a = rf_touchCore (core s) id now) (k : Key) : rf_view a k = rf_view s k := by
  have hr : a.rows = s.rows.map (fun r => if r.rowid == id then touchPolicy s.cfg.policy now r else r) :=
    congrArg Core.rows h
  have hf : a.files = s.files := congrArg Core.files h
  have hent : ∀ r, rf_ent a r = rf_ent s r := by
    intro r; unfold rf_ent fileGet; rw [hf]
  unfold rf_view
  rw [hr, rf_look_map _ _ _ (fun r => by split <;> simp)]
  unfold rf_look
  cases s.rows.find? (keyMatch k.1 k.2) with
  | none => rfl
  | some r =>
    simp only [Option.map_some, hent]
    split
    · rw [rf_ent_touchPolicy]
    · rfl

theorem rf_get_view (s : Cache) (E : Externals) (now : Int) (k : PyVal) (read et tg : Bool)
    (_hg : Good s) (k' : Key) :
    rf_view (s.get E now k read et tg).1 k' = rf_view s k' := by
  rcases rf_get_state s E now k read et tg with h | ⟨-, id, h⟩
  · exact rf_view_core h k'
  · exact rf_view_touchCore h k'

/-! ### a write followed by the lazy cull, against the dictionary -/

theorem rf_expired_of_EntOf {r : Row} {e : Entry} {now : Int} (h : EntOf r e) :
    e.expired now = expired now r := by
  unfold Entry.expired expired
  rw [h.2.2.1]
  cases r.expT <;> rfl

/-- the cache wrote `e` under `K` and culled; the dictionary wrote `e` under `K`: the states
correspond once the keys of the evicted rows are dropped from the dictionary -/
theorem rf_wrote_refines {s c' : Cache} {m : Dict} {K : Key} {clock now : Int} {e : Entry}
    (hr : m.WF ∧ ∀ k, rf_VRel (rf_view s k) (m.get k) clock) (hn : clock ≤ now)
    (hW : rf_Wrote s c' K now e) :
    ∃ L, ((dropKeys (m.put K e) (L.map rowKey)).WF ∧
        ∀ k, rf_VRel (rf_view c' k) ((dropKeys (m.put K e) (L.map rowKey)).get k) now) ∧
      Loss s c' K now L ∧
      (∀ r ∈ L, ∃ e', (m.put K e).get (rowKey r) = some e' ∧ EntOf r e' ∧ e'.expired now = false) ∧
      c'.size + sumSizes L ≤ s.size + entrySize e := by
  obtain ⟨L, h1, h2, h3, h4⟩ := hW
  have hv1 : ∀ k, rf_VRel (rf_at K (some e) (rf_view s) k) ((m.put K e).get k) now :=
    rf_assemble (upd := fun _ => some e) hr.2 hn (rf_Culled_refl _ _)
      (fun k' => rf_get_put _ _ _ _) (fun _ _ _ => rf_VRel_refl _ _)
  refine ⟨L, ⟨rf_wf_dropKeys (rf_wf_put hr.1 _ _) _, rf_VRel_lossy h1 hv1⟩, h2, ?_, h4⟩
  intro r hr'
  obtain ⟨e', he', hent⟩ := h3 r hr'
  refine ⟨e', rf_VRel_some (hv1 (rowKey r)) he', hent, ?_⟩
  rw [rf_expired_of_EntOf hent]
  exact h2.unexpired r hr'

/-- nothing evicted, the view related to `m'`: the `[]`-lossy statement -/
theorem rf_same_refines {c' : Cache} {m' : Dict} {now : Int}
    (h : m'.WF ∧ ∀ k, rf_VRel (rf_view c' k) (m'.get k) now) :
    (dropKeys m' (([] : List Row).map rowKey)).WF ∧
      ∀ k, rf_VRel (rf_view c' k) ((dropKeys m' (([] : List Row).map rowKey)).get k) now := by
  rw [List.map_nil, rf_dropKeys_nil]
  exact h

end DC.Cache
