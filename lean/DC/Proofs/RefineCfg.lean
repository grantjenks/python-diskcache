/-
C03_Refine: no key-addressed call changes the configuration (`cfg`), whatever the
eviction policy, so policy and page size are those of the initial state along a history.
-/
import DC.Proofs.RefineIncr
import DC.Proofs.RefineDel
import DC.Proofs.RefineBulk

namespace DC.Cache
open DC.Spec

theorem rf_transact_cfg (s : Cache) (body : Cache → Body) (fresh : Option Nat)
    (hb : ∀ t, t.cfg = s.cfg → (body t).s.cfg = s.cfg) : (s.transact body fresh).1.cfg = s.cfg := by
  rcases Nat.eq_zero_or_pos s.depth with hd | hd
  · rw [transact_outer s hd]
    split <;> exact (fremoveAll_cfg ..).trans (hb (s.log .begin) rfl)
  · rw [transact_inblock s hd]
    split <;> exact hb (reg s fresh) (by cases fresh <;> rfl)

theorem rf_removeCommitted_cfg (t : Cache) (f : Option Nat) : (t.removeCommitted f).cfg = t.cfg := by
  unfold removeCommitted
  cases f with
  | none => rfl
  | some f => simp only; split <;> rfl

theorem rf_setBody_cfg (dbk : SqlVal) (raw : Bool) (now : Int) (c : Cols) (t : Cache) :
    (setBody dbk raw now c t).s.cfg = t.cfg := by
  unfold setBody
  by_cases hb : (!bindable dbk) = true
  · rw [if_pos hb]; rfl
  rw [if_neg hb]
  simp only
  by_cases hcb : (!c.bindable) = true
  · rw [if_pos hcb]; rfl
  rw [if_neg hcb]
  split <;> (simp only; rw [cullW_cfg]; rfl)

theorem rf_set_cfg (s : Cache) (E : Externals) (now : Int) (k v : PyVal) (ttl : Option Int) (read : Bool)
    (tag : SqlVal) : (s.set E now k v ttl read tag).1.cfg = s.cfg := by
  rw [set_eq]
  cases hst : s.store E v read with
  | error e => rfl
  | ok p =>
    obtain ⟨s1, c⟩ := p
    simp only
    rw [rf_transact_cfg, (store_keep hst).2.1]
    intro t ht
    rw [rf_setBody_cfg, ht]

theorem rf_addBody_cfg (dbk : SqlVal) (raw : Bool) (now : Int) (c : Cols) (t : Cache) :
    (rf_addBody dbk raw now c t).s.cfg = t.cfg := by
  unfold rf_addBody
  by_cases hb : (!bindable dbk) = true
  · rw [if_pos hb]; rfl
  rw [if_neg hb]
  simp only
  split
  · split
    · rfl
    split
    · rfl
    · simp only; rw [cullW_cfg]; rfl
  · split
    · rfl
    · simp only; rw [cullW_cfg]; rfl

theorem rf_add_cfg (s : Cache) (E : Externals) (now : Int) (k v : PyVal) (ttl : Option Int) (read : Bool)
    (tag : SqlVal) : (s.add E now k v ttl read tag).1.cfg = s.cfg := by
  rw [rf_add_eq]
  cases hst : s.store E v read with
  | error e => rfl
  | ok p =>
    obtain ⟨s1, c⟩ := p
    simp only
    rw [rf_transact_cfg, (store_keep hst).2.1]
    intro t ht
    rw [rf_addBody_cfg, ht]

theorem rf_touch_cfg (s : Cache) (E : Externals) (now : Int) (k : PyVal) (ttl : Option Int) :
    (s.touch E now k ttl).1.cfg = s.cfg := by
  rw [rf_touch_eq, rf_transact_cfg]
  intro t ht
  unfold rf_touchBody
  simp only
  split
  · split <;> exact ht
  · exact ht

theorem rf_incrFresh_cfg (E : Externals) (dbk : SqlVal) (raw : Bool) (now delta : Int)
    (dflt : Option Int) (t : Cache) (upd : Option Row) :
    (incrFresh E dbk raw now delta dflt t upd).s.cfg = t.cfg := by
  unfold incrFresh
  split
  · rfl
  simp only
  split
  · rfl
  · rename_i t1 c hst
    have := (store_keep hst).2.1
    split <;> (simp only; rw [cullW_cfg]; first | exact this | (show (t1.regCreated c.file).cfg = t.cfg; rw [regCreated_cfg]; exact this))

theorem rf_incr_cfg (s : Cache) (E : Externals) (now : Int) (k : PyVal) (delta : Int) (dflt : Option Int) :
    (s.incr E now k delta dflt).1.cfg = s.cfg := by
  rw [rf_incr_eq, rf_transact_cfg]
  intro t ht
  unfold incrBody
  simp only
  split
  · rw [rf_incrFresh_cfg]; exact ht
  · split
    · rw [rf_incrFresh_cfg]; exact ht
    · split
      · split <;> exact ht
      · exact ht

theorem rf_get_cfg (s : Cache) (E : Externals) (now : Int) (k : PyVal) (read et tg : Bool) :
    (s.get E now k read et tg).1.cfg = s.cfg := by
  rcases rf_get_state s E now k read et tg with h | ⟨-, id, h⟩
  · exact congrArg Core.cfg h
  · exact congrArg Core.cfg h

theorem rf_contains_cfg (s : Cache) (E : Externals) (now : Int) (k : PyVal) :
    (s.contains E now k).1.cfg = s.cfg := rfl

theorem rf_delitem_cfg (s : Cache) (E : Externals) (now : Int) (k : PyVal) :
    (s.delitem E now k).1.cfg = s.cfg := by
  rw [rf_delitem_eq, rf_transact_cfg]
  intro t ht
  unfold rf_delBody
  simp only
  split
  · exact ht
  · rw [rf_delRow_cfg]; exact ht

theorem rf_delete_cfg (s : Cache) (E : Externals) (now : Int) (k : PyVal) :
    (s.delete E now k).1.cfg = s.cfg := by
  rw [delete_fst]; exact rf_delitem_cfg s E now k

theorem rf_pop_cfg (s : Cache) (E : Externals) (now : Int) (k : PyVal) (et tg : Bool) :
    (s.pop E now k et tg).1.cfg = s.cfg := by
  cases hsel : s.selLive (DC.put E s.cfg.disk k).1 (DC.put E s.cfg.disk k).2 now with
  | some r =>
    rw [rf_pop_some hsel]
    simp only
    rw [rf_removeCommitted_cfg, fetchRow_cfg, rf_transact_cfg]
    intro t ht
    simp only
    rw [rf_delRow_cfg]; exact ht
  | none =>
    rw [rf_pop_none hsel]
    simp only
    rw [rf_transact_cfg]
    intro t ht
    exact ht

theorem rf_clear_cfg (s : Cache) : (s.clear).1.cfg = s.cfg := (rf_clear_frame s).cfg

theorem rf_evict_cfg (s : Cache) (tag : SqlVal) : (s.evict tag).1.cfg = s.cfg := (rf_evict_frame s tag).cfg

theorem rf_expire_cfg (s : Cache) (now : Int) : (s.expire now).1.cfg = s.cfg := (rf_expire_frame s now).cfg

theorem rf_cull_cfg_gen (s : Cache) (now : Int) : (s.cull now).1.cfg = s.cfg := (rf_cull_keep s now).2

theorem rf_cull_cfg (s : Cache) (now : Int) (_hp : s.cfg.policy = .none) : (s.cull now).1.cfg = s.cfg :=
  rf_cull_cfg_gen s now

theorem rf_step_cfg_gen (c : Cache) (op : Op) (hk : Keyed op = true) : (c.step op).1.cfg = c.cfg := by
  cases op <;> cases hk
  · exact rf_set_cfg ..
  · exact rf_add_cfg ..
  · exact rf_touch_cfg ..
  · exact rf_incr_cfg ..
  · exact rf_get_cfg ..
  · exact rf_contains_cfg ..
  · exact rf_pop_cfg ..
  · exact rf_delitem_cfg ..
  · exact rf_delete_cfg ..
  · exact rf_clear_cfg ..
  · exact rf_evict_cfg ..
  · exact rf_expire_cfg ..
  · exact rf_cull_cfg_gen ..

end DC.Cache
