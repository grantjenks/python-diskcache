/-
Definitions used in the statements of C10_LooseRefine (the regime `cull_limit > 0`
with expiry times on pushed items): the reference whose `push` takes the item
number from the cache's answer.  (The loose relation `QLoose` and `Thinned` stand in
DC/Proofs/QRefineDefs.lean.)
-/
import DC.Model.QSpec

namespace DC.QSpec
open DC.Cache

/-- `QSpec.push` with the number of the new item given (by the cache's answer) instead of
computed by `nextNum` -/
def pushAt (q : State) (E : Externals) (cfg : Cfg) (now : Int) (v : PyVal) (p : Option Str)
    (back : Bool) (ttl : Option Int) (read : Bool) (tag : SqlVal) (num : Int) : State × Out :=
  match place E cfg.disk cfg.minFileSize v read with
  | .error _ => (q, .exc "UnicodeEncodeError")
  | .ok pl =>
    let e := Spec.entryOf pl (ttl.map (now + ·)) tag
    let l := q.queues.get p
    if bindable e.tag && bindable e.val && bindable (queueKey p num) then
      ({ q with queues := q.queues.put p (if back then l ++ [⟨num, e⟩] else ⟨num, e⟩ :: l) },
       .val (column (queueKey p num)))
    else (q, .exc "UnicodeEncodeError")

theorem push_eq_pushAt (q : State) (E : Externals) (cfg : Cfg) (now : Int) (v : PyVal) (p : Option Str)
    (back : Bool) (ttl : Option Int) (read : Bool) (tag : SqlVal) :
    push q E cfg now v p back ttl read tag =
      pushAt q E cfg now v p back ttl read tag (nextNum cfg back (q.queues.get p)) := rfl

def stepAt (q : State) (cfg : Cfg) (op : Cache.Op) (num : Int) : State × Out :=
  match op with
  | .push E now v p back ttl read tag => pushAt q E cfg now v p back ttl read tag num
  | op => step q cfg op

/-- a run of the reference along a history annotated with the numbers (one per call; used by the
pushes only) -/
def runAt (q : State) (cfg : Cfg) (ops : List (Cache.Op × Int)) : State :=
  ops.foldl (fun q x => (stepAt q cfg x.1 x.2).1) q

def outsAt (q : State) (cfg : Cfg) : List (Cache.Op × Int) → List Out
  | [] => []
  | x :: xs => (stepAt q cfg x.1 x.2).2 :: outsAt (stepAt q cfg x.1 x.2).1 cfg xs

end DC.QSpec
