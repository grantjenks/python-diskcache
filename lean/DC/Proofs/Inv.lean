/- `TableInv` (C03, C08) is kept by every statement function, by `_cull`, by a transaction whose
body keeps it, and by every loop whose steps keep it.  Also here, because this is the first
invariant that needs them: the loop rules, and the transaction bodies of `incr` and `get` with the
ways they end; the other invariants (`PI`, `Blk`, `BI`) use the same. -/
import DC.Proofs.Cull
import DC.Proofs.Keys

namespace DC.Cache

theorem TableOk.nil : TableOk [] 0 0 :=
  ⟨List.Pairwise.nil, by simp, List.Pairwise.nil, by simp, rfl, rfl⟩

theorem tableOk_map {rows : List Row} {c z z' : Int} (f : Row → Row)
    (hid : ∀ r, (f r).rowid = r.rowid) (hk : ∀ r, (f r).key = r.key) (hraw : ∀ r, (f r).raw = r.raw)
    (h : TableOk rows c z) (hz : z' = sumSizes (rows.map f)) : TableOk (rows.map f) c z' := by
  constructor
  · unfold RowidsAsc; rw [List.pairwise_map]; simpa [RowidsAsc, hid] using h.asc
  · intro r hr; obtain ⟨a, ha, rfl⟩ := List.mem_map.1 hr; rw [hid]; exact h.pos a ha
  · unfold KeysUnique; rw [List.pairwise_map]; simpa [KeysUnique, hk, hraw] using h.uniq
  · intro r hr; obtain ⟨a, ha, rfl⟩ := List.mem_map.1 hr; rw [hk]; exact h.nonnull a ha
  · simp [h.count]
  · exact hz

theorem sumSizes_map_keep (rows : List Row) (f : Row → Row) (hsz : ∀ r, (f r).size = r.size) :
    sumSizes (rows.map f) = sumSizes rows := by
  unfold sumSizes; rw [List.map_map]; congr 1
  apply List.map_congr_left; intro r _; simp [hsz]

theorem filter_rowid_counts {rows : List Row} (hasc : RowidsAsc rows) (r : Row) (hr : r ∈ rows) :
    ((rows.filter (·.rowid != r.rowid)).length : Int) = rows.length - 1 ∧
    sumSizes (rows.filter (·.rowid != r.rowid)) = sumSizes rows - r.size := by
  induction rows with
  | nil => cases hr
  | cons x xs ih =>
    have hx := List.pairwise_cons.mp hasc
    rcases List.mem_cons.mp hr with rfl | hr'
    · have hxs : xs.filter (·.rowid != r.rowid) = xs := by
        rw [List.filter_eq_self]; intro a ha
        have := hx.1 a ha
        simp; omega
      simp only [List.filter_cons, bne_self_eq_false, Bool.false_eq_true, if_false, hxs,
        List.length_cons, sumSizes_cons]
      constructor <;> omega
    · have hlt := hx.1 r hr'
      have hne : (x.rowid != r.rowid) = true := by simp; omega
      obtain ⟨i1, i2⟩ := ih hx.2 hr'
      simp only [List.filter_cons, hne, if_true, List.length_cons, sumSizes_cons]
      constructor
      · push_cast; omega
      · omega

theorem tableOk_sublist_core {rows sub : List Row} {c z c' z' : Int} (h : TableOk rows c z)
    (hs : sub.Sublist rows) (hc : c' = sub.length) (hz : z' = sumSizes sub) : TableOk sub c' z' :=
  ⟨h.asc.sublist hs, fun r hr => h.pos r (hs.subset hr), h.uniq.sublist hs,
   fun r hr => h.nonnull r (hs.subset hr), hc, hz⟩

theorem tableOk_filter_rowid {rows : List Row} {c z : Int} (h : TableOk rows c z) (r : Row)
    (hr : r ∈ rows) : TableOk (rows.filter (·.rowid != r.rowid)) (c - 1) (z - r.size) := by
  obtain ⟨i1, i2⟩ := filter_rowid_counts h.asc r hr
  exact tableOk_sublist_core h List.filter_sublist (by rw [i1, h.count]) (by rw [i2, h.size])

theorem tableOk_append {rows : List Row} {c z : Int} (h : TableOk rows c z) (r : Row)
    (hid : ∀ x ∈ rows, x.rowid < r.rowid) (hpos : 0 < r.rowid)
    (hk : ∀ x ∈ rows, ¬ (x.key.eqv r.key = true ∧ x.raw = r.raw)) (hnn : r.key ≠ .null) :
    TableOk (rows ++ [r]) (c + 1) (z + r.size) := by
  constructor
  · unfold RowidsAsc; rw [List.pairwise_append]
    exact ⟨h.asc, by simp, fun a ha b hb => by simp at hb; subst hb; exact hid a ha⟩
  · intro x hx; rcases List.mem_append.1 hx with hx | hx
    · exact h.pos x hx
    · simp at hx; subst hx; exact hpos
  · unfold KeysUnique; rw [List.pairwise_append]
    exact ⟨h.uniq, by simp, fun a ha b hb => by simp at hb; subst hb; exact hk a ha⟩
  · intro x hx; rcases List.mem_append.1 hx with hx | hx
    · exact h.nonnull x hx
    · simp at hx; subst hx; exact hnn
  · simp [h.count]
  · rw [sumSizes_append, h.size]; simp [sumSizes]

theorem any_false_of_lt {xs : List Row} {n : Nat} (h : ∀ a ∈ xs, n < a.rowid) :
    xs.any (·.rowid == n) = false := by
  rw [List.any_eq_false]; intro a ha; have := h a ha; simp; omega

theorem sumSizes_updRow (rows : List Row) (hasc : RowidsAsc rows) (rowid : Nat) (f : Row → Row)
    (n : Nat) (hf : ∀ r, (f r).size = n) :
    sumSizes (rows.map (fun r => if r.rowid == rowid then f r else r)) =
      if rows.any (·.rowid == rowid) then sumSizes rows + n - rowSize rows rowid
      else sumSizes rows := by
  induction rows with
  | nil => simp [sumSizes]
  | cons x xs ih =>
    have hx := List.pairwise_cons.mp hasc
    have ih := ih hx.2
    by_cases hxr : x.rowid = rowid
    · have hany : xs.any (·.rowid == rowid) = false :=
        any_false_of_lt (fun a ha => by have := hx.1 a ha; omega)
      rw [hany] at ih
      simp only [Bool.false_eq_true, if_false] at ih
      simp only [List.map_cons, sumSizes_cons, ih, List.any_cons, rowSize, List.find?_cons, hxr,
        beq_self_eq_true, if_true, Bool.true_or, hf]
      omega
    · have hb : (x.rowid == rowid) = false := by simpa using hxr
      simp only [List.map_cons, sumSizes_cons, ih, List.any_cons, rowSize, List.find?_cons, hb,
        Bool.false_eq_true, if_false, Bool.false_or]
      split <;> omega

/-! ### `TableInv` is about four fields only -/

theorem TableInv.same {s t : Cache} (h : TableInv s) (hr : t.rows = s.rows) (hc : t.count = s.count)
    (hz : t.size = s.size) (hs : t.snap = s.snap) : TableInv t := by
  constructor
  · rw [hr, hc, hz]; exact h.tbl
  · rw [hs]; exact h.snap

theorem TableInv.of_tbl {s t : Cache} (h : TableInv s) (ht : TableOk t.rows t.count t.size)
    (hs : t.snap = s.snap) : TableInv t := by
  constructor
  · exact ht
  · rw [hs]; exact h.snap

theorem log_inv {s : Cache} (a : Act) (h : TableInv s) : TableInv (s.log a) := h.same rfl rfl rfl rfl
theorem logSql_inv {s : Cache} (a : String) (h : TableInv s) : TableInv (s.logSql a) :=
  h.same rfl rfl rfl rfl
theorem fwrite_inv {s : Cache} (c : Content) (h : TableInv s) : TableInv (s.fwrite c).1 :=
  h.same rfl rfl rfl rfl
theorem fremove_inv {s : Cache} (f : Nat) (h : TableInv s) : TableInv (s.fremove f) :=
  h.same rfl rfl rfl rfl

@[simp] theorem log_snap (s : Cache) (a : Act) : (s.log a).snap = s.snap := rfl
@[simp] theorem logSql_snap (s : Cache) (a : String) : (s.logSql a).snap = s.snap := rfl
@[simp] theorem fremove_snap (s : Cache) (f : Nat) : (s.fremove f).snap = s.snap := rfl

theorem fremoveAll_inv (fs : List (Option Nat)) : ∀ {s : Cache}, TableInv s → TableInv (s.fremoveAll fs) := by
  induction fs with
  | nil => intro s h; exact h
  | cons a t ih =>
    intro s h
    cases a with
    | none => exact ih h
    | some f => exact ih (fremove_inv f h)

theorem removeCommitted_inv {s : Cache} (f : Option Nat) (h : TableInv s) :
    TableInv (s.removeCommitted f) := by
  unfold removeCommitted
  cases f with
  | none => exact h
  | some f =>
    simp only
    split
    · exact h.same rfl rfl rfl rfl
    · exact fremove_inv f h

@[simp] theorem removeCommitted_rows (s : Cache) (f : Option Nat) : (s.removeCommitted f).rows = s.rows := by
  unfold removeCommitted
  cases f with
  | none => rfl
  | some f => simp only; split <;> rfl

/-! `regCreated` (the Python-side record of a file written inside `incr`'s transaction) touches
only the `created` list -/
theorem regCreated_zero (s : Cache) (f : Option Nat) (hd : s.depth = 0) : s.regCreated f = s := by
  unfold regCreated; cases f <;> simp [hd]

theorem regCreated_cases (s : Cache) (f : Option Nat) :
    s.regCreated f = s ∨ ∃ g, f = some g ∧ 0 < s.depth ∧ s.regCreated f = { s with created := s.created ++ [g] } := by
  unfold regCreated
  cases f with
  | none => exact .inl rfl
  | some g =>
    by_cases hd : s.depth > 0
    · exact .inr ⟨g, rfl, hd, by simp [hd]⟩
    · exact .inl (by simp [hd])

theorem regCreated_proj {α} (π : Cache → α) (hπ : ∀ s l, π { s with created := l } = π s)
    (s : Cache) (f : Option Nat) : π (s.regCreated f) = π s := by
  rcases regCreated_cases s f with h | ⟨g, -, -, h⟩ <;> rw [h]
  exact hπ s _

@[simp] theorem regCreated_rows (s : Cache) (f : Option Nat) : (s.regCreated f).rows = s.rows :=
  regCreated_proj (·.rows) (fun _ _ => rfl) s f
@[simp] theorem regCreated_count (s : Cache) (f : Option Nat) : (s.regCreated f).count = s.count :=
  regCreated_proj (·.count) (fun _ _ => rfl) s f
@[simp] theorem regCreated_size (s : Cache) (f : Option Nat) : (s.regCreated f).size = s.size :=
  regCreated_proj (·.size) (fun _ _ => rfl) s f
@[simp] theorem regCreated_snap (s : Cache) (f : Option Nat) : (s.regCreated f).snap = s.snap :=
  regCreated_proj (·.snap) (fun _ _ => rfl) s f
@[simp] theorem regCreated_files (s : Cache) (f : Option Nat) : (s.regCreated f).files = s.files :=
  regCreated_proj (·.files) (fun _ _ => rfl) s f
@[simp] theorem regCreated_nfile (s : Cache) (f : Option Nat) : (s.regCreated f).nfile = s.nfile :=
  regCreated_proj (·.nfile) (fun _ _ => rfl) s f
@[simp] theorem regCreated_cfg (s : Cache) (f : Option Nat) : (s.regCreated f).cfg = s.cfg :=
  regCreated_proj (·.cfg) (fun _ _ => rfl) s f
@[simp] theorem regCreated_depth (s : Cache) (f : Option Nat) : (s.regCreated f).depth = s.depth :=
  regCreated_proj (·.depth) (fun _ _ => rfl) s f
@[simp] theorem regCreated_pending (s : Cache) (f : Option Nat) : (s.regCreated f).pending = s.pending :=
  regCreated_proj (·.pending) (fun _ _ => rfl) s f
@[simp] theorem regCreated_trace (s : Cache) (f : Option Nat) : (s.regCreated f).trace = s.trace :=
  regCreated_proj (·.trace) (fun _ _ => rfl) s f
@[simp] theorem regCreated_env (s : Cache) (f : Option Nat) : (s.regCreated f).env = s.env :=
  regCreated_proj (·.env) (fun _ _ => rfl) s f
@[simp] theorem regCreated_statistics (s : Cache) (f : Option Nat) :
    (s.regCreated f).statistics = s.statistics :=
  regCreated_proj (·.statistics) (fun _ _ => rfl) s f
@[simp] theorem regCreated_hits (s : Cache) (f : Option Nat) : (s.regCreated f).hits = s.hits :=
  regCreated_proj (·.hits) (fun _ _ => rfl) s f
@[simp] theorem regCreated_misses (s : Cache) (f : Option Nat) : (s.regCreated f).misses = s.misses :=
  regCreated_proj (·.misses) (fun _ _ => rfl) s f

theorem regCreated_inv {s : Cache} (f : Option Nat) (h : TableInv s) : TableInv (s.regCreated f) :=
  h.same (by simp) (by simp) (by simp) (by simp)

/-- `Disk.store` either places the value in the row and leaves the state alone, or writes one file -/
theorem store_ok {s s' : Cache} {E : Externals} {v : PyVal} {read : Bool} {c : Cols}
    (hst : s.store E v read = .ok (s', c)) :
    (s' = s ∧ c.file = none) ∨
    ∃ ct, s' = (s.fwrite ct).1 ∧ c.file = some s.nfile ∧ c.size = ct.size := by
  unfold store at hst
  split at hst
  · cases hst
  · cases hst; exact .inl ⟨rfl, rfl⟩
  · cases hst; exact .inr ⟨_, rfl, rfl, rfl⟩

theorem store_inv {s s' : Cache} {E : Externals} {v : PyVal} {read : Bool} {c : Cols}
    (hst : s.store E v read = .ok (s', c)) (h : TableInv s) : TableInv s' ∧ s'.rows = s.rows := by
  rcases store_ok hst with ⟨rfl, -⟩ | ⟨ct, rfl, -, -⟩
  · exact ⟨h, rfl⟩
  · exact ⟨fwrite_inv _ h, rfl⟩

theorem fetchRow_inv {s : Cache} (E : Externals) (r : Row) (read : Bool) (h : TableInv s) :
    TableInv (s.fetchRow E r read).1 := by
  unfold fetchRow
  split
  · simp only; split
    · exact h
    · exact log_inv _ h
  · exact h

@[simp] theorem fetchRow_rows (s : Cache) (E : Externals) (r : Row) (read : Bool) :
    (s.fetchRow E r read).1.rows = s.rows := by
  unfold fetchRow
  split
  · simp only; split <;> rfl
  · rfl

@[simp] theorem fetchRow_cfg (s : Cache) (E : Externals) (r : Row) (read : Bool) :
    (s.fetchRow E r read).1.cfg = s.cfg := by
  unfold fetchRow
  split
  · simp only; split <;> rfl
  · rfl

theorem fetchRow_snd_congr (s t : Cache) (E : Externals) (r : Row) (read : Bool)
    (hc : s.cfg = t.cfg) (hf : s.files = t.files) :
    (s.fetchRow E r read).2 = (t.fetchRow E r read).2 := by
  unfold fetchRow
  split
  · split <;> simp_all [fileGet, log]
  · simp [hc]

theorem volume_inv {s : Cache} (h : TableInv s) : TableInv s.volume.1 := by
  unfold volume
  simp only
  split <;> exact h.same rfl rfl rfl rfl

theorem touchPolicy_keep (p : Policy) (now : Int) (r : Row) :
    (touchPolicy p now r).rowid = r.rowid ∧ (touchPolicy p now r).key = r.key ∧
    (touchPolicy p now r).raw = r.raw ∧ (touchPolicy p now r).size = r.size ∧
    (touchPolicy p now r).val = r.val ∧ (touchPolicy p now r).file = r.file ∧
    (touchPolicy p now r).expT = r.expT ∧ (touchPolicy p now r).tag = r.tag := by
  cases p <;> simp [touchPolicy]

@[simp] theorem touchPolicy_rowid (p : Policy) (now : Int) (r : Row) :
    (touchPolicy p now r).rowid = r.rowid := (touchPolicy_keep p now r).1
@[simp] theorem touchPolicy_key (p : Policy) (now : Int) (r : Row) :
    (touchPolicy p now r).key = r.key := (touchPolicy_keep p now r).2.1
@[simp] theorem touchPolicy_raw (p : Policy) (now : Int) (r : Row) :
    (touchPolicy p now r).raw = r.raw := (touchPolicy_keep p now r).2.2.1
@[simp] theorem touchPolicy_size (p : Policy) (now : Int) (r : Row) :
    (touchPolicy p now r).size = r.size := (touchPolicy_keep p now r).2.2.2.1
@[simp] theorem touchPolicy_val (p : Policy) (now : Int) (r : Row) :
    (touchPolicy p now r).val = r.val := (touchPolicy_keep p now r).2.2.2.2.1
@[simp] theorem touchPolicy_file (p : Policy) (now : Int) (r : Row) :
    (touchPolicy p now r).file = r.file := (touchPolicy_keep p now r).2.2.2.2.2.1
@[simp] theorem touchPolicy_expT (p : Policy) (now : Int) (r : Row) :
    (touchPolicy p now r).expT = r.expT := (touchPolicy_keep p now r).2.2.2.2.2.2.1
@[simp] theorem touchPolicy_tag (p : Policy) (now : Int) (r : Row) :
    (touchPolicy p now r).tag = r.tag := (touchPolicy_keep p now r).2.2.2.2.2.2.2

/-- `UPDATE … WHERE rowid = ?` setting columns other than rowid, key, raw and size -/
theorem updWhere_inv {s t : Cache} (h : TableInv s) (rowid : Nat) (f : Row → Row)
    (hf : ∀ r, (f r).rowid = r.rowid ∧ (f r).key = r.key ∧ (f r).raw = r.raw ∧ (f r).size = r.size)
    (hr : t.rows = s.rows.map fun r => if r.rowid == rowid then f r else r)
    (hc : t.count = s.count) (hz : t.size = s.size) (hs : t.snap = s.snap) : TableInv t := by
  refine h.of_tbl ?_ hs
  rw [hr, hc, hz]
  refine tableOk_map _
    (fun r => by split; exact (hf r).1; rfl) (fun r => by split; exact (hf r).2.1; rfl)
    (fun r => by split; exact (hf r).2.2.1; rfl) h.tbl ?_
  rw [sumSizes_map_keep _ _ fun r => by split; exact (hf r).2.2.2; rfl]
  exact h.tbl.size

theorem updExp_inv {s : Cache} (rowid : Nat) (e : Option Int) (h : TableInv s) :
    TableInv (s.updExp rowid e) :=
  updWhere_inv h rowid (fun r => { r with expT := e }) (fun _ => ⟨rfl, rfl, rfl, rfl⟩) rfl rfl rfl rfl

theorem updGet_inv {s : Cache} (rowid : Nat) (now : Int) (h : TableInv s) :
    TableInv (s.updGet rowid now) :=
  updWhere_inv h rowid (touchPolicy s.cfg.policy now) (fun r => by simp) rfl rfl rfl rfl

theorem updIncr_inv {s : Cache} (rowid : Nat) (now : Int) (v : SqlVal) (h : TableInv s) :
    TableInv (s.updIncr rowid now v) :=
  updWhere_inv h rowid (fun r => touchPolicy s.cfg.policy now { r with storeT := now, val := v })
    (fun r => by simp) rfl rfl rfl rfl

theorem updRow_inv {s : Cache} (rowid : Nat) (now : Int) (c : Cols) (h : TableInv s) :
    TableInv (s.updRow rowid now c) := by
  refine h.of_tbl ?_ rfl
  have hsum := sumSizes_updRow s.rows h.tbl.asc rowid
    (fun r => { r with storeT := now, expT := c.expT, accT := now, accN := 0, tag := c.tag,
                       size := c.size, mode := c.mode, file := c.file, val := c.val }) c.size
    (fun _ => rfl)
  refine tableOk_map _ (by intro r; by_cases hc : r.rowid = rowid <;> simp [hc]) (by intro r; by_cases hc : r.rowid = rowid <;> simp [hc])
    (by intro r; by_cases hc : r.rowid = rowid <;> simp [hc]) h.tbl ?_
  show (if s.rows.any (·.rowid == rowid) then s.size + c.size - rowSize s.rows rowid else s.size) = _
  rw [hsum, h.tbl.size]

theorem insRow_inv {s : Cache} (k : SqlVal) (raw : Bool) (now : Int) (c : Cols) (h : TableInv s)
    (hsel : s.selKey k raw = none) (hnn : k ≠ .null) : TableInv (s.insRow k raw now c) := by
  refine h.of_tbl ?_ rfl
  have hnone := List.find?_eq_none.mp hsel
  exact tableOk_append h.tbl _
    (fun x hx => by have := le_maxRowid s.rows x hx; show x.rowid < maxRowid s.rows + 1; omega)
    (Nat.succ_pos _)
    (fun x hx hc => by
      have := hnone x hx
      apply this
      simp only [keyMatch, Bool.and_eq_true, beq_iff_eq]
      exact hc)
    hnn

theorem delRowQuiet_inv {s : Cache} (rowid : Nat) (h : TableInv s) : TableInv (s.delRowQuiet rowid) := by
  unfold delRowQuiet
  split
  · rename_i r hf
    refine h.of_tbl ?_ rfl
    have hm := List.mem_of_find?_eq_some hf
    have hp : r.rowid = rowid := by simpa using List.find?_some hf
    subst hp
    exact tableOk_filter_rowid h.tbl r hm
  · exact h

theorem delRow_inv {s : Cache} (rowid : Nat) (h : TableInv s) : TableInv (s.delRow rowid) :=
  logSql_inv _ (delRowQuiet_inv rowid h)

theorem delIn_inv (ids : List Nat) : ∀ {s : Cache}, TableInv s → TableInv (s.delIn ids) := by
  induction ids with
  | nil => intro s h; exact h
  | cons a t ih => intro s h; exact ih (delRowQuiet_inv a h)

theorem cullTail_inv {s : Cache} (cl : List (Option Nat)) (n : Nat) (h : TableInv s) :
    TableInv (cullTail s cl n).1 := by
  unfold cullTail
  split; · exact h
  split; · exact h
  have hv := volume_inv h
  simp only
  split; · exact hv
  split; · exact logSql_inv _ hv
  exact logSql_inv _ (delIn_inv _ (logSql_inv _ hv))

theorem cullW_inv {s : Cache} (now : Int) (limit : Option Nat) (h : TableInv s) :
    TableInv (s.cullW now limit).1 := by
  unfold cullW
  extract_lets L rows s1
  split; · exact h
  -- decide the expired page first: what is left is `cullTail` of either stage
  by_cases he : rows.isEmpty
  · rw [if_pos he]
    exact cullTail_inv _ _ (logSql_inv _ h)
  · rw [if_neg he]
    exact cullTail_inv _ _ (logSql_inv _ (delIn_inv _ (logSql_inv _ h)))

theorem reg_tbl (s : Cache) (fresh : Option Nat) :
    (reg s fresh).rows = s.rows ∧ (reg s fresh).count = s.count ∧ (reg s fresh).size = s.size ∧
    (reg s fresh).snap = s.snap := by
  cases fresh <;> exact ⟨rfl, rfl, rfl, rfl⟩

theorem transact_inv {s : Cache} (body : Cache → Body) (fresh : Option Nat) (h : TableInv s)
    (hb : ∀ t, TableInv t → t.rows = s.rows → TableInv (body t).s) :
    TableInv (s.transact body fresh).1 := by
  rcases Nat.eq_zero_or_pos s.depth with hd | hd
  · rw [transact_outer s hd]
    have hB := hb (s.log .begin) (log_inv _ h) rfl
    split
    · exact fremoveAll_inv _ (log_inv _ hB)
    · exact fremoveAll_inv _ (log_inv _ ⟨h.tbl, hB.snap⟩)
  · rw [transact_inblock s hd]
    obtain ⟨e1, e2, e3, e4⟩ := reg_tbl s fresh
    have hB := hb _ (h.same e1 e2 e3 e4) e1
    split
    · exact hB.same rfl rfl rfl rfl
    · exact hB

theorem transact_inv' {s s' : Cache} {o : Out} {body : Cache → Body} {fresh : Option Nat}
    (heq : s.transact body fresh = (s', o)) (h : TableInv s)
    (hb : ∀ t, TableInv t → t.rows = s.rows → TableInv (body t).s) : TableInv s' := by
  have := transact_inv body fresh h hb
  rw [heq] at this; exact this

theorem deletePage_inv {s : Cache} (page : List Row) (sel : String) (h : TableInv s) :
    TableInv (s.deletePage page sel) := by
  rw [deletePage_eq]
  apply transact_inv _ _ h
  intro t ht _
  unfold pageBody
  simp only
  split
  · exact logSql_inv _ ht
  · exact logSql_inv _ (delIn_inv _ (logSql_inv _ ht))

theorem tbegin_inv' {s : Cache} (h : TableInv s) : TableInv s.tbegin := by
  unfold tbegin
  split
  · refine ⟨h.tbl, ?_⟩
    intro p hp
    cases hp
    exact h.tbl
  · exact h.same rfl rfl rfl rfl

theorem tend_inv' {s : Cache} (h : TableInv s) : TableInv s.tend := by
  unfold tend
  split
  · simp only
    have h1 : TableInv { (s.log .commit) with depth := 0, snap := none } := ⟨h.tbl, nofun⟩
    exact (fremoveAll_inv _ h1).same rfl rfl rfl rfl
  · exact h.same rfl rfl rfl rfl

theorem traise_inv' {s : Cache} (n : Nat) (h : TableInv s) : TableInv (s.traise n) := by
  unfold traise
  split
  · split
    · rename_i p hp
      simp only
      have h1 : TableInv { ((s.restore p).log .rollback) with depth := 0, snap := none } :=
        ⟨h.snap p hp, nofun⟩
      exact (fremoveAll_inv _ h1).same rfl rfl rfl rfl
    · exact h.same rfl rfl rfl rfl
  · exact h.same rfl rfl rfl rfl

theorem queueKey_ne_null (pfx : Option Str) (num : Int) : queueKey pfx num ≠ .null := by
  unfold queueKey
  cases pfx with
  | none => simp
  | some p => simp only; split <;> simp

/-! ### loops: what the steps of a loop keep, the loop keeps -/

/-- the one-statement transactions of the queue and edge loops -/
theorem transact_log_inv {s : Cache} (h : TableInv s) (sel : String) (o : Out) (ok : Bool) :
    TableInv (s.transact fun s => { s := s.logSql sel, out := o, ok := ok }).1 :=
  transact_inv _ _ h fun _ ht _ => logSql_inv _ ht

theorem transact_delRow_inv {s : Cache} (h : TableInv s) (sel : String) (rowid : Nat)
    (cl : List (Option Nat)) :
    TableInv (s.transact fun s =>
      { s := (s.logSql sel).delRow rowid, out := .none, cleanup := cl }).1 :=
  transact_inv _ _ h fun _ ht _ => delRow_inv _ (logSql_inv _ ht)

theorem selLive_mem {s : Cache} {k : SqlVal} {raw : Bool} {now : Int} {r : Row}
    (h : s.selLive k raw now = some r) : r ∈ s.rows := List.mem_of_find?_eq_some h

theorem queueHead_mem {s : Cache} {pfx : Option Str} {front : Bool} {r : Row}
    (h : (if front then (s.queueRows pfx).head? else lastRow? (s.queueRows pfx)) = some r) :
    r ∈ s.rows := by
  have : r ∈ s.queueRows pfx := by
    split at h
    · exact List.mem_of_head? h
    · exact lastRow?_mem h
  unfold queueRows at this
  exact (List.mem_filter.1 ((mem_isort _).1 this)).1

/-- `P` is kept by the pieces `pop` and the queue loops are made of: the transaction that only
selects; the one that deletes an expired row and cleans up its file; reading a value; and the
transaction that deletes a row, followed by reading its value and removing its file -/
structure QueueSteps (P : Cache → Prop) : Prop where
  sel : ∀ {s : Cache} (sel : String) (o : Out) (ok : Bool), P s →
    P (s.transact fun s => { s := s.logSql sel, out := o, ok := ok }).1
  del : ∀ {s : Cache} (sel : String) {r : Row}, r ∈ s.rows → P s →
    P (s.transact fun s => { s := (s.logSql sel).delRow r.rowid, out := .none, cleanup := [r.file] }).1
  fetch : ∀ {s : Cache} (E : Externals) (r : Row) (read : Bool), P s → P (s.fetchRow E r read).1
  pop : ∀ {s : Cache} (sel : String) (E : Externals) {r : Row}, r ∈ s.rows → P s →
    P (((s.transact fun s => { s := (s.logSql sel).delRow r.rowid, out := .none }).1.fetchRow E r
      false).1.removeCommitted r.file)

theorem queueSteps_inv : QueueSteps TableInv where
  sel sel o ok h := transact_log_inv h sel o ok
  del sel _ _ h := transact_delRow_inv h sel _ _
  fetch E r read h := fetchRow_inv E r read h
  pop sel E _ _ h := removeCommitted_inv _ (fetchRow_inv E _ false (transact_delRow_inv h sel _ []))

theorem pop_keeps {P : Cache → Prop} (hP : QueueSteps P) {s : Cache} (E : Externals) (now : Int)
    (k : PyVal) (et tg : Bool) (h : P s) : P (s.pop E now k et tg).1 := by
  unfold pop
  simp only
  split
  · exact hP.sel _ _ _ h
  · rename_i r hr
    have h1 := hP.pop "selLive" E (selLive_mem hr) h
    split <;> exact h1

theorem pullLoop_keeps {P : Cache → Prop} (hP : QueueSteps P) (E : Externals) (now : Int)
    (pfx : Option Str) (front et tg : Bool) :
    ∀ (fuel : Nat) {s : Cache}, P s → P (pullLoop E now pfx front et tg fuel s).1 := by
  intro fuel
  induction fuel with
  | zero => intro s h; exact h
  | succ n ih =>
    intro s h
    unfold pullLoop
    simp only
    split
    · exact hP.sel _ _ _ h
    · rename_i r hr
      have hm := queueHead_mem hr
      split
      · exact ih (hP.del _ hm h)
      · have h1 := hP.pop "selQueueHead" E hm h
        split
        · exact ih h1
        · exact h1

theorem peekLoop_keeps {P : Cache → Prop} (hP : QueueSteps P) (E : Externals) (now : Int)
    (pfx : Option Str) (front et tg : Bool) :
    ∀ (fuel : Nat) {s : Cache}, P s → P (peekLoop E now pfx front et tg fuel s).1 := by
  intro fuel
  induction fuel with
  | zero => intro s h; exact h
  | succ n ih =>
    intro s h
    unfold peekLoop
    simp only
    split
    · exact hP.sel _ _ _ h
    · rename_i r hr
      split
      · exact ih (hP.del _ (queueHead_mem hr) h)
      · have h1 := hP.fetch E r false (hP.sel "selQueueHead" .none true h)
        split
        · exact ih h1
        · exact h1

theorem peekitemLoop_keeps {P : Cache → Prop} (hP : QueueSteps P) (E : Externals) (now : Int)
    (last et tg : Bool) :
    ∀ (fuel : Nat) {s : Cache}, P s → P (peekitemLoop E now last et tg fuel s).1 := by
  intro fuel
  induction fuel with
  | zero => intro s h; exact h
  | succ n ih =>
    intro s h
    unfold peekitemLoop
    simp only
    split
    · exact hP.sel _ _ _ h
    · rename_i r hr
      have hm : r ∈ s.rows := by
        split at hr
        · exact lastRow?_mem hr
        · exact List.mem_of_head? hr
      split
      · exact ih (hP.del _ hm h)
      · have h1 := hP.fetch E r false (hP.sel "selEdge" .none true h)
        split
        · exact ih h1
        · exact h1

theorem pullLoop_inv (E : Externals) (now : Int) (pfx : Option Str) (front et tg : Bool) :
    ∀ (fuel : Nat) {s : Cache}, TableInv s → TableInv (pullLoop E now pfx front et tg fuel s).1 :=
  pullLoop_keeps queueSteps_inv E now pfx front et tg

theorem peekLoop_inv (E : Externals) (now : Int) (pfx : Option Str) (front et tg : Bool) :
    ∀ (fuel : Nat) {s : Cache}, TableInv s → TableInv (peekLoop E now pfx front et tg fuel s).1 :=
  peekLoop_keeps queueSteps_inv E now pfx front et tg

/-- the paging loops of `clear`, `evict` and `expire` delete pages of rows of the table -/
def PageStep (P : Cache → Prop) : Prop :=
  ∀ {s : Cache} (page : List Row) (sel : String), (∀ r ∈ page, r ∈ s.rows) → P s → P (s.deletePage page sel)

theorem clearLoop_keeps {P : Cache → Prop} (hP : PageStep P) :
    ∀ (fuel : Nat) {s : Cache} (cur n : Nat), P s → P (clearLoop fuel s cur n).1 := by
  intro fuel
  induction fuel with
  | zero => intro s cur n h; exact h
  | succ k ih =>
    intro s cur n h
    have h1 := hP ((s.rows.filter (fun r => r.rowid > cur)).take s.cfg.page) "pageRowid"
      (fun r hr => (List.mem_filter.1 (List.mem_of_mem_take hr)).1) h
    simp only [clearLoop]
    split
    · exact h1
    · exact ih _ _ h1

theorem evictLoop_keeps {P : Cache → Prop} (hP : PageStep P) (tag : SqlVal) :
    ∀ (fuel : Nat) {s : Cache} (cur n : Nat), P s → P (evictLoop tag fuel s cur n).1 := by
  intro fuel
  induction fuel with
  | zero => intro s cur n h; exact h
  | succ k ih =>
    intro s cur n h
    have h1 := hP ((s.rows.filter (fun r => r.tag.eqv tag && r.rowid > cur)).take s.cfg.page) "pageTag"
      (fun r hr => (List.mem_filter.1 (List.mem_of_mem_take hr)).1) h
    simp only [evictLoop]
    split
    · exact h1
    · exact ih _ _ h1

theorem expireLoop_keeps {P : Cache → Prop} (hP : PageStep P) (now : Int) :
    ∀ (fuel : Nat) {s : Cache} (lo : Option Int) (n : Nat), P s → P (expireLoop now fuel s lo n).1 := by
  intro fuel
  induction fuel with
  | zero => intro s lo n h; exact h
  | succ k ih =>
    intro s lo n h
    simp only [expireLoop]
    split
    · exact hP _ _ (fun r hr => (List.mem_filter.1 (mem_of_mem_take_isort hr)).1) h
    · exact ih _ _ (hP _ _ (fun r hr => (List.mem_filter.1 (mem_of_mem_take_isort hr)).1) h)

/-- the transaction body of one batch of the policy loop of `cull()` -/
def delInBody (sel sel2 : String) (rows : List Row) : Cache → Body := fun s =>
  { s := ((s.logSql sel).delIn (rows.map (·.rowid))).logSql sel2, out := .none, cleanup := rows.map (·.file) }

/-- the policy loop of `cull()`: `volume()`, then a transaction that selects, or selects and
deletes a batch of rows of the table -/
theorem cullLoop_keeps {P : Cache → Prop} (hvol : ∀ {s : Cache}, P s → P s.volume.1)
    (hsel : ∀ {s : Cache} (sel : String), P s → P (s.transact fun s => { s := s.logSql sel, out := .none }).1)
    (hdel : ∀ {s : Cache} (rows : List Row), (∀ r ∈ rows, r ∈ s.rows) → P s →
      P (s.transact (delInBody "selPolicy" "delPolicy" rows)).1) :
    ∀ (fuel : Nat) {s : Cache} (n : Nat), P s → P (cullLoop fuel s n).1 := by
  intro fuel
  induction fuel with
  | zero => intro s n h; exact h
  | succ k ih =>
    intro s n h
    rw [cullLoop_succ]
    split
    · exact hvol h
    · split
      · exact hsel _ (hvol h)
      · exact ih _ (hdel _ (fun r hr => selPolicy_mem hr) (hvol h))

theorem pageStep_inv : PageStep TableInv := fun page sel _ h => deletePage_inv page sel h

theorem expireLoop_inv (now : Int) : ∀ (fuel : Nat) {s : Cache} (lo : Option Int) (n : Nat), TableInv s →
    TableInv (expireLoop now fuel s lo n).1 :=
  expireLoop_keeps pageStep_inv now

/-- the paging loops of `iter` and `iterkeys` only log their SELECTs -/
theorem iterLoop_keeps {P : Cache → Prop} (hP : ∀ {s : Cache} (a : String), P s → P (s.logSql a))
    (asc : Bool) (bound : Nat) : ∀ (fuel : Nat) {s : Cache} (cur : Nat) (acc : List Row),
    P s → P (iterLoop asc bound fuel s cur acc).1 := by
  intro fuel
  induction fuel with
  | zero => intro s cur acc h; exact h
  | succ k ih =>
    intro s cur acc h
    simp only [iterLoop]
    split
    · exact hP _ h
    · exact ih _ _ (hP _ h)

theorem iterkeysLoop_keeps {P : Cache → Prop} (hP : ∀ {s : Cache} (a : String), P s → P (s.logSql a))
    (rev : Bool) : ∀ (fuel : Nat) {s : Cache} (cur : Row) (acc : List Row),
    P s → P (iterkeysLoop rev fuel s cur acc).1 := by
  intro fuel
  induction fuel with
  | zero => intro s cur acc h; exact h
  | succ k ih =>
    intro s cur acc h
    simp only [iterkeysLoop]
    split
    · exact hP _ h
    · exact ih _ _ (hP _ h)

theorem transact_rows_of {s : Cache} (body : Cache → Body) (fresh : Option Nat) (P : List Row → Prop)
    (hb : ∀ t, t.rows = s.rows → t.count = s.count → t.size = s.size → t.snap = s.snap →
      P (body t).s.rows ∧ ((body t).ok = false → P s.rows)) :
    P (s.transact body fresh).1.rows := by
  rcases Nat.eq_zero_or_pos s.depth with hd | hd
  · rw [transact_outer s hd]
    have hB := hb (s.log .begin) rfl rfl rfl rfl
    split
    · rw [fremoveAll_rows]; exact hB.1
    · rename_i hok
      rw [fremoveAll_rows]
      exact hB.2 (by simpa using hok)
  · rw [transact_inblock s hd]
    obtain ⟨e1, e2, e3, e4⟩ := reg_tbl s fresh
    split <;> exact (hb _ e1 e2 e3 e4).1

theorem keysUnique_eq {rows : List Row} (hu : KeysUnique rows) {k : SqlVal} {raw : Bool} {r r' : Row}
    (hr : r ∈ rows) (hr' : r' ∈ rows) (hk : keyMatch k raw r = true) (hk' : keyMatch k raw r' = true) :
    r = r' := by
  simp only [keyMatch, Bool.and_eq_true, beq_iff_eq] at hk hk'
  have h1 : r.key.eqv r'.key = true := SqlVal.eqv_trans _ _ _ hk.1 (SqlVal.eqv_symm _ _ hk'.1)
  have h2 : r'.key.eqv r.key = true := SqlVal.eqv_symm _ _ h1
  induction rows with
  | nil => cases hr
  | cons x xs ih =>
    have hx := List.pairwise_cons.mp hu
    rcases List.mem_cons.mp hr with rfl | ha <;> rcases List.mem_cons.mp hr' with rfl | hb
    · rfl
    · exact absurd ⟨h1, hk.2.trans hk'.2.symm⟩ (hx.1 r' hb)
    · exact absurd ⟨h2, hk'.2.trans hk.2.symm⟩ (hx.1 r ha)
    · exact ih hx.2 ha hb

/-- the columns a read never changes -/
def readProj (r : Row) : Nat × SqlVal × Bool × SqlVal × Option Nat × Option Int × SqlVal :=
  (r.rowid, r.key, r.raw, r.val, r.file, r.expT, r.tag)

theorem updGet_readProj (s : Cache) (rowid : Nat) (now : Int) :
    (s.updGet rowid now).rows.map readProj = s.rows.map readProj := by
  show (s.rows.map _).map readProj = _
  rw [List.map_map]
  apply List.map_congr_left
  intro r _
  by_cases hc : r.rowid = rowid <;> simp [hc, readProj]

theorem updRow_mem {s : Cache} (hasc : RowidsAsc s.rows) {r0 : Row} (hr0 : r0 ∈ s.rows) (now : Int)
    (c : Cols) {r : Row} (hr : r ∈ (s.updRow r0.rowid now c).rows) :
    (r.key = r0.key ∧ r.raw = r0.raw) ∨ r ∈ s.rows := by
  have hr' : r ∈ s.rows.map _ := hr
  obtain ⟨x, hx, rfl⟩ := List.mem_map.1 hr'
  by_cases hc : x.rowid = r0.rowid
  · have := rowidsAsc_eq_of_rowid hasc hx hr0 hc
    subst this
    left; simp
  · right; simp [hc]; exact hx

theorem insRow_mem {s : Cache} (k : SqlVal) (raw : Bool) (now : Int) (c : Cols) {r : Row}
    (hr : r ∈ (s.insRow k raw now c).rows) : (r.key = k ∧ r.raw = raw) ∨ r ∈ s.rows := by
  have hr' : r ∈ s.rows ++ [_] := hr
  rcases List.mem_append.1 hr' with h | h
  · right; exact h
  · left; simp at h; subst h; exact ⟨rfl, rfl⟩

/-! ### `incr`: its transaction body, and the ways the body ends -/

/-- `incr` on a key without a live row: `default + delta` is stored as by `set`, but the value
file is written inside the transaction -/
def incrFresh (E : Externals) (dbk : SqlVal) (raw : Bool) (now delta : Int) (dflt : Option Int)
    (s : Cache) (upd : Option Row) : Body :=
  match dflt with
  | none => { s := s, out := .exc "KeyError", ok := false }
  | some d =>
    let value := d + delta
    match s.store E (.int value) false with
    | .error _ => { s := s, out := .exc "UnicodeEncodeError", ok := false }
    | .ok (s, c) =>
      let s := s.regCreated c.file
      match upd with
      | none =>
        let s := s.insRow dbk raw now c
        let (s, cl) := s.cullW now
        { s := s, out := .int value, cleanup := cl }
      | some r =>
        let s := s.updRow r.rowid now c
        let (s, cl) := s.cullW now
        { s := s, out := .int value, cleanup := cl ++ [r.file] }

def incrBody (E : Externals) (dbk : SqlVal) (raw : Bool) (now delta : Int) (dflt : Option Int)
    (s : Cache) : Body :=
  let old := s.selKey dbk raw
  let s := s.logSql "selKey"
  match old with
  | none => incrFresh E dbk raw now delta dflt s none
  | some r =>
    if expired now r then incrFresh E dbk raw now delta dflt s (some r)
    else
      match r.val with
      | .int i =>
        if inI64 (i + delta) then
          { s := s.updIncr r.rowid now (.int (i + delta)), out := .int (i + delta) }
        else { s := s.log (.sqlFail "updIncr"), out := .exc "OverflowError", ok := false }
      | _ => { s := s, out := .exc "TypeError", ok := false }

theorem incr_eq (s : Cache) (E : Externals) (now : Int) (k : PyVal) (delta : Int) (dflt : Option Int) :
    s.incr E now k delta dflt =
      s.transact (incrBody E (DC.put E s.cfg.disk k).1 (DC.put E s.cfg.disk k).2 now delta dflt) := by
  unfold incr incrBody incrFresh
  rfl

/-- `b` is the result of storing a value and writing it over the row `upd`, or into a new row,
followed by the lazy cull -/
def IncrWrote (E : Externals) (dbk : SqlVal) (raw : Bool) (now : Int) (s : Cache) (upd : Option Row)
    (b : Body) : Prop :=
  ∃ v s1 c, s.store E v false = .ok (s1, c) ∧ b.ok = true ∧
    ((upd = none ∧ b.s = (((s1.regCreated c.file).insRow dbk raw now c).cullW now).1 ∧
        b.cleanup = (((s1.regCreated c.file).insRow dbk raw now c).cullW now).2) ∨
     ∃ r, upd = some r ∧ b.s = (((s1.regCreated c.file).updRow r.rowid now c).cullW now).1 ∧
        b.cleanup = (((s1.regCreated c.file).updRow r.rowid now c).cullW now).2 ++ [r.file])

theorem incrFresh_exits (E : Externals) (dbk : SqlVal) (raw : Bool) (now delta : Int) (dflt : Option Int)
    (s : Cache) (upd : Option Row) :
    ((incrFresh E dbk raw now delta dflt s upd).ok = false ∧ (incrFresh E dbk raw now delta dflt s upd).s = s) ∨
    IncrWrote E dbk raw now s upd (incrFresh E dbk raw now delta dflt s upd) := by
  unfold incrFresh
  cases dflt with
  | none => exact .inl ⟨rfl, rfl⟩
  | some d =>
    simp only
    cases hst : s.store E (.int (d + delta)) false with
    | error e => exact .inl ⟨rfl, rfl⟩
    | ok p =>
      obtain ⟨s1, c⟩ := p
      refine .inr ⟨_, s1, c, hst, ?_⟩
      cases upd with
      | none => exact ⟨rfl, .inl ⟨rfl, rfl, rfl⟩⟩
      | some r => exact ⟨rfl, .inr ⟨r, rfl, rfl, rfl⟩⟩

/-- the body of `incr` raises and leaves only log entries; or updates a live integer in place; or
stores `default + delta` over the dead row of the key or into a new row -/
theorem incrBody_exits (E : Externals) (dbk : SqlVal) (raw : Bool) (now delta : Int) (dflt : Option Int)
    (t : Cache) (b : Body) (hb : b = incrBody E dbk raw now delta dflt t) :
    (b.ok = false ∧ ∃ tr, b.s = { t with trace := tr }) ∨
    (∃ r v, t.selKey dbk raw = some r ∧ b.ok = true ∧ b.cleanup = [] ∧
      b.s = (t.logSql "selKey").updIncr r.rowid now v) ∨
    IncrWrote E dbk raw now (t.logSql "selKey") (t.selKey dbk raw) b := by
  subst hb
  unfold incrBody
  have fresh : ∀ upd, _ ∨ _ := incrFresh_exits E dbk raw now delta dflt (t.logSql "selKey")
  cases t.selKey dbk raw with
  | none => exact (fresh none).imp (fun h => ⟨h.1, _, h.2⟩) .inr
  | some r =>
    simp only
    split
    · exact (fresh (some r)).imp (fun h => ⟨h.1, _, h.2⟩) .inr
    · split
      · split
        · exact .inr (.inl ⟨r, _, rfl, rfl, rfl, rfl⟩)
        · exact .inl ⟨rfl, _, rfl⟩
      · exact .inl ⟨rfl, _, rfl⟩

/-! ### `get`: its two paths, and how they end -/

/-- `get` without statistics and without an access policy: one SELECT, no transaction -/
def getFast (E : Externals) (dbk : SqlVal) (raw : Bool) (now : Int) (read et tg : Bool) (s : Cache) :
    Cache × Out :=
  let hit := s.selLive dbk raw now
  let s := s.logSql "selLive"
  match hit with
  | none => (s, defaultFlags et tg)
  | some r =>
    let (s, f) := s.fetchRow E r read
    match f with
    | .ioerror => (s, defaultFlags et tg)
    | f => (s, withFlags (fetchedOut f) et tg r.expT r.tag)

/-- the transaction body of `get` otherwise -/
def getBody (E : Externals) (dbk : SqlVal) (raw : Bool) (now : Int) (read et tg : Bool) (s : Cache) : Body :=
  let hit := s.selLive dbk raw now
  let s := s.logSql "selLive"
  match hit with
  | none =>
    let s := if s.statistics then { s with misses := s.misses + 1 }.logSql "miss" else s
    { s := s, out := defaultFlags et tg }
  | some r =>
    let (s, f) := s.fetchRow E r read
    match f with
    | .ioerror =>
      let s := if s.statistics then { s with misses := s.misses + 1 }.logSql "miss" else s
      { s := s, out := defaultFlags et tg }
    | f =>
      let s := if s.statistics then { s with hits := s.hits + 1 }.logSql "hit" else s
      let s := if policyUpdates s.cfg.policy then s.updGet r.rowid now else s
      { s := s, out := withFlags (fetchedOut f) et tg r.expT r.tag }

theorem get_eq (s : Cache) (E : Externals) (now : Int) (k : PyVal) (read et tg : Bool) :
    s.get E now k read et tg =
      if !s.statistics && !policyUpdates s.cfg.policy then
        getFast E (DC.put E s.cfg.disk k).1 (DC.put E s.cfg.disk k).2 now read et tg s
      else s.transact (getBody E (DC.put E s.cfg.disk k).1 (DC.put E s.cfg.disk k).2 now read et tg) := rfl

theorem fetchRow_fst (s : Cache) (E : Externals) (r : Row) (read : Bool) :
    ∃ tr, (s.fetchRow E r read).1 = { s with trace := tr } := by
  unfold fetchRow
  split
  · simp only; split <;> exact ⟨_, rfl⟩
  · exact ⟨_, rfl⟩

theorem getFast_fst (E : Externals) (dbk : SqlVal) (raw : Bool) (now : Int) (read et tg : Bool) (s : Cache) :
    ∃ tr, (getFast E dbk raw now read et tg s).1 = { s with trace := tr } := by
  unfold getFast
  simp only
  split
  · exact ⟨_, rfl⟩
  · rename_i r _
    obtain ⟨tr, e⟩ := fetchRow_fst (s.logSql "selLive") E r read
    split <;> exact ⟨tr, e⟩

theorem getBody_ok (E : Externals) (dbk : SqlVal) (raw : Bool) (now : Int) (read et tg : Bool) (t : Cache) :
    (getBody E dbk raw now read et tg t).ok = true ∧ (getBody E dbk raw now read et tg t).cleanup = [] := by
  unfold getBody
  simp only
  split
  · exact ⟨rfl, rfl⟩
  · split <;> exact ⟨rfl, rfl⟩

/-- with or without the transaction, `get` computes its result in the same way -/
theorem getBody_out (E : Externals) (dbk : SqlVal) (raw : Bool) (now : Int) (read et tg : Bool) (t : Cache) :
    (getBody E dbk raw now read et tg t).out = (getFast E dbk raw now read et tg t).2 := by
  unfold getBody getFast
  simp only
  split
  · rfl
  · split <;> rfl

/-- the body of `get` always succeeds with nothing to clean up; it changes the log and the
statistics counters, and with an access policy the row it read -/
theorem getBody_exits (E : Externals) (dbk : SqlVal) (raw : Bool) (now : Int) (read et tg : Bool) (t : Cache) :
    (getBody E dbk raw now read et tg t).ok = true ∧ (getBody E dbk raw now read et tg t).cleanup = [] ∧
    ∃ tr h m, (getBody E dbk raw now read et tg t).s = { t with trace := tr, hits := h, misses := m } ∨
      ∃ id, (getBody E dbk raw now read et tg t).s =
        ({ t with trace := tr, hits := h, misses := m } : Cache).updGet id now := by
  refine ⟨(getBody_ok ..).1, (getBody_ok ..).2, ?_⟩
  -- the statistics counters, on any state `u` that differs from `t` in log and counters only
  have miss : ∀ u : Cache, (∃ tr h m, u = { t with trace := tr, hits := h, misses := m }) →
      ∃ tr h m, (if u.statistics then ({ u with misses := u.misses + 1 } : Cache).logSql "miss" else u) =
        { t with trace := tr, hits := h, misses := m } := by
    rintro _ ⟨tr, h, m, rfl⟩
    split <;> exact ⟨_, _, _, rfl⟩
  have hit : ∀ u : Cache, (∃ tr h m, u = { t with trace := tr, hits := h, misses := m }) →
      ∃ tr h m, (if u.statistics then ({ u with hits := u.hits + 1 } : Cache).logSql "hit" else u) =
        { t with trace := tr, hits := h, misses := m } := by
    rintro _ ⟨tr, h, m, rfl⟩
    split <;> exact ⟨_, _, _, rfl⟩
  unfold getBody
  simp only
  split
  · obtain ⟨tr, h, m, e⟩ := miss (t.logSql "selLive") ⟨_, _, _, rfl⟩
    exact ⟨tr, h, m, .inl e⟩
  · rename_i r _
    obtain ⟨tr, e⟩ := fetchRow_fst (t.logSql "selLive") E r read
    split
    · obtain ⟨tr, h, m, e⟩ := miss _ ⟨tr, _, _, e⟩
      exact ⟨tr, h, m, .inl e⟩
    · obtain ⟨tr, h, m, e⟩ := hit _ ⟨tr, _, _, e⟩
      refine ⟨tr, h, m, ?_⟩
      dsimp only
      rw [e]
      split
      · exact .inr ⟨_, rfl⟩
      · exact .inl rfl

end DC.Cache
