/-
C03_Refine, model side, the bulk removals: `clear`, `evict`, `expire`, `cull`
(policy `none`).  The row sets come from the paging theorems (C03_Paging, C04,
C09); here: what the removal loops keep (`rf_Frame`: no new file, the same
observations, the same configuration), and what a filtered table denotes.
-/
import DC.Proofs.RefineOps
import DC.Proofs.LossyLemmas

namespace DC.Cache
open DC.Spec

/-- `t` comes from `s` by removals: no new file, the same observations of the database size, the
same configuration -/
structure rf_Frame (s t : Cache) : Prop where
  files : ∀ p ∈ t.files, p ∈ s.files
  env : t.env = s.env
  cfg : t.cfg = s.cfg

theorem rf_Frame.trans {a b c : Cache} (h1 : rf_Frame a b) (h2 : rf_Frame b c) : rf_Frame a c :=
  ⟨fun p hp => h1.files p (h2.files p hp), h2.env.trans h1.env, h2.cfg.trans h1.cfg⟩

theorem rf_transact_okbody (s : Cache) (body : Cache → Body) (hok : ∀ t, (body t).ok = true)
    (hb : ∀ t, (body t).s.files = t.files ∧ (body t).s.env = t.env ∧ (body t).s.cfg = t.cfg) :
    rf_Frame s (s.transact body).1 := by
  rcases Nat.eq_zero_or_pos s.depth with hd | hd
  · rw [transact_outer s hd, if_pos (hok _)]
    refine ⟨fun p hp => ?_, (fremoveAll_size_env _ _).2.trans (hb _).2.1,
      (fremoveAll_cfg _ _).trans (hb _).2.2⟩
    have := mem_of_fremoveAll hp
    rw [log_files, (hb _).1] at this
    exact this
  · rw [transact_inblock s hd, if_pos (hok _)]
    exact ⟨fun p hp => by rw [← (hb s).1]; exact hp, (hb s).2.1, (hb s).2.2⟩

theorem rf_deletePage_frame (s : Cache) (page : List Row) (sel : String) :
    rf_Frame s (s.deletePage page sel) := by
  rw [deletePage_eq]
  refine rf_transact_okbody s (pageBody page sel) (pageBody_ok page sel) (fun t =>
    ⟨(pageBody_keep page sel t).2.2.2.2.2, ?_, (pageBody_keep page sel t).2.2.2.1⟩)
  unfold pageBody
  split
  · rfl
  · simp only [logSql_env, delIn_env]

theorem cullStep_frame (s : Cache) (rows : List Row) : rf_Frame s (cullStep s rows) :=
  rf_transact_okbody s _ (fun _ => rfl) (fun t =>
    ⟨by simp only [logSql_files, (delIn_keep _ _).2.1], by simp only [logSql_env, delIn_env],
      by simp only [logSql_cfg, delIn_cfg]⟩)

theorem cullEmpty_frame (s : Cache) : rf_Frame s (cullEmpty s) :=
  rf_transact_okbody s _ (fun _ => rfl) (fun _ => ⟨rfl, rfl, rfl⟩)

/-! the three paging loops only apply `deletePage` -/

theorem rf_clearLoop_frame : ∀ (fuel : Nat) (s : Cache) (cur n : Nat),
    rf_Frame s (clearLoop fuel s cur n).1 := by
  intro fuel
  induction fuel with
  | zero => intro s cur n; exact ⟨fun _ h => h, rfl, rfl⟩
  | succ f ih =>
    intro s cur n
    unfold clearLoop
    simp only
    split
    · exact rf_deletePage_frame _ _ _
    · exact (rf_deletePage_frame _ _ _).trans (ih _ _ _)

theorem rf_evictLoop_frame (tag : SqlVal) : ∀ (fuel : Nat) (s : Cache) (cur n : Nat),
    rf_Frame s (evictLoop tag fuel s cur n).1 := by
  intro fuel
  induction fuel with
  | zero => intro s cur n; exact ⟨fun _ h => h, rfl, rfl⟩
  | succ f ih =>
    intro s cur n
    unfold evictLoop
    simp only
    split
    · exact rf_deletePage_frame _ _ _
    · exact (rf_deletePage_frame _ _ _).trans (ih _ _ _)

theorem rf_expireLoop_frame (now : Int) : ∀ (fuel : Nat) (s : Cache) (lo : Option Int) (n : Nat),
    rf_Frame s (expireLoop now fuel s lo n).1 := by
  intro fuel
  induction fuel with
  | zero => intro s lo n; exact ⟨fun _ h => h, rfl, rfl⟩
  | succ f ih =>
    intro s lo n
    unfold expireLoop
    simp only
    split
    · exact rf_deletePage_frame _ _ _
    · exact (rf_deletePage_frame _ _ _).trans (ih _ _ _)

theorem rf_clear_frame (s : Cache) : rf_Frame s (s.clear).1 :=
  rf_clearLoop_frame (s.rows.length + 1) s 0 0

theorem rf_evict_frame (s : Cache) (tag : SqlVal) : rf_Frame s (s.evict tag).1 :=
  rf_evictLoop_frame tag (s.rows.length + 1) s 0 0

theorem rf_expire_frame (s : Cache) (now : Int) : rf_Frame s (s.expire now).1 :=
  rf_expireLoop_frame now (s.rows.length + 1) s none 0

theorem rf_evict_files (s : Cache) (tag : SqlVal) : ∀ p ∈ (s.evict tag).1.files, p ∈ s.files :=
  (rf_evict_frame s tag).files

theorem rf_expire_files (s : Cache) (now : Int) : ∀ p ∈ (s.expire now).1.files, p ∈ s.files :=
  (rf_expire_frame s now).files

theorem volume_files (s : Cache) : s.volume.1.files = s.files := congrArg Core.files (core_volume s)

theorem cullLoop_keep : ∀ (fuel : Nat) (s : Cache) (n : Nat),
    (∀ p ∈ (cullLoop fuel s n).1.files, p ∈ s.files) ∧ (cullLoop fuel s n).1.cfg = s.cfg := by
  intro fuel
  induction fuel with
  | zero => intro s n; exact ⟨fun _ h => h, rfl⟩
  | succ fuel ih =>
    intro s n
    rw [cullLoop_succ]
    have hv : ∀ t : Cache, rf_Frame s.volume.1 t → (∀ p ∈ t.files, p ∈ s.files) ∧ t.cfg = s.cfg :=
      fun t h => ⟨fun p hp => volume_files s ▸ h.files p hp, h.cfg.trans (volume_cfg s)⟩
    split
    · exact ⟨fun p hp => volume_files s ▸ hp, volume_cfg s⟩
    · split
      · exact hv _ (cullEmpty_frame _)
      · obtain ⟨h1, h2⟩ := ih (cullStep s.volume.1 (s.volume.1.selPolicy s.volume.1.cfg.batch))
          (n + (s.volume.1.selPolicy s.volume.1.cfg.batch).length)
        obtain ⟨h3, h4⟩ := hv _ (cullStep_frame _ _)
        exact ⟨fun p hp => h3 p (h1 p hp), h2.trans h4⟩

theorem rf_cull_keep (s : Cache) (now : Int) :
    (∀ p ∈ (s.cull now).1.files, p ∈ s.files) ∧ (s.cull now).1.cfg = s.cfg := by
  rw [cull_eq]
  have h := rf_expireLoop_frame now (s.rows.length + 1) s none 0
  split
  · exact ⟨h.files, h.cfg⟩
  · obtain ⟨h1, h2⟩ := cullLoop_keep ((expireLoop now (s.rows.length + 1) s none 0).1.rows.length + 1)
      (expireLoop now (s.rows.length + 1) s none 0).1 (expireLoop now (s.rows.length + 1) s none 0).2
    exact ⟨fun p hp => h.files p (h1 p hp), h2.trans h.cfg⟩

theorem rf_cull_files (s : Cache) (now : Int) (_hasc : RowidsAsc s.rows) (_hpg : 0 < s.cfg.page)
    (_hp : s.cfg.policy = .none) : ∀ p ∈ (s.cull now).1.files, p ∈ s.files := (rf_cull_keep s now).1

theorem rf_view_filter {c c' : Cache} (hg : Good c) (hg' : Good c') (p : Row → Bool) (pE : Entry → Bool)
    (hpe : ∀ r, p r = pE (rf_ent c r))
    (hrows : c'.rows = c.rows.filter p) (hfiles : ∀ q ∈ c'.files, q ∈ c.files) (k' : Key) :
    rf_view c' k' = (rf_view c k').filter pE := by
  rw [rf_same hg' (b := c) hfiles hg.finv.nodup, hrows, rf_look_filter hg.tinv.tbl.uniq]
  unfold rf_view rf_look
  cases c.rows.find? (keyMatch k'.1 k'.2) with
  | none => rfl
  | some x =>
    simp only [Option.filter, Option.map_some, hpe x]
    split <;> rfl

theorem rf_VRel_filter {v d : Option Entry} {now : Int} (pE : Entry → Bool) (h : rf_VRel v d now) :
    rf_VRel (v.filter pE) (d.filter pE) now := by
  rcases rf_VRel_cases h with h1 | ⟨h1, e, hd, he, -⟩
  · rw [h1]; exact rf_VRel_refl _ _
  · rw [h1, hd]
    simp only [Option.filter]
    split
    · exact .inr ⟨rfl, he⟩
    · rfl

theorem rf_filter_refines {c c' : Cache} {m : Dict} {now : Int} (pE : Entry → Bool)
    (hr : m.WF ∧ ∀ k, rf_VRel (rf_view c k) (m.get k) now)
    (hV : ∀ k', rf_view c' k' = (rf_view c k').filter pE) :
    Dict.WF (m.filter (fun x => pE x.2)) ∧
    ∀ k, rf_VRel (rf_view c' k) (Dict.get (m.filter (fun x => pE x.2)) k) now := by
  refine ⟨rf_wf_filter hr.1 _, fun k => ?_⟩
  rw [hV k, rf_get_filter hr.1]
  exact rf_VRel_filter pE (hr.2 k)

theorem rf_view_nil {c : Cache} (h : c.rows = []) (k : Key) : rf_view c k = none := by
  unfold rf_view rf_look; rw [h]; rfl

end DC.Cache
