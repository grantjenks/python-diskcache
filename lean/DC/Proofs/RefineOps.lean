/-
C03_Refine, model side: what every key-addressed method of the Cache model does
to the *view* of the state (`rf_view`, DC/Proofs/RefineLemmas.lean), for a
quiescent state (`Good`); here the facts about `transact` that all calls share, and the
read-only calls `get` and `contains`.
-/
import DC.Proofs.RefineLemmas
import DC.Proofs.Block

namespace DC.Cache
open DC.Spec

theorem rf_view_core {a b : Cache} (h : core a = core b) (k : Key) : rf_view a k = rf_view b k := by
  have hr : a.rows = b.rows := congrArg Core.rows h
  have hf : a.files = b.files := congrArg Core.files h
  unfold rf_view rf_look
  rw [hr]
  congr 1
  funext r
  unfold rf_ent fileGet
  rw [hf]

theorem rf_selLive {s : Cache} (hu : KeysUnique s.rows) (k : SqlVal) (raw : Bool) (now : Int) :
    s.selLive k raw now = (s.selKey k raw).filter (live now) := rf_find_and hu k raw _

theorem rf_rowid_ne {s : Cache} (hi : TableInv s) {r0 x : Row} (hr0 : r0 ∈ s.rows) (hx : x ∈ s.rows)
    {K k' : Key} (hk0 : keyMatch K.1 K.2 r0 = true) (hkx : keyMatch k'.1 k'.2 x = true)
    (hk : sameKey K k' = false) : x.rowid ≠ r0.rowid := by
  intro hid
  have := rowidsAsc_eq_of_rowid hi.tbl.asc hx hr0 hid
  subst this
  rw [rf_keyMatch_sameKey] at hk0 hkx
  rw [rf_sameKey_trans (rf_sameKey_symm hk0) hkx] at hk
  cases hk

theorem rf_transact (s : Cache) (body : Cache → Body) (fresh : Option Nat) (hd : s.depth = 0) :
    (s.transact body fresh).1.rows =
      (if (body (s.log .begin)).ok then (body (s.log .begin)).s.rows else s.rows) ∧
    (∀ p ∈ (s.transact body fresh).1.files, p ∈ (body (s.log .begin)).s.files) ∧
    (s.transact body fresh).1.cfg = (body (s.log .begin)).s.cfg ∧
    (s.transact body fresh).2 = (body (s.log .begin)).out := by
  rw [transact_outer s hd]
  split <;> exact ⟨fremoveAll_rows .., fun p hp => (mem_of_fremoveAll hp :), fremoveAll_cfg .., rfl⟩

theorem rf_transact_congr (s : Cache) {b1 b2 : Cache → Body} (fresh : Option Nat) (hd : s.depth = 0)
    (h : b1 (s.log .begin) = b2 (s.log .begin)) : s.transact b1 fresh = s.transact b2 fresh := by
  rw [transact_outer s hd, transact_outer s hd, h]

theorem rf_fetchRow (s : Cache) (E : Externals) (r : Row) (read : Bool)
    (href : ∀ f, r.file = some f → ∃ ct, s.fileGet f = some ct) :
    (s.fetchRow E r read).2 =
      fetch E s.cfg.disk (rf_ent s r).mode (rf_ent s r).content (rf_ent s r).content.isSome
        (rf_ent s r).val read := by
  unfold fetchRow rf_ent
  cases hf : r.file with
  | none => rfl
  | some f =>
    obtain ⟨ct, hct⟩ := href f hf
    simp only [Option.bind_some, hct, Option.isSome_some]
    split <;> simp [hct]

/-- the result shape of `get` / `pop` is `Entry.out` -/
theorem rf_out (s : Cache) (E : Externals) (r : Row) (read et tg : Bool)
    (href : ∀ f, r.file = some f → ∃ ct, s.fileGet f = some ct) :
    (match (s.fetchRow E r read).2 with
      | .ioerror => defaultFlags et tg
      | f => withFlags (fetchedOut f) et tg r.expT r.tag) = (rf_ent s r).out E s.cfg read et tg := by
  rw [rf_fetchRow s E r read href]
  rfl

theorem rf_transact_core_same (s : Cache) (body : Cache → Body) (fresh : Option Nat) (hd : s.depth = 0)
    (hb : (body (s.log .begin)).ok = true ∧ (body (s.log .begin)).cleanup = [] ∧
      core (body (s.log .begin)).s = core s) :
    core (s.transact body fresh).1 = core s := by
  rw [transact_outer s hd, if_pos hb.1, hb.2.1]
  exact hb.2.2

/-- the policy column of row `id` refreshed (`updGet`), on the core of a state -/
def rf_touchCore (c : Core) (id : Nat) (now : Int) : Core :=
  { c with rows := c.rows.map (fun r => if r.rowid == id then touchPolicy c.cfg.policy now r else r) }

theorem rf_touch_if {x s : Cache} (hx : core x = core s) (id : Nat) (now : Int) :
    core (if policyUpdates x.cfg.policy then x.updGet id now else x) = core s ∨
    (policyUpdates s.cfg.policy = true ∧
      ∃ i, core (if policyUpdates x.cfg.policy then x.updGet id now else x) =
        rf_touchCore (core s) i now) := by
  rw [show x.cfg = s.cfg from congrArg Core.cfg hx]
  split
  · rename_i h
    exact .inr ⟨h, id, by rw [← hx]; rfl⟩
  · exact .inl hx

theorem rf_transact_commits {s : Cache} {body : Cache → Body} {P : Core → Prop}
    (hb : ∀ t, core t = core s → (body t).ok = true ∧ (body t).cleanup = [] ∧ P (core (body t).s)) :
    P (core (s.transact body).1) :=
  transact_commits (P := fun c _ => P c) hb

/-- all `get` does to the core of the state: nothing, or (only under `lru` / `lfu`) the refresh
of the policy column of one row -/
theorem rf_get_state (s : Cache) (E : Externals) (now : Int) (k : PyVal) (read et tg : Bool) :
    core (s.get E now k read et tg).1 = core s ∨
    (policyUpdates s.cfg.policy = true ∧
      ∃ id, core (s.get E now k read et tg).1 = rf_touchCore (core s) id now) := by
  rw [get_eq]
  split
  · obtain ⟨tr, e⟩ := getFast_fst E _ _ now read et tg s
    rw [e]
    exact .inl rfl
  · apply rf_transact_commits (P := fun c => c = core s ∨
      (policyUpdates s.cfg.policy = true ∧ ∃ id, c = rf_touchCore (core s) id now))
    intro t ht
    refine ⟨(getBody_ok ..).1, (getBody_ok ..).2, ?_⟩
    unfold getBody
    simp only
    split
    · left
      split <;> (core_simp; exact ht)
    · split
      · left
        split <;> (core_simp; exact ht)
      · refine rf_touch_if ?_ _ _
        split <;> (core_simp; exact ht)

theorem rf_get_core (s : Cache) (E : Externals) (now : Int) (k : PyVal) (read et tg : Bool)
    (_hd : s.depth = 0) (hp : s.cfg.policy = .none) :
    core (s.get E now k read et tg).1 = core s := by
  rcases rf_get_state s E now k read et tg with h | ⟨h, -⟩
  · exact h
  · rw [hp] at h; cases h

theorem rf_get_out (s : Cache) (E : Externals) (now : Int) (k : PyVal) (read et tg : Bool)
    (hg : Good s) :
    (s.get E now k read et tg).2 =
      match s.selLive (DC.put E s.cfg.disk k).1 (DC.put E s.cfg.disk k).2 now with
      | none => defaultFlags et tg
      | some r => (rf_ent s r).out E s.cfg read et tg := by
  -- the one SELECT and the read of the row, from a state that differs from `s` in the log only
  suffices fast : ∀ t : Cache, t.rows = s.rows → t.cfg = s.cfg → t.files = s.files →
      (getFast E (DC.put E s.cfg.disk k).1 (DC.put E s.cfg.disk k).2 now read et tg t).2 = _ by
    rw [get_eq]
    split
    · exact fast s rfl rfl rfl
    · rw [transact_snd _ _ _ hg.depth, getBody_out]
      exact fast _ rfl rfl rfl
  intro t hr hc hf
  unfold getFast
  rw [selLive_rows hr]
  cases hsel : s.selLive _ _ now with
  | none => rfl
  | some r =>
    simp only
    have := rf_out s E r read et tg (rf_good_ref hg (selLive_mem hsel))
    rw [← this, fetchRow_snd_congr (t.logSql "selLive") s E r read hc hf]
    split <;> simp_all

theorem rf_selKey_cases {s : Cache} (_hi : TableInv s) (K : Key) :
    (∃ r, s.selKey K.1 K.2 = some r ∧ r ∈ s.rows ∧ keyMatch K.1 K.2 r = true ∧
      rf_view s K = some (rf_ent s r)) ∨
    (s.selKey K.1 K.2 = none ∧ rf_view s K = none) := by
  cases hsel : s.selKey K.1 K.2 with
  | some r =>
    left
    refine ⟨r, rfl, selKey_mem hsel, List.find?_some hsel, ?_⟩
    unfold rf_view rf_look
    unfold selKey at hsel
    rw [hsel]; rfl
  | none =>
    right
    refine ⟨rfl, ?_⟩
    unfold rf_view rf_look
    unfold selKey at hsel
    rw [hsel]; rfl

theorem rf_selLive_cases {s : Cache} (hi : TableInv s) (E : Externals) (k : PyVal) (now : Int) :
    (∃ r, s.selLive (DC.put E s.cfg.disk k).1 (DC.put E s.cfg.disk k).2 now = some r ∧ r ∈ s.rows ∧
      keyMatch (keyOf E s.cfg k).1 (keyOf E s.cfg k).2 r = true ∧
      rf_view s (keyOf E s.cfg k) = some (rf_ent s r) ∧ (rf_ent s r).live now = true) ∨
    (s.selLive (DC.put E s.cfg.disk k).1 (DC.put E s.cfg.disk k).2 now = none ∧
      rf_has now (rf_view s (keyOf E s.cfg k)) = false) := by
  rw [rf_selLive hi.tbl.uniq]
  rcases rf_selKey_cases hi (keyOf E s.cfg k) with ⟨r, hsel, hr, hk, hv⟩ | ⟨hsel, hv⟩
  · have hsel' : s.selKey (DC.put E s.cfg.disk k).1 (DC.put E s.cfg.disk k).2 = some r := hsel
    rw [hsel', hv]
    cases hl : live now r with
    | true => exact .inl ⟨r, by simp [Option.filter, hl], hr, hk, rfl, hl⟩
    | false => exact .inr ⟨by simp [Option.filter, hl], hl⟩
  · have hsel' : s.selKey (DC.put E s.cfg.disk k).1 (DC.put E s.cfg.disk k).2 = none := hsel
    rw [hsel', hv]
    exact .inr ⟨rfl, rfl⟩

theorem rf_get_out' (s : Cache) (E : Externals) (now : Int) (k : PyVal) (read et tg : Bool)
    (hg : Good s) :
    (s.get E now k read et tg).2 =
      match rf_view s (keyOf E s.cfg k) with
      | some e => if e.live now then e.out E s.cfg read et tg else defaultFlags et tg
      | none => defaultFlags et tg := by
  rw [rf_get_out _ _ _ _ _ _ _ hg]
  rcases rf_selLive_cases hg.tinv E k now with ⟨r, hsel, -, -, hv, hl⟩ | ⟨hsel, hh⟩
  · rw [hsel, hv]; simp [hl]
  · rw [hsel]
    cases hv : rf_view s (keyOf E s.cfg k) with
    | none => rfl
    | some e =>
      have hl : e.live now = false := by rw [hv] at hh; exact hh
      simp [hl]

theorem rf_contains_out (s : Cache) (E : Externals) (now : Int) (k : PyVal) (hg : Good s) :
    (s.contains E now k).2 =
      .bool (match rf_view s (keyOf E s.cfg k) with
        | some e => e.live now
        | none => false) := by
  show Out.bool (s.selLive (DC.put E s.cfg.disk k).1 (DC.put E s.cfg.disk k).2 now).isSome =
    .bool (rf_has now (rf_view s (keyOf E s.cfg k)))
  rcases rf_selLive_cases hg.tinv E k now with ⟨r, hsel, -, -, hv, hl⟩ | ⟨hsel, hh⟩
  · rw [hsel, hv]; simp [rf_has, hl]
  · rw [hsel, hh]; rfl

theorem rf_contains_core (s : Cache) (E : Externals) (now : Int) (k : PyVal) :
    core (s.contains E now k).1 = core s := rfl

end DC.Cache
