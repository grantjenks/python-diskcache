/- inside a block (depth > 0) every call keeps the file invariant `BI` and registers every file it
writes (`BG`) -/
import DC.Proofs.BlockInv
import DC.Proofs.CheckObserve
import DC.Proofs.RefineWrite
import DC.Proofs.Queue

namespace DC.Cache

theorem nobound (n : Nat) : ∀ f, some f ∈ ([] : List (Option Nat)) → f < n :=
  fun _ hf => (List.not_mem_nil hf).elim

theorem BI.same {x y : Cache} (h : BI x) (h1 : y.rows = x.rows) (h2 : y.files = x.files)
    (h3 : y.nfile = x.nfile) (h6 : y.pending = x.pending) (h7 : y.created = x.created) : BI y := by
  obtain ⟨cl, hP, hS⟩ := h
  refine ⟨cl, ?_, ?_⟩
  · have : fcore y = { fcore x with cfg := y.cfg, statistics := y.statistics } := by
      simp only [fcore, qz, core, h1, h2, h3]
    rw [this]
    exact ⟨hP.uid, hP.ref, hP.inj, hP.fresh, hP.nodup, hP.orphan, hP.depth, hP.snap, hP.pending, hP.created⟩
  · exact hS.of_eq h6 h7 h3

/-- inside a block `_remove_committed` defers the removal: the file joins `pending` -/
theorem removeCommitted_BI {t : Cache} {cl : List (Option Nat)} {f : Option Nat} (hd : 0 < t.depth)
    (hP : PI (fcore t) (cl ++ [f])) (hS : Sub cl t) (hlt : ∀ g, f = some g → g < t.nfile) :
    BI (t.removeCommitted f) := by
  unfold removeCommitted
  cases f with
  | none =>
    refine ⟨cl ++ [none], hP, ?_, ?_⟩
    · intro g hg
      simp only [List.mem_append, List.mem_singleton, reduceCtorEq, or_false] at hg
      exact hS.inn g hg
    · intro g hg
      exact ⟨List.mem_append_left _ (hS.pend g hg).1, (hS.pend g hg).2⟩
  | some f =>
    simp only [gt_iff_lt, hd, if_true]
    refine ⟨cl ++ [some f], hP, ?_, ?_⟩
    · intro g hg
      simp only [List.mem_append, List.mem_singleton, Option.some.injEq] at hg
      rcases hg with hg | rfl
      · rcases hS.inn g hg with h1 | h1
        · exact .inl (List.mem_append_left _ h1)
        · exact .inr h1
      · exact .inl (by simp)
    · intro g hg
      have hg : some g ∈ t.pending ++ [some f] := hg
      simp only [List.mem_append, List.mem_singleton, Option.some.injEq] at hg
      rcases hg with hg | rfl
      · exact ⟨List.mem_append_left _ (hS.pend g hg).1, (hS.pend g hg).2⟩
      · exact ⟨by simp, hlt g rfl⟩

theorem reg_fields (x : Cache) (f : Option Nat) :
    (reg x f).pending = x.pending ∧ (reg x f).nfile = x.nfile ∧ ∀ g ∈ x.created, g ∈ (reg x f).created := by
  cases f with
  | none => exact ⟨rfl, rfl, fun _ h => h⟩
  | some f => exact ⟨rfl, rfl, fun _ h => List.mem_append_left _ h⟩

/-- the tail of `set`, `add` and `incr` on a key that has a row: the row takes the stored value, then
the lazy cull runs.  The row's old file and what the cull evicts go to cleanup; the new file is
referenced and leaves the list. -/
theorem fPI_updRow_cullW {s : Cache} {cl : List (Option Nat)} {c : Cols} {r : Row} (now : Int)
    (hP : PI (fcore s) (c.file :: cl)) (hr : r ∈ s.rows)
    (hfile : ∀ g, c.file = some g → ∃ ct, (g, ct) ∈ s.files ∧ ct.size = c.size) :
    PI (fcore ((s.updRow r.rowid now c).cullW now).1)
      (r.file :: ((s.updRow r.rowid now c).cullW now).2 ++ dropFile cl c.file) ∧
    ∀ f, some f ∈ r.file :: ((s.updRow r.rowid now c).cullW now).2 → f < s.nfile := by
  have h1 := fPI_updRow (cl2 := r.file :: dropFile cl c.file) hP r hr now c
    (by intro g hg; exact ⟨by simp [hg], hfile g hg⟩)
    (by intro f; simp [mem_dropFile]; grind)
  refine ⟨(fcullW_PI _ now _ h1).cl_congr (by intro f; simp; grind), ?_⟩
  intro f hf
  rcases List.mem_cons.1 hf with hf | hf
  · exact hP.ref_lt (c := fcore s) hr hf.symm
  · exact fcullW_lt _ now h1 f hf

/-- the same on a new key: a row is inserted -/
theorem fPI_insRow_cullW {s : Cache} {cl : List (Option Nat)} {c : Cols} (k : SqlVal) (raw : Bool) (now : Int)
    (hP : PI (fcore s) (c.file :: cl))
    (hfile : ∀ g, c.file = some g → ∃ ct, (g, ct) ∈ s.files ∧ ct.size = c.size) :
    PI (fcore ((s.insRow k raw now c).cullW now).1)
      (((s.insRow k raw now c).cullW now).2 ++ dropFile cl c.file) ∧
    ∀ f, some f ∈ ((s.insRow k raw now c).cullW now).2 → f < s.nfile := by
  have h1 := fPI_insRow (cl2 := dropFile cl c.file) hP k raw now c
    (by intro g hg; exact ⟨by simp [hg], hfile g hg⟩)
    (by intro f; simp [mem_dropFile]; grind)
  exact ⟨(fcullW_PI _ now _ h1).cl_congr (by intro f; simp [or_comm]), fcullW_lt _ now h1⟩

/-- what the body of `set`, `add` or `push` leaves, run after `store` has written the file `f` (listed
first in the cleanup list it is given): the file is attached to a row and leaves the list, or it is
handed to cleanup itself, or the body fails and the list stands -/
def FreshBI (cl : List (Option Nat)) (f : Option Nat) (y : Cache) (b : Body) : Prop :=
  (b.ok = true ∧ PI (fcore b.s) (b.cleanup ++ dropFile cl f) ∧ ∀ g, some g ∈ b.cleanup → g < y.nfile) ∨
  (b.ok = true ∧ PI (fcore b.s) (b.cleanup ++ cl) ∧ ∀ g, some g ∈ b.cleanup → g < y.nfile) ∨
  (b.ok = false ∧ PI (fcore b.s) (f :: cl))

theorem setBody_fPI (dbk : SqlVal) (raw : Bool) (now : Int) (c : Cols) (y : Cache) (cl : List (Option Nat))
    (hP : PI (fcore y) (c.file :: cl))
    (hfile : ∀ g, c.file = some g → ∃ ct, (g, ct) ∈ y.files ∧ ct.size = c.size) :
    FreshBI cl c.file y (setBody dbk raw now c y) := by
  unfold setBody
  split
  · exact .inr (.inr ⟨rfl, hP⟩)
  split
  · exact .inr (.inr ⟨rfl, hP⟩)
  simp only
  split
  · rename_i r hr
    exact .inl ⟨rfl, fPI_updRow_cullW (s := y.logSql "selKey") now hP (selKey_mem hr) hfile⟩
  · exact .inl ⟨rfl, fPI_insRow_cullW (s := y.logSql "selKey") dbk raw now hP hfile⟩

/-- what these calls and the loops carry: still inside the block, invariant, and every new file registered -/
structure BG (a x : Cache) : Prop where
  pos : 0 < x.depth
  bi : BI x
  grow : Grow a x

theorem BG.start {x : Cache} (hd : 0 < x.depth) (h : BI x) : BG x x := ⟨hd, h, Grow.refl x⟩

theorem BG.transact_body {a x : Cache} (h : BG a x) (body : Cache → Body) (hb : BodyBI (body x))
    (hg : Grow x (body x).s) (hd : (body x).s.depth = x.depth) : BG a (x.transact body).1 := by
  have e := transact_inblock x h.pos body none
  refine ⟨?_, transact_BI_s x h.pos body none hb, h.grow.trans (hg.trans ?_)⟩
  · rw [e]
    split <;> exact hd ▸ h.pos
  · rw [e]
    split
    · exact Grow.of_eq rfl rfl
    · exact Grow.refl _

/-- the state `incr` builds after storing a fresh value inside its transaction -/
theorem incr_store_facts {y s1 : Cache} {E : Externals} {v : PyVal} {c : Cols} {cl : List (Option Nat)}
    (hd : 0 < y.depth) (hP : PI (fcore y) cl) (hS : Sub cl y) (hst : y.store E v false = .ok (s1, c)) :
    PI (fcore (s1.regCreated c.file)) (c.file :: cl) ∧
    (∀ g, c.file = some g → ∃ ct, (g, ct) ∈ (s1.regCreated c.file).files ∧ ct.size = c.size) ∧
    Sub (dropFile cl c.file) (s1.regCreated c.file) ∧ (s1.regCreated c.file).rows = y.rows ∧
    Grow y (s1.regCreated c.file) ∧ (s1.regCreated c.file).depth = y.depth := by
  obtain ⟨hP1, hfile⟩ := fstore_PI hst hP
  obtain ⟨e1, -, e3, e4, e5, e6, e7⟩ := store_fields hst
  have hg : Grow y (s1.regCreated c.file) := by
    constructor
    · intro p hp
      rw [regCreated_files] at hp
      rcases e5 p hp with h | h
      · exact .inl h
      · right
        rw [h, regCreated_pos s1 p.1 (by rw [e1]; exact hd)]
        simp
    · intro f hf
      have hf1 : f ∈ s1.created := by rw [e4]; exact hf
      rcases regCreated_cases s1 c.file with e | ⟨g, -, -, e⟩ <;> rw [e]
      · exact hf1
      · exact List.mem_append_left _ hf1
  exact ⟨by rw [fcore_regCreated]; exact hP1, by simpa using hfile,
    hS.dropGrow (by rw [regCreated_pending, e3]) hg.created (by rw [regCreated_nfile]; exact e6) c.file e7,
    by rw [regCreated_rows, (store_keep hst).1], hg, by rw [regCreated_depth, e1]⟩

theorem incrBody_BG {x : Cache} {cl : List (Option Nat)} (hd : 0 < x.depth) (hP : PI (fcore x) cl)
    (hS : Sub cl x) (E : Externals) (dbk : SqlVal) (raw : Bool) (now delta : Int) (dflt : Option Int) :
    BodyBI (incrBody E dbk raw now delta dflt x) ∧ Grow x (incrBody E dbk raw now delta dflt x).s ∧
    (incrBody E dbk raw now delta dflt x).s.depth = x.depth := by
  have hS0 : Sub cl (x.logSql "selKey") := hS.of_eq rfl rfl
  rcases incrBody_exits E dbk raw now delta dflt x _ rfl with
    ⟨hok, tr, e⟩ | ⟨r, v, -, hok, ecl, e⟩ | ⟨v, s1, c, hst, hok, ⟨-, e, ecl⟩ | ⟨r, hr, e, ecl⟩⟩
  · refine ⟨.inr ⟨hok, cl, ?_, ?_⟩, ?_, ?_⟩ <;> rw [e]
    · exact hP
    · exact hS.of_eq rfl rfl
    · exact Grow.of_eq rfl rfl
  · refine ⟨.inl ⟨hok, cl, ?_, ?_, by rw [ecl]; exact nobound _⟩, ?_, ?_⟩ <;> rw [e]
    · rw [ecl]; exact fPI_updIncr hP _ _ _
    · exact hS.of_eq rfl rfl
    · exact Grow.of_eq rfl rfl
    · rfl
  · obtain ⟨h1, h2, h3, -, h5, h6⟩ := incr_store_facts (y := x.logSql "selKey") hd hP hS0 hst
    obtain ⟨h7, h8⟩ := fPI_insRow_cullW dbk raw now h1 h2
    have hq := ((Q4.refl (s1.regCreated c.file)).insRow dbk raw now c).cullW now
    rw [← e] at hq
    refine ⟨.inl ⟨hok, dropFile cl c.file, ?_, h3.q4 hq, ?_⟩, ?_, hq.depth.trans h6⟩
    · rw [e, ecl]; exact h7
    · rw [ecl, hq.nfile]; exact h8
    · exact (Grow.of_eq (x := x) (y := x.logSql "selKey") rfl rfl).trans (h5.trans (Grow.of_eq hq.files hq.created))
  · obtain ⟨h1, h2, h3, h4, h5, h6⟩ := incr_store_facts (y := x.logSql "selKey") hd hP hS0 hst
    obtain ⟨h7, h8⟩ := fPI_updRow_cullW now h1 (h4 ▸ selKey_mem hr) h2
    have hq := ((Q4.refl (s1.regCreated c.file)).updRow r.rowid now c).cullW now
    rw [← e] at hq
    refine ⟨.inl ⟨hok, dropFile cl c.file, ?_, h3.q4 hq, ?_⟩, ?_, hq.depth.trans h6⟩
    · rw [e, ecl]; exact h7.cl_congr (by intro f; simp; grind)
    · rw [ecl, hq.nfile]
      intro f hf
      exact h8 f (by simpa [or_comm] using hf)
    · exact (Grow.of_eq (x := x) (y := x.logSql "selKey") rfl rfl).trans (h5.trans (Grow.of_eq hq.files hq.created))

theorem incr_BG {x : Cache} (hd : 0 < x.depth) (h : BI x) (E : Externals) (now : Int) (k : PyVal)
    (delta : Int) (dflt : Option Int) : BG x (x.incr E now k delta dflt).1 := by
  obtain ⟨cl, hP, hS⟩ := h
  obtain ⟨h1, h2, h3⟩ := incrBody_BG hd hP hS E (DC.put E x.cfg.disk k).1 (DC.put E x.cfg.disk k).2 now delta dflt
  rw [incr_eq]
  exact (BG.start hd ⟨cl, hP, hS⟩).transact_body _ h1 h2 h3

theorem removeCommitted_grow (t : Cache) (f : Option Nat) (hd : 0 < t.depth) : Grow t (t.removeCommitted f) := by
  unfold removeCommitted
  cases f with
  | none => exact Grow.refl t
  | some f => simp only [gt_iff_lt, hd, if_true]; exact Grow.of_eq rfl rfl

/-- the common part of `set`, `add`, `push` inside a block: after `store`, the transaction runs
with the stored file registered; the body either attaches the file to a row (cleanup list
`dropFile cl c.file`), or hands it to cleanup (list `cl`), or fails (list `c.file :: cl`) -/
theorem fresh_transact_BG {x x1 : Cache} {E : Externals} {v : PyVal} {read : Bool} {c : Cols}
    (hd : 0 < x.depth) (h : BI x)
    (hst : x.store E v read = .ok (x1, c)) (B : Cache → Body) (hq : ∀ y, Q4 y (B y).s)
    (hb : ∀ y cl, PI (fcore y) (c.file :: cl) →
      (∀ g, c.file = some g → ∃ ct, (g, ct) ∈ y.files ∧ ct.size = c.size) → FreshBI cl c.file y (B y)) :
    BG x (x1.transact B c.file).1 := by
  obtain ⟨cl, hP, hS⟩ := h
  obtain ⟨hP1, hfile⟩ := fstore_PI hst hP
  obtain ⟨e1, -, e3, e4, e5, e6, e7⟩ := store_fields hst
  have hd1 : 0 < x1.depth := by rw [e1]; exact hd
  obtain ⟨g1, g2, g3⟩ := reg_fields x1 c.file
  have gf : (reg x1 c.file).files = x1.files := by cases c.file <;> rfl
  refine ⟨?_, ?_, ?_⟩
  · rw [(transact_inblock_q4 x1 hd1 B c.file (hq _)).1, e1]; exact hd
  · have hS0 : Sub cl (reg x1 c.file) :=
      hS.grow (g1.trans e3) (fun f hf => g3 f (e4 ▸ hf)) (by rw [g2]; exact e6)
    have hS1 : Sub (c.file :: cl) (reg x1 c.file) := (hS.grow e3 (fun f hf => e4 ▸ hf) e6).reg c.file
    have hSd : Sub (dropFile cl c.file) (reg x1 c.file) :=
      hS.dropGrow (g1.trans e3) (fun f hf => g3 f (e4 ▸ hf)) (by rw [g2]; exact e6) c.file e7
    apply transact_BI _ hd1 _ _ (hq _)
    rcases hb (reg x1 c.file) cl (by rw [fcore_reg]; exact hP1) (by rw [gf]; exact hfile) with
      ⟨h1, h2, h3⟩ | ⟨h1, h2, h3⟩ | ⟨h1, h2⟩
    · exact .inl ⟨h1, _, h2, hSd, h3⟩
    · exact .inl ⟨h1, _, h2, hS0, h3⟩
    · exact .inr ⟨h1, _, h2, hS1⟩
  · refine Grow.trans ⟨fun p hp => ?_, fun f hf => g3 f (e4 ▸ hf)⟩ (transact_grow x1 hd1 B c.file (hq _))
    rcases e5 p (gf ▸ hp) with h | h
    · exact .inl h
    · right; rw [h]; simp [reg]

theorem set_BG {x : Cache} (hd : 0 < x.depth) (h : BI x) (E : Externals) (now : Int) (k v : PyVal)
    (ttl : Option Int) (read : Bool) (tag : SqlVal) : BG x (x.set E now k v ttl read tag).1 := by
  rw [set_eq]
  split
  · exact BG.start hd h
  · rename_i x1 c hst
    exact fresh_transact_BG hd h hst _ (setBody_q4 _ _ _ _) fun y cl =>
      setBody_fPI _ _ now { c with expT := ttl.map (now + ·), tag := tag } y cl

theorem addBody_q4 (dbk : SqlVal) (raw : Bool) (now : Int) (c : Cols) (y : Cache) :
    Q4 y (rf_addBody dbk raw now c y).s := by
  have h0 := Q4.refl y
  unfold rf_addBody
  split
  · q4_auto
  · simp only
    q4_auto

theorem addBody_fPI (dbk : SqlVal) (raw : Bool) (now : Int) (c : Cols) (y : Cache) (cl : List (Option Nat))
    (hP : PI (fcore y) (c.file :: cl))
    (hfile : ∀ g, c.file = some g → ∃ ct, (g, ct) ∈ y.files ∧ ct.size = c.size) :
    FreshBI cl c.file y (rf_addBody dbk raw now c y) := by
  unfold rf_addBody
  split
  · exact .inr (.inr ⟨rfl, hP⟩)
  simp only
  split
  · rename_i r hr
    split
    · -- the key is live: the new file goes to cleanup
      refine .inr (.inl ⟨rfl, hP, ?_⟩)
      intro f hf
      obtain ⟨ct, h1, -⟩ := hfile f (List.mem_singleton.1 hf).symm
      exact hP.fresh (c := fcore y) _ h1
    split
    · exact .inr (.inr ⟨rfl, hP⟩)
    · exact .inl ⟨rfl, fPI_updRow_cullW (s := y.logSql "selKey") now hP (selKey_mem hr) hfile⟩
  · split
    · exact .inr (.inr ⟨rfl, hP⟩)
    · exact .inl ⟨rfl, fPI_insRow_cullW (s := y.logSql "selKey") dbk raw now hP hfile⟩

theorem add_BG {x : Cache} (hd : 0 < x.depth) (h : BI x) (E : Externals) (now : Int) (k v : PyVal)
    (ttl : Option Int) (read : Bool) (tag : SqlVal) : BG x (x.add E now k v ttl read tag).1 := by
  rw [rf_add_eq]
  split
  · exact BG.start hd h
  · rename_i x1 c hst
    exact fresh_transact_BG hd h hst _ (addBody_q4 _ _ _ _) fun y cl =>
      addBody_fPI _ _ now { c with expT := ttl.map (now + ·), tag := tag } y cl

theorem add_blk {a s : Cache} (h : Blk a s) (E : Externals) (now : Int) (k v : PyVal) (ttl : Option Int)
    (read : Bool) (tag : SqlVal) : Blk a (s.add E now k v ttl read tag).1 := by
  rw [rf_add_eq]
  split
  · exact h
  · rename_i hst
    exact h.store_transact hst _ (addBody_q4 _ _ _ _)

theorem pushBody_q4 (now : Int) (p : Option Str) (back : Bool) (c : Cols) (y : Cache) :
    Q4 y (pushBody now p back c y).s := by
  have h0 := Q4.refl y
  unfold pushBody
  split
  · q4_auto
  · simp only
    q4_auto

theorem pushBody_fPI (now : Int) (p : Option Str) (back : Bool) (c : Cols) (y : Cache) (cl : List (Option Nat))
    (hP : PI (fcore y) (c.file :: cl))
    (hfile : ∀ g, c.file = some g → ∃ ct, (g, ct) ∈ y.files ∧ ct.size = c.size) :
    FreshBI cl c.file y (pushBody now p back c y) := by
  unfold pushBody
  split
  · exact .inr (.inr ⟨rfl, hP⟩)
  simp only
  split
  · exact .inr (.inr ⟨rfl, hP⟩)
  split
  · exact .inr (.inr ⟨rfl, hP⟩)
  · exact .inl ⟨rfl, fPI_insRow_cullW (s := y.logSql "selQueueEnd") _ true now hP hfile⟩

theorem push_BG {x : Cache} (hd : 0 < x.depth) (h : BI x) (E : Externals) (now : Int) (v : PyVal)
    (pfx : Option Str) (back : Bool) (ttl : Option Int) (read : Bool) (tag : SqlVal) :
    BG x (x.push E now v pfx back ttl read tag).1 := by
  rw [push_eq]
  split
  · exact BG.start hd h
  · rename_i x1 c hst
    exact fresh_transact_BG hd h hst _ (pushBody_q4 _ _ _ _) fun y cl =>
      pushBody_fPI now pfx back { c with expT := ttl.map (now + ·), tag := tag } y cl

theorem push_blk {a s : Cache} (h : Blk a s) (E : Externals) (now : Int) (v : PyVal) (pfx : Option Str)
    (back : Bool) (ttl : Option Int) (read : Bool) (tag : SqlVal) :
    Blk a (s.push E now v pfx back ttl read tag).1 := by
  rw [push_eq]
  split
  · exact h
  · rename_i hst
    exact h.store_transact hst _ (pushBody_q4 _ _ _ _)

/-- a nested transaction whose body leaves files and bookkeeping alone -/
theorem BG.transact {a x : Cache} (h : BG a x) (body : Cache → Body) (hq : Q4 x (body x).s)
    (hb : ∀ cl, PI (fcore x) cl → Sub cl x →
      ((body x).ok = true ∧ ∃ cl, PI (fcore (body x).s) ((body x).cleanup ++ cl) ∧ Sub cl x ∧
        ∀ f, some f ∈ (body x).cleanup → f < x.nfile) ∨
      ((body x).ok = false ∧ ∃ cl, PI (fcore (body x).s) cl ∧ Sub cl x)) :
    BG a (x.transact body).1 := by
  obtain ⟨q1, -⟩ := transact_inblock_q4 x h.pos body none hq
  obtain ⟨cl, hP, hS⟩ := h.bi
  exact ⟨by rw [q1]; exact h.pos, transact_BI x h.pos body none hq (hb cl hP hS),
    h.grow.trans (transact_grow x h.pos _ none hq)⟩

theorem BG.tlog {a x : Cache} (h : BG a x) (sel : String) (o : Out := .none) :
    BG a (x.transact fun s => { s := s.logSql sel, out := o }).1 :=
  h.transact _ ((Q4.refl x).logSql sel) fun cl hP hS => .inl ⟨rfl, cl, by simpa using hP, hS, nobound _⟩

theorem BG.tfail {a x : Cache} (h : BG a x) (sel : String) (o : Out) :
    BG a (x.transact fun s => { s := s.logSql sel, out := o, ok := false }).1 :=
  h.transact _ ((Q4.refl x).logSql sel) fun cl hP hS => .inr ⟨rfl, cl, hP, hS⟩

theorem BG.tdelc {a x : Cache} (h : BG a x) (sel : String) (r : Row) (hr : r ∈ x.rows) :
    BG a (x.transact fun s => { s := (s.logSql sel).delRow r.rowid, out := .none, cleanup := [r.file] }).1 := by
  refine h.transact _ (((Q4.refl x).logSql sel).delRow r.rowid) fun cl hP hS => .inl ⟨rfl, cl, ?_, hS, ?_⟩
  · exact (fPI_delRow (s := x.logSql sel) hP r hr).cl_congr (by intro f; simp [or_comm])
  · intro f hf
    exact hP.ref_lt (c := fcore x) hr (List.mem_singleton.1 hf).symm

theorem BG.of_core {a x y : Cache} (h : BG a x) (hc : core y = core x) : BG a y :=
  ⟨by rw [show y.depth = x.depth from congrArg Core.depth hc]; exact h.pos, h.bi.of_core hc,
    h.grow.trans (Grow.of_core hc)⟩

theorem touch_BG {x : Cache} (hd : 0 < x.depth) (h : BI x) (E : Externals) (now : Int) (k : PyVal)
    (ttl : Option Int) : BG x (x.touch E now k ttl).1 := by
  have h0 := Q4.refl x
  unfold touch
  simp only
  refine (BG.start hd h).transact _ (by q4_auto) fun cl hP hS => .inl ?_
  split
  · split
    · exact ⟨rfl, cl, by apply fPI_updExp; simpa using hP, hS, nobound _⟩
    · exact ⟨rfl, cl, by simpa using hP, hS, nobound _⟩
  · exact ⟨rfl, cl, by simpa using hP, hS, nobound _⟩

theorem delitem_BG {x : Cache} (hd : 0 < x.depth) (h : BI x) (E : Externals) (now : Int) (k : PyVal) :
    BG x (x.delitem E now k).1 := by
  have h0 := Q4.refl x
  unfold delitem
  simp only
  refine (BG.start hd h).transact _ (by q4_auto) fun cl hP hS => ?_
  split
  · exact .inr ⟨rfl, cl, hP, hS⟩
  · rename_i r hr
    refine .inl ⟨rfl, cl, ?_, hS, ?_⟩
    · exact (fPI_delRow (s := x.logSql "selLive") hP r (selLive_mem hr)).cl_congr (by intro f; simp [or_comm])
    · intro f hf
      exact hP.ref_lt (c := fcore x) (selLive_mem hr) (List.mem_singleton.1 hf).symm

theorem delete_BG {x : Cache} (hd : 0 < x.depth) (h : BI x) (E : Externals) (now : Int) (k : PyVal) :
    BG x (x.delete E now k).1 := by
  rw [delete_fst]; exact delitem_BG hd h E now k

theorem get_BG {x : Cache} (hd : 0 < x.depth) (h : BI x) (E : Externals) (now : Int) (k : PyVal)
    (read et tg : Bool) : BG x (x.get E now k read et tg).1 := by
  rw [get_eq]
  split
  · exact (BG.start hd h).of_core (getFast_core ..)
  · refine (BG.start hd h).transact _ (getBody_q4 ..) fun cl hP hS => .inl ?_
    obtain ⟨hok, hcl, tr, hh, m, e | ⟨id, e⟩⟩ := getBody_exits E _ _ now read et tg x <;>
      refine ⟨hok, cl, ?_, hS, by rw [hcl]; exact nobound _⟩ <;> rw [e, hcl]
    · exact hP
    · exact fPI_updGet (s := { x with trace := tr, hits := hh, misses := m }) hP _ _

theorem BG.fetch {a x : Cache} (h : BG a x) (E : Externals) (r : Row) (read : Bool) :
    BG a (x.fetchRow E r read).1 := h.of_core (core_fetchRow x E r read)

/-- the tail of `pull` (and of `pop`): delete the row, read its file, defer the removal -/
theorem BG.tpop {a x : Cache} (h : BG a x) (sel : String) (E : Externals) (r : Row) (hr : r ∈ x.rows) :
    BG a (((x.transact fun s => { s := (s.logSql sel).delRow r.rowid, out := .none }).1.fetchRow E r false).1.removeCommitted
      r.file) := by
  have hd := h.pos
  obtain ⟨cl, hP, hS⟩ := h.bi
  have hq : Q4 x ((fun s : Cache => ({ s := (s.logSql sel).delRow r.rowid, out := Out.none } : Body)) x).s :=
    ((Q4.refl x).logSql sel).delRow r.rowid
  have hf := transact_inblock_fcore x hd (fun s => { s := (s.logSql sel).delRow r.rowid, out := Out.none }) none
  have hg := transact_grow x hd (fun s => { s := (s.logSql sel).delRow r.rowid, out := Out.none }) none hq
  obtain ⟨q1, q2, q3, q4, -, q6⟩ := transact_inblock_q4 x hd
    (fun s => { s := (s.logSql sel).delRow r.rowid, out := Out.none }) none hq
  generalize (x.transact fun s => { s := (s.logSql sel).delRow r.rowid, out := Out.none }).1 = t at *
  have hPt : PI (fcore t) (cl ++ [r.file]) := by
    rw [hf]
    exact fPI_delRow (s := x.logSql sel) (cl := cl) (by fcore_simp; exact hP) r hr
  have hSt : Sub cl t := hS.of_eq (by rw [q4]; simp) q3 q6
  have hdt : 0 < t.depth := by rw [q1]; exact hd
  have hfq := (Q4.refl t).fetchRow E r false
  have hg' : Grow x t := hg
  refine ⟨?_, ?_, ?_⟩
  · have hd' : 0 < (t.fetchRow E r false).1.depth := by rw [hfq.depth]; exact hdt
    have : ((t.fetchRow E r false).1.removeCommitted r.file).depth = (t.fetchRow E r false).1.depth := by
      unfold removeCommitted
      cases r.file with
      | none => rfl
      | some f => simp only [gt_iff_lt, hd', if_true]
    rw [this]; exact hd'
  · apply removeCommitted_BI (cl := cl)
    · rw [hfq.depth]; exact hdt
    · fcore_simp; exact hPt
    · exact hSt.q4 hfq
    · intro g hg
      rw [hfq.nfile, q6]
      exact hP.ref_lt (c := fcore x) hr hg
  · exact ((h.grow.trans hg').trans (Grow.of_eq hfq.files hfq.created)).trans
      (removeCommitted_grow _ _ (by rw [hfq.depth]; exact hdt))

theorem BG.queueSteps (a : Cache) : QueueSteps (BG a) where
  sel sel o ok h := by
    cases ok
    · exact h.tfail sel o
    · exact h.tlog sel o
  del sel r hr h := h.tdelc sel r hr
  fetch E r read h := h.fetch E r read
  pop sel E r hr h := h.tpop sel E r hr

theorem pop_BG {x : Cache} (hd : 0 < x.depth) (h : BI x) (E : Externals) (now : Int) (k : PyVal)
    (et tg : Bool) : BG x (x.pop E now k et tg).1 :=
  pop_keeps (BG.queueSteps x) E now k et tg (BG.start hd h)

theorem pull_BG {x : Cache} (hd : 0 < x.depth) (h : BI x) (E : Externals) (now : Int) (pfx : Option Str)
    (front et tg : Bool) : BG x (x.pull E now pfx front et tg).1 :=
  pullLoop_keeps (BG.queueSteps x) E now pfx front et tg _ (BG.start hd h)

theorem peek_BG {x : Cache} (hd : 0 < x.depth) (h : BI x) (E : Externals) (now : Int) (pfx : Option Str)
    (front et tg : Bool) : BG x (x.peek E now pfx front et tg).1 :=
  peekLoop_keeps (BG.queueSteps x) E now pfx front et tg _ (BG.start hd h)

theorem peekitem_BG {x : Cache} (hd : 0 < x.depth) (h : BI x) (E : Externals) (now : Int)
    (last et tg : Bool) : BG x (x.peekitem E now last et tg).1 :=
  peekitemLoop_keeps (BG.queueSteps x) E now last et tg _ (BG.start hd h)

/-- one page of `_select_delete` inside a block: the rows go, their files join `pending` -/
theorem BG.page {a x : Cache} (h : BG a x) (page : List Row) (sel : String)
    (hp : ∀ r ∈ page, r ∈ x.rows) : BG a (x.deletePage page sel) := by
  rw [deletePage_eq]
  refine h.transact _ (pageBody_q4 page sel x) fun cl hP hS => .inl ⟨pageBody_ok _ _ _, cl, ?_, hS, ?_⟩
  · rw [pageBody_cleanup, fcore_of_core (pageBody_core page sel x)]
    exact (fPI_delIn hP page hp).cl_congr (by intro f; simp [or_comm])
  · rw [pageBody_cleanup]
    intro f hf
    obtain ⟨r, hr, e⟩ := List.mem_map.1 hf
    exact hP.ref_lt (c := fcore x) (hp r hr) e

theorem BG.pageStep (a : Cache) : PageStep (BG a) := fun page sel hp h => h.page page sel hp

theorem clear_BG {x : Cache} (hd : 0 < x.depth) (h : BI x) : BG x (x.clear).1 :=
  clearLoop_keeps (BG.pageStep x) (x.rows.length + 1) 0 0 (BG.start hd h)

theorem evict_BG {x : Cache} (hd : 0 < x.depth) (h : BI x) (tag : SqlVal) : BG x (x.evict tag).1 :=
  evictLoop_keeps (BG.pageStep x) tag (x.rows.length + 1) 0 0 (BG.start hd h)

theorem expire_BG {x : Cache} (hd : 0 < x.depth) (h : BI x) (now : Int) : BG x (x.expire now).1 :=
  expireLoop_keeps (BG.pageStep x) now (x.rows.length + 1) none 0 (BG.start hd h)

theorem BG.volume {a x : Cache} (h : BG a x) : BG a x.volume.1 :=
  h.of_core (core_volume x)

/-- `BG` without the invariant: still inside the block, and every new file registered -/
structure GG (a x : Cache) : Prop where
  pos : 0 < x.depth
  grow : Grow a x

theorem GG.volume {a x : Cache} (h : GG a x) : GG a x.volume.1 := by
  have hq := (Q4.refl x).volume
  exact ⟨by rw [hq.depth]; exact h.pos, h.grow.trans (Grow.of_eq hq.files hq.created)⟩

theorem delInBody_q4 (sel sel2 : String) (rows : List Row) (x : Cache) : Q4 x (delInBody sel sel2 rows x).s :=
  (((Q4.refl x).logSql sel).delIn _).logSql sel2

/-- one batch of the policy loop of `cull()` inside a block -/
theorem BG.tdelIn {a x : Cache} (h : BG a x) (sel sel2 : String) (rows : List Row)
    (hp : ∀ r ∈ rows, r ∈ x.rows) : BG a (x.transact (delInBody sel sel2 rows)).1 := by
  refine h.transact _ (delInBody_q4 sel sel2 rows x) fun cl hP hS => .inl ⟨rfl, cl, ?_, hS, ?_⟩
  · exact (fPI_delIn (s := x.logSql sel) hP rows hp).cl_congr (by intro f; simp [delInBody, or_comm])
  · intro f hf
    obtain ⟨r, hr, e⟩ := List.mem_map.1 hf
    exact hP.ref_lt (c := fcore x) (hp r hr) e

theorem cull_BG {x : Cache} (hd : 0 < x.depth) (h : BI x) (now : Int) : BG x (x.cull now).1 := by
  have h1 := expire_BG hd h now
  rw [cull_eq]
  split
  · exact h1
  · exact cullLoop_keeps (P := BG x) BG.volume (fun sel h => h.tlog sel)
      (fun rows hp h => h.tdelIn "selPolicy" "delPolicy" rows hp) _ _ h1

end DC.Cache
