/- helper lemmas for memoize_stampede (C16, DC/Properties/C16_Stampede.lean) -/
import DC.Model.MemoStampede
import DC.Proofs.MemoLemmas

namespace DC.Memo

theorem SCache.look_some {R} (c : SCache R) (k : List Tok) (now : Int) (x : Entry R × Option Int)
    (h : c.look k now = some x) : c k = some x := by
  unfold SCache.look at h
  split at h
  next v t hck =>
    split at h
    · exact hck.trans h
    · cases h
  next => exact h

theorem SCache.put_self {R} (c : SCache R) (k : List Tok) (v : Entry R) (e : Option Int) :
    (c.put k v e) k = some (v, e) := by simp [SCache.put]

theorem SCache.put_other {R} (c : SCache R) (k k' : List Tok) (v : Entry R) (e : Option Int) (h : k' ≠ k) :
    (c.put k v e) k' = c k' := by simp [SCache.put, h]

theorem SCache.look_put_other {R} (c : SCache R) (k k' : List Tok) (v : Entry R) (e : Option Int) (now : Int)
    (h : k' ≠ k) : (c.put k v e).look k' now = c.look k' now := by
  simp [SCache.look, SCache.put_other c k k' v e h]

theorem SCache.look_put_self_live {R} (c : SCache R) (k : List Tok) (v : Entry R) (t now : Int) (h : t > now) :
    (c.put k v (some t)).look k now = some (v, some t) := by
  simp [SCache.look, SCache.put_self, h]

/-- the outcomes of one call, by what it finds alive under its key: nothing (a miss: `f` runs and
the pair is stored); a pair with an expire time (served from the cache, and a recomputation
starts exactly when the draw is unfavourable and no marker is alive); anything else (the
TypeError) -/
theorem scall_cases {R} (cf : Conf) (f : List Arg → Kwargs → R) (now : Int) (hit : Bool) (delta : Int)
    (c : SCache R) (args : List Arg) (kw : Kwargs) :
    (c.look (cf.key args kw) now = none ∧
      scall cf f now hit delta c args kw =
        ⟨some (f args kw), c.put (cf.key args kw) (.pair (f args kw) delta) (cf.expire.map (now + ·)),
          1, none⟩) ∨
    (∃ r d t, c.look (cf.key args kw) now = some (.pair r d, some t) ∧
      ((hit = true ∨ (c.look (cf.markerKey args kw) now).isSome) ∧
          scall cf f now hit delta c args kw = ⟨some r, c, 0, none⟩ ∨
       hit = false ∧ c.look (cf.markerKey args kw) now = none ∧
          scall cf f now hit delta c args kw =
            ⟨some r, c.put (cf.markerKey args kw) .marker (some (now + d)), 0, some (args, kw)⟩)) ∨
    ((∃ v t, c.look (cf.key args kw) now = some (v, t) ∧ (v = .marker ∨ t = none)) ∧
      scall cf f now hit delta c args kw = ⟨none, c, 0, none⟩) := by
  unfold scall
  rcases c.look (cf.key args kw) now with _ | ⟨⟨r, d⟩ | _, _ | t⟩
  · exact .inl ⟨rfl, rfl⟩
  · exact .inr (.inr ⟨⟨_, _, rfl, .inr rfl⟩, rfl⟩)
  · refine .inr (.inl ⟨r, d, t, rfl, ?_⟩)
    cases hit with
    | true => exact .inl ⟨.inl rfl, rfl⟩
    | false =>
      cases hm : c.look (cf.markerKey args kw) now with
      | some _ => exact .inl ⟨.inr rfl, rfl⟩
      | none => exact .inr ⟨rfl, rfl, rfl⟩
  · exact .inr (.inr ⟨⟨_, _, rfl, .inl rfl⟩, rfl⟩)
  · exact .inr (.inr ⟨⟨_, _, rfl, .inl rfl⟩, rfl⟩)

theorem mem_keepArgs (args : List Arg) (ign : List Nat) (a : Arg) (h : a ∈ keepArgs args ign) : a ∈ args := by
  unfold keepArgs at h
  rw [List.mem_map] at h
  obtain ⟨p, hp, rfl⟩ := h
  have : p.2 ∈ (enumFrom 0 args).map (·.2) := List.mem_map.mpr ⟨p, (List.mem_filter.mp hp).1, rfl⟩
  rwa [enumFrom_map_snd] at this

theorem mem_keepKw (kw : Kwargs) (ign : List Nat) (p : Nat × Arg) (h : p ∈ keepKw kw ign) : p ∈ kw := by
  unfold keepKw at h
  rw [DC.mem_isort] at h
  exact (List.mem_filter.mp h).1

end DC.Memo
