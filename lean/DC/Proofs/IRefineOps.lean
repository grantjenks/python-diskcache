/-
C12_Refine, model side: what the single-call methods of an Index (`get`, `set`
without ttl, `delitem`, `pop`, `len`, `iter`, `clear`) do to the ordered
abstraction `irf_abs` of a quiescent state without expiry and without size
limit (`irf_Inv`).  Each lemma has the shape "the abstraction of the new state
is the ordered-dictionary call on the abstraction of the old one".
-/
import DC.Proofs.IRefineLemmas
import DC.Properties.C03_Paging
import DC.Proofs.RefineCfg

namespace DC.Cache
open DC.Spec

/-- a quiescent Index state: table and file invariants, no open block, no size limit, no expiry -/
structure irf_Inv (c : Cache) : Prop where
  good : Good c
  pol : c.cfg.policy = .none
  noexp : NoExp c.rows

theorem irf_inv_core {a b : Cache} (hb : irf_Inv b) (hc : core a = core b) (ht : TableInv a) :
    irf_Inv a :=
  ⟨irf_good_core hb.good hc ht, by rw [show a.cfg = b.cfg from congrArg Core.cfg hc]; exact hb.pol,
    by rw [show a.rows = b.rows from congrArg Core.rows hc]; exact hb.noexp⟩

theorem irf_look_view {c : Cache} (hne : NoExp c.rows) (E : Externals) (K : Key) (now : Int) :
    (match rf_view c K with
      | some e => if e.live now then e.out E c.cfg false false false else defaultFlags false false
      | none => defaultFlags false false) = OSpec.look (irf_abs c) E c.cfg K := by
  unfold OSpec.look
  rw [irf_abs_get]
  cases hv : rf_view c K with
  | none => rfl
  | some e =>
    simp only
    rw [irf_live_noexp (irf_view_noexp hne hv) now]
    rfl

/-! ### `get` -/

theorem irf_get (c : Cache) (E : Externals) (now : Int) (k : PyVal) (h : irf_Inv c) :
    (c.get E now k false false false).2 = OSpec.look (irf_abs c) E c.cfg (keyOf E c.cfg k) ∧
    core (c.get E now k false false false).1 = core c ∧
    irf_Inv (c.get E now k false false false).1 := by
  have hc := rf_get_core c E now k false false false h.good.depth h.pol
  refine ⟨?_, hc, irf_inv_core h hc (get_good c E now k false false false h.good).tinv⟩
  rw [rf_get_out' _ _ _ _ _ _ _ h.good]
  exact irf_look_view h.noexp E _ now

/-! ### `set` without ttl and tag -/

theorem irf_entryOf_noexp (p : Placement) : (entryOf p none .null).expT = none := by
  cases p <;> rfl

theorem irf_set_keys (s : Cache) (E : Externals) (now : Int) (k v : PyVal) (h : irf_Inv s) :
    (s.set E now k v none false .null).1.rows.map irf_key =
      (OSpec.setitem (irf_abs s) E s.cfg k v).1.keys := by
  have hst := rf_store s E v false h.good.pi
  unfold OSpec.setitem
  cases hpl : place E s.cfg.disk s.cfg.minFileSize v false with
  | error e =>
    rw [hpl] at hst
    simp only at hst ⊢
    rw [set_eq, hst]
    exact (irf_abs_keys s).symm
  | ok p =>
    rw [hpl] at hst
    obtain ⟨s1, c, hst, hrows, hcfg, hP1, -, -, -, hval, -⟩ := hst
    simp only
    by_cases hb : (bindable (keyOf E s.cfg k).1 && bindable (entryOf p none .null).val) = true
    · rw [if_pos hb]
      simp only [Bool.and_eq_true] at hb
      have hcb : Cols.bindable { c with expT := none, tag := .null } = true := by
        simp only [Cols.bindable, Bool.and_eq_true]
        exact ⟨rfl, by rw [hval]; exact hb.2⟩
      rw [set_rows_noexp s E now k v .null h.good.depth h.pol h.noexp s1 c hst hb.1 hcb,
        irf_keys_set, irf_abs_has, irf_abs_keys]
      unfold setRows
      show List.map irf_key (match s.selKey (keyOf E s.cfg k).1 (keyOf E s.cfg k).2 with
        | some r => _ | none => _) = _
      cases hsel : s.selKey (keyOf E s.cfg k).1 (keyOf E s.cfg k).2 with
      | some r =>
        have hany : s.rows.any (keyMatch (keyOf E s.cfg k).1 (keyOf E s.cfg k).2) = true := by
          cases hany : s.rows.any (keyMatch (keyOf E s.cfg k).1 (keyOf E s.cfg k).2) with
          | true => rfl
          | false => rw [selKey_none_iff.2 hany] at hsel; cases hsel
        simp only [hany, if_true]
        rw [List.map_map]
        apply List.map_congr_left
        intro x _
        simp only [Function.comp, irf_key, (rf_updF_key _ _ _ x).1, (rf_updF_key _ _ _ x).2]
      | none =>
        rw [selKey_none_iff.1 hsel]
        simp only [Bool.false_eq_true, if_false, List.map_append, List.map_cons, List.map_nil]
        rfl
    · rw [if_neg hb]
      rw [irf_abs_keys, set_eq, hst]
      simp only
      have hfail := rf_setBody_fail (s1.log .begin) (keyOf E s.cfg k).1 (keyOf E s.cfg k).2 now
        { c with expT := (none : Option Int).map (now + ·), tag := .null }
        (by
          intro hc
          apply hb
          have h2 := hc.2
          simp only [Cols.bindable, Bool.and_eq_true] at h2
          simp only [Bool.and_eq_true]
          exact ⟨hc.1, by rw [← hval]; exact h2.2⟩)
      have hR := (rf_transact s1 (setBody (keyOf E s.cfg k).1 (keyOf E s.cfg k).2 now
        { c with expT := (none : Option Int).map (now + ·), tag := .null }) c.file hP1.depth).1
      rw [hfail.1] at hR
      simp only [Bool.false_eq_true, if_false] at hR
      show List.map irf_key (s1.transact (setBody (keyOf E s.cfg k).1 (keyOf E s.cfg k).2 now
        { c with expT := (none : Option Int).map (now + ·), tag := .null }) c.file).1.rows = _
      rw [hR, hrows]

theorem irf_set_spec (s : Cache) (E : Externals) (now : Int) (k v : PyVal) (h : irf_Inv s) :
    (match (s.set E now k v none false .null).2 with | .exc e => Out.exc e | _ => .none) =
      (OSpec.setitem (irf_abs s) E s.cfg k v).2 ∧
    ∀ k', rf_view (s.set E now k v none false .null).1 k' =
      (OSpec.setitem (irf_abs s) E s.cfg k v).1.get k' := by
  have hA := rf_set_view s E now k v none false .null h.good h.pol
  unfold OSpec.setitem
  cases hpl : place E s.cfg.disk s.cfg.minFileSize v false with
  | error e =>
    rw [hpl] at hA
    simp only at hA ⊢
    rw [hA]
    exact ⟨rfl, fun k' => (irf_abs_get s k').symm⟩
  | ok p =>
    rw [hpl] at hA
    simp only [Option.map_none] at hA ⊢
    have ht : bindable (entryOf p none .null).tag = true := by rw [rf_entryOf_tag]; rfl
    rw [ht, Bool.and_true] at hA
    by_cases hb : (bindable (keyOf E s.cfg k).1 && bindable (entryOf p none .null).val) = true
    · rw [if_pos hb] at hA ⊢
      refine ⟨by rw [hA.1], fun k' => ?_⟩
      have := irf_culled_eq hA.2 (by
        intro q e he
        unfold rf_at at he
        split at he
        · cases he; exact irf_entryOf_noexp p
        · exact irf_view_noexp h.noexp he) k'
      rw [this, irf_get_set, irf_abs_get]
      rfl
    · rw [if_neg hb] at hA ⊢
      exact ⟨by rw [hA.1], fun k' => by rw [hA.2 k', irf_abs_get]⟩

theorem irf_set_out (s : Cache) (E : Externals) (now : Int) (k v : PyVal) (h : irf_Inv s) :
    (match (s.set E now k v none false .null).2 with | .exc e => Out.exc e | _ => .none) =
      (OSpec.setitem (irf_abs s) E s.cfg k v).2 :=
  (irf_set_spec s E now k v h).1

theorem irf_set (s : Cache) (E : Externals) (now : Int) (k v : PyVal) (h : irf_Inv s) :
    irf_abs (s.set E now k v none false .null).1 = (OSpec.setitem (irf_abs s) E s.cfg k v).1 ∧
    (s.set E now k v none false .null).1.cfg = s.cfg ∧
    irf_Inv (s.set E now k v none false .null).1 := by
  have hg' := set_good s E now k v none false .null h.good
  obtain ⟨-, hcfg, hne⟩ := set_keeps s E now k v .null h.good.depth h.noexp
  exact ⟨irf_abs_of hg'.tinv (irf_set_keys s E now k v h) (irf_set_spec s E now k v h).2, hcfg,
    ⟨hg', by rw [hcfg]; exact h.pol, hne⟩⟩

/-! ### `delitem` -/

theorem irf_filter_keys (rows : List Row) (K : Key) :
    (rows.filter (fun x => !keyMatch K.1 K.2 x)).map irf_key =
      (rows.map irf_key).filter (fun q => !sameKey q K) := by
  rw [List.filter_map]
  rfl

theorem irf_delU_noexp {c : Cache} (hne : NoExp c.rows) (K : Key) (now : Int) :
    rf_delU now (rf_view c K) = none := by
  unfold rf_delU
  cases hv : rf_view c K with
  | none => rfl
  | some e => simp only; rw [irf_live_noexp (irf_view_noexp hne hv) now]; rfl

theorem irf_has_noexp {c : Cache} (hne : NoExp c.rows) (K : Key) (now : Int) :
    rf_has now (rf_view c K) = (irf_abs c).has K := by
  rw [irf_has_eq, irf_abs_get]
  unfold rf_has
  cases hv : rf_view c K with
  | none => rfl
  | some e => simp only; rw [irf_live_noexp (irf_view_noexp hne hv) now]; rfl

theorem irf_abs_del {s t : Cache} (h : irf_Inv s) (ht : TableInv t) (K : Key) (now : Int)
    (hR : t.rows = s.rows.filter (fun x => !keyMatch K.1 K.2 x))
    (hV : ∀ k', rf_view t k' = rf_at K (rf_delU now (rf_view s K)) (rf_view s) k') :
    irf_abs t = (irf_abs s).del K ∧ NoExp t.rows := by
  refine ⟨irf_abs_of ht ?_ ?_, ?_⟩
  · rw [hR, irf_filter_keys, irf_keys_del, irf_abs_keys]
  · intro k'
    rw [hV k', irf_delU_noexp h.noexp, irf_get_del, irf_abs_get]
    rfl
  · rw [hR]
    intro y hy
    exact h.noexp y (List.mem_filter.1 hy).1

theorem irf_filter_sel {s : Cache} (h : irf_Inv s) (dbk : SqlVal) (raw : Bool) :
    s.rows.filter (fun x => !keyMatch dbk raw x) =
      match s.selKey dbk raw with
      | some r => s.rows.filter (fun x => x.rowid != r.rowid)
      | none => s.rows := by
  cases hs : s.selKey dbk raw with
  | some r =>
    exact (filter_rowid_eq_filter_key h.good.tinv.tbl.asc h.good.tinv.tbl.uniq (selKey_mem hs)
      (List.find?_some hs)).symm
  | none =>
    rw [List.filter_eq_self]
    intro x hx
    have := List.find?_eq_none.1 hs x hx
    simpa using this

theorem irf_del_rows (s : Cache) (E : Externals) (now : Int) (k : PyVal) (h : irf_Inv s) :
    (s.delitem E now k).1.rows = s.rows.filter (fun x => !keyMatch (keyOf E s.cfg k).1 (keyOf E s.cfg k).2 x) ∧
    (s.delitem E now k).1.cfg = s.cfg := by
  have hsel := selLive_eq_selKey h.noexp (keyOf E s.cfg k).1 (keyOf E s.cfg k).2 now
  rw [irf_filter_sel h]
  cases hs : s.selKey (keyOf E s.cfg k).1 (keyOf E s.cfg k).2 with
  | some r =>
    obtain ⟨-, h2, h3, -⟩ := delitem_some s E now k r (hsel.trans hs)
    exact ⟨h2, h3⟩
  | none =>
    obtain ⟨-, h2, h3, -⟩ := delitem_none s E now k (hsel.trans hs)
    exact ⟨h2, h3⟩

theorem irf_delitem (s : Cache) (E : Externals) (now : Int) (k : PyVal) (h : irf_Inv s) :
    (match (s.delitem E now k).2 with | .bool true => Out.none | o => o) =
      (OSpec.delitem (irf_abs s) E s.cfg k).2 ∧
    irf_abs (s.delitem E now k).1 = (OSpec.delitem (irf_abs s) E s.cfg k).1 ∧
    (s.delitem E now k).1.cfg = s.cfg ∧
    irf_Inv (s.delitem E now k).1 := by
  have hg' := delitem_good s E now k h.good
  obtain ⟨hO, hV⟩ := rf_delitem_view s E now k h.good
  obtain ⟨hR, hcfg⟩ := irf_del_rows s E now k h
  obtain ⟨hA, hN⟩ := irf_abs_del h hg'.tinv (keyOf E s.cfg k) now hR hV
  refine ⟨?_, by rw [irf_spec_delitem_fst]; exact hA, hcfg, ⟨hg', by rw [hcfg]; exact h.pol, hN⟩⟩
  rw [hO, irf_has_noexp h.noexp]
  unfold OSpec.delitem
  cases (irf_abs s).has (keyOf E s.cfg k) <;> rfl

/-! ### `pop` -/

theorem irf_pop_rows (s : Cache) (E : Externals) (now : Int) (k : PyVal) (h : irf_Inv s) :
    (s.pop E now k false false).1.rows =
      s.rows.filter (fun x => !keyMatch (keyOf E s.cfg k).1 (keyOf E s.cfg k).2 x) ∧
    (s.pop E now k false false).1.cfg = s.cfg := by
  have hsel := selLive_eq_selKey h.noexp (keyOf E s.cfg k).1 (keyOf E s.cfg k).2 now
  rw [irf_filter_sel h]
  cases hs : s.selKey (keyOf E s.cfg k).1 (keyOf E s.cfg k).2 with
  | some r =>
    rw [rf_pop_some (hsel.trans hs)]
    obtain ⟨-, hrows, hcfg, -, -⟩ := transact_delRow s "selLive" r.rowid .none []
    refine ⟨?_, ?_⟩
    · simp only
      rw [removeCommitted_rows, fetchRow_rows, hrows]
    · simp only
      rw [rf_removeCommitted_cfg, fetchRow_cfg, hcfg]
  | none =>
    rw [rf_pop_none (hsel.trans hs)]
    have hc := (irf_transact_log s "selLive" .none true).1
    exact ⟨congrArg Core.rows hc, congrArg Core.cfg hc⟩

theorem irf_pop (s : Cache) (E : Externals) (now : Int) (k : PyVal) (h : irf_Inv s) :
    (s.pop E now k false false).2 = OSpec.look (irf_abs s) E s.cfg (keyOf E s.cfg k) ∧
    irf_abs (s.pop E now k false false).1 = (irf_abs s).del (keyOf E s.cfg k) ∧
    (s.pop E now k false false).1.cfg = s.cfg ∧
    irf_Inv (s.pop E now k false false).1 := by
  have hg' := pop_good s E now k false false h.good
  obtain ⟨hO, hV⟩ := rf_pop_view s E now k false false h.good
  obtain ⟨hR, hcfg⟩ := irf_pop_rows s E now k h
  obtain ⟨hA, hN⟩ := irf_abs_del h hg'.tinv (keyOf E s.cfg k) now hR hV
  refine ⟨?_, hA, hcfg, ⟨hg', by rw [hcfg]; exact h.pol, hN⟩⟩
  rw [hO]
  exact irf_look_view h.noexp E _ now

/-! ### `len`, `iter`, `clear` -/

theorem irf_len (s : Cache) (h : irf_Inv s) :
    (s.len).2 = .int (irf_abs s).length ∧ core (s.len).1 = core s ∧ irf_Inv (s.len).1 := by
  refine ⟨?_, rfl, irf_inv_core h rfl (len_inv s h.good.tinv)⟩
  rw [len_exact s h.good.tinv, irf_abs_length]

theorem irf_iter (s : Cache) (E : Externals) (asc : Bool) (h : irf_Inv s) (hpg : 0 < s.cfg.page) :
    (s.iter E asc).2 =
      .list ((if asc then irf_abs s else (irf_abs s).reverse).map
        (fun p => keyOut E s.cfg.disk p.1.1 p.1.2)) ∧
    core (s.iter E asc).1 = core s ∧ irf_Inv (s.iter E asc).1 := by
  refine ⟨?_, iter_core s E asc, irf_inv_core h (iter_core s E asc) (iter_inv s E asc h.good.tinv)⟩
  cases asc with
  | true =>
    rw [iter_all s E h.good.tinv.tbl.asc h.good.tinv.tbl.pos hpg]
    simp only [if_true, irf_abs, List.map_map]
    rfl
  | false =>
    rw [riter_all s E h.good.tinv.tbl.asc h.good.tinv.tbl.pos hpg]
    simp only [Bool.false_eq_true, if_false, irf_abs, ← List.map_reverse, List.map_map]
    rfl

theorem irf_clear (s : Cache) (h : irf_Inv s) (hpg : 0 < s.cfg.page) :
    irf_abs (s.clear).1 = [] ∧ (s.clear).1.cfg = s.cfg ∧ irf_Inv (s.clear).1 := by
  have hr := (clear_all s h.good.tinv.tbl.asc h.good.tinv.tbl.pos hpg).1
  have hcfg := rf_clear_cfg s
  refine ⟨?_, hcfg, ⟨clear_good s h.good, by rw [hcfg]; exact h.pol, ?_⟩⟩
  · unfold irf_abs; rw [hr]; rfl
  · intro r hx
    rw [hr] at hx
    cases hx

end DC.Cache
