/-
The row-level frame of the writes to an ordinary key (set, add, touch, incr): the rows of the
other keys are neither created nor altered by the call, and with `cull_limit = 0` none of them is
removed (`Fr`; `set_frame`, `add_frame`, `touch_frame`, `incr_frame`).  Each body is an UPDATE of
the row of the key or an INSERT of a row with that key, followed by the lazy cull (`Fr.write`).
-/
import DC.Proofs.QRefineDefs

namespace DC.Cache
open DC.Spec DC.QSpec

def Fr (dbk : SqlVal) (raw : Bool) (lim : Nat) (R R' : List Row) : Prop :=
  (∀ r ∈ R', keyMatch dbk raw r = false → r ∈ R) ∧
  (lim = 0 → ∀ r ∈ R, keyMatch dbk raw r = false → r ∈ R')

theorem Fr.refl (dbk : SqlVal) (raw : Bool) (lim : Nat) (R : List Row) : Fr dbk raw lim R R :=
  ⟨fun _ h _ => h, fun _ _ h _ => h⟩

theorem Fr.trans {dbk : SqlVal} {raw : Bool} {lim : Nat} {A B C : List Row}
    (h1 : Fr dbk raw lim A B) (h2 : Fr dbk raw lim B C) : Fr dbk raw lim A C :=
  ⟨fun r hr hk => h1.1 r (h2.1 r hr hk) hk, fun h0 r hr hk => h2.2 h0 r (h1.2 h0 r hr hk) hk⟩

theorem Fr.map {dbk : SqlVal} {raw : Bool} (lim : Nat) {R : List Row} (hasc : RowidsAsc R) {r0 : Row}
    (hr0 : r0 ∈ R) (hk0 : keyMatch dbk raw r0 = true) (f : Row → Row)
    (hf : ∀ r, (f r).key = r.key ∧ (f r).raw = r.raw) :
    Fr dbk raw lim R (R.map (fun r => if r.rowid == r0.rowid then f r else r)) := by
  constructor
  · intro r' hr' hk
    obtain ⟨r, hr, rfl⟩ := List.mem_map.1 hr'
    by_cases hid : r.rowid = r0.rowid
    · have := rowidsAsc_eq_of_rowid hasc hr hr0 hid
      subst this
      simp only [beq_self_eq_true, if_true] at hk
      simp only [keyMatch, (hf r).1, (hf r).2] at hk hk0
      rw [hk0] at hk; cases hk
    · simp [hid]; exact hr
  · intro _ r hr hk
    have hid : r.rowid ≠ r0.rowid := by
      intro hid
      have := rowidsAsc_eq_of_rowid hasc hr hr0 hid
      subst this
      rw [hk0] at hk; cases hk
    exact List.mem_map.2 ⟨r, hr, by simp [hid]⟩

theorem Fr.ins {dbk : SqlVal} {raw : Bool} (lim : Nat) (R : List Row) {new : Row}
    (hk : keyMatch dbk raw new = true) : Fr dbk raw lim R (R ++ [new]) := by
  constructor
  · intro r hr hkr
    rcases List.mem_append.1 hr with h | h
    · exact h
    · simp only [List.mem_singleton] at h; subst h; rw [hk] at hkr; cases hkr
  · intro _ r hr _
    exact List.mem_append_left _ hr

/-- the lazy cull: only removes, and nothing when `cull_limit = 0` -/
theorem Fr.cull (dbk : SqlVal) (raw : Bool) (t : Cache) (now : Int) (hasc : RowidsAsc t.rows) :
    Fr dbk raw t.cfg.cullLimit t.rows (t.cullW now).1.rows := by
  constructor
  · intro r hr _
    exact (cullW_sublist t now hasc).subset hr
  · intro h0 r hr _
    rw [(cull_zero t now h0).1]; exact hr

theorem keyMatch_self {dbk : SqlVal} (hnn : dbk ≠ .null) (raw : Bool) (r : Row) (h1 : r.key = dbk)
    (h2 : r.raw = raw) : keyMatch dbk raw r = true := by
  simp [keyMatch, h1, h2, eqv_self hnn]

theorem Fr.write {dbk : SqlVal} {raw : Bool} (hnn : dbk ≠ .null) (t : Cache) (hi : TableInv t) (now : Int)
    (c : Cols) :
    (∀ r0, t.selKey dbk raw = some r0 →
      Fr dbk raw t.cfg.cullLimit t.rows ((t.updRow r0.rowid now c).cullW now).1.rows) ∧
    (t.selKey dbk raw = none →
      Fr dbk raw t.cfg.cullLimit t.rows ((t.insRow dbk raw now c).cullW now).1.rows) := by
  constructor
  · intro r0 hs
    have hr0 : r0 ∈ t.rows := List.mem_of_find?_eq_some hs
    have hk0 : keyMatch dbk raw r0 = true := List.find?_some hs
    have hU := updRow_inv r0.rowid now c hi
    have h1 : Fr dbk raw t.cfg.cullLimit t.rows (t.updRow r0.rowid now c).rows :=
      Fr.map _ hi.tbl.asc hr0 hk0 _ (fun _ => ⟨rfl, rfl⟩)
    exact h1.trans (Fr.cull dbk raw (t.updRow r0.rowid now c) now hU.tbl.asc)
  · intro hs
    have hI := insRow_inv dbk raw now c hi hs hnn
    have h1 : Fr dbk raw t.cfg.cullLimit t.rows (t.insRow dbk raw now c).rows :=
      Fr.ins _ _ (keyMatch_self hnn raw _ rfl rfl)
    exact h1.trans (Fr.cull dbk raw (t.insRow dbk raw now c) now hI.tbl.asc)

theorem fr_setBody {dbk : SqlVal} {raw : Bool} (hnn : dbk ≠ .null) (now : Int) (c : Cols) (t : Cache)
    (hi : TableInv t) : Fr dbk raw t.cfg.cullLimit t.rows (setBody dbk raw now c t).s.rows := by
  have hw := Fr.write (raw := raw) hnn (t.logSql "selKey") (logSql_inv _ hi) now c
  unfold setBody
  split
  · exact Fr.refl _ _ _ _
  · simp only
    split
    · exact Fr.refl _ _ _ _
    · cases hs : t.selKey dbk raw with
      | some r0 => exact hw.1 r0 hs
      | none => exact hw.2 hs

theorem fr_addBody {dbk : SqlVal} {raw : Bool} (hnn : dbk ≠ .null) (now : Int) (c : Cols) (t : Cache)
    (hi : TableInv t) : Fr dbk raw t.cfg.cullLimit t.rows (rf_addBody dbk raw now c t).s.rows := by
  have hw := Fr.write (raw := raw) hnn (t.logSql "selKey") (logSql_inv _ hi) now c
  unfold rf_addBody
  split
  · exact Fr.refl _ _ _ _
  · cases hs : t.selKey dbk raw with
    | some r0 =>
      simp only
      split
      · exact Fr.refl _ _ _ _
      · split
        · exact Fr.refl _ _ _ _
        · exact hw.1 r0 hs
    | none =>
      simp only
      split
      · exact Fr.refl _ _ _ _
      · exact hw.2 hs

theorem fr_touchBody (dbk : SqlVal) (raw : Bool) (now : Int) (ttl : Option Int) (t : Cache)
    (hi : TableInv t) : Fr dbk raw t.cfg.cullLimit t.rows (rf_touchBody dbk raw now ttl t).s.rows := by
  unfold rf_touchBody
  cases hs : t.selKey dbk raw with
  | none => exact Fr.refl _ _ _ _
  | some r0 =>
    simp only
    split
    · exact Fr.map _ hi.tbl.asc (List.mem_of_find?_eq_some hs) (List.find?_some hs) _ (fun _ => ⟨rfl, rfl⟩)
    · exact Fr.refl _ _ _ _

theorem touchPolicy_keyraw (p : Policy) (now : Int) (r : Row) :
    (touchPolicy p now r).key = r.key ∧ (touchPolicy p now r).raw = r.raw := by
  cases p <;> exact ⟨rfl, rfl⟩

theorem fr_incrFresh {E : Externals} {dbk : SqlVal} {raw : Bool} (hnn : dbk ≠ .null) (now delta : Int)
    (dflt : Option Int) (t : Cache) (hi : TableInv t) (upd : Option Row)
    (hupd : t.selKey dbk raw = upd) :
    Fr dbk raw t.cfg.cullLimit t.rows (incrFresh E dbk raw now delta dflt t upd).s.rows := by
  unfold incrFresh
  cases dflt with
  | none => exact Fr.refl _ _ _ _
  | some d =>
    simp only
    cases hst : t.store E (.int (d + delta)) false with
    | error e => exact Fr.refl _ _ _ _
    | ok sc =>
      obtain ⟨t1, c⟩ := sc
      obtain ⟨hi1, hrows⟩ := store_inv hst hi
      have hcfg : t1.cfg = t.cfg := (store_keep hst).2.1
      have hw := Fr.write (raw := raw) hnn (t1.regCreated c.file) (regCreated_inv c.file hi1) now c
      rw [regCreated_rows, regCreated_cfg, hrows, hcfg] at hw
      have hsel : (t1.regCreated c.file).selKey dbk raw = upd := by
        rw [selKey_rows ((regCreated_rows t1 c.file).trans hrows)]; exact hupd
      cases upd with
      | none => exact hw.2 hsel
      | some r0 => exact hw.1 r0 hsel

theorem fr_incrBody {E : Externals} {dbk : SqlVal} {raw : Bool} (hnn : dbk ≠ .null) (now delta : Int)
    (dflt : Option Int) (t : Cache) (hi : TableInv t) :
    Fr dbk raw t.cfg.cullLimit t.rows (incrBody E dbk raw now delta dflt t).s.rows := by
  unfold incrBody
  cases hs : t.selKey dbk raw with
  | none => exact fr_incrFresh hnn now delta dflt (t.logSql "selKey") (logSql_inv _ hi) none hs
  | some r0 =>
    simp only
    split
    · exact fr_incrFresh hnn now delta dflt (t.logSql "selKey") (logSql_inv _ hi) (some r0) hs
    · split
      · split
        · exact Fr.map _ hi.tbl.asc (List.mem_of_find?_eq_some hs) (List.find?_some hs)
            (fun r => touchPolicy (t.logSql "selKey").cfg.policy now { r with storeT := now, val := _ })
            (fun r => touchPolicy_keyraw _ _ _)
        · exact Fr.refl _ _ _ _
      · exact Fr.refl _ _ _ _

theorem fr_transact {dbk : SqlVal} {raw : Bool} (s : Cache) (body : Cache → Body) (fresh : Option Nat)
    (hd : s.depth = 0)
    (hb : Fr dbk raw s.cfg.cullLimit s.rows (body (s.log .begin)).s.rows) :
    Fr dbk raw s.cfg.cullLimit s.rows (s.transact body fresh).1.rows := by
  obtain ⟨hR, -, -, -⟩ := rf_transact s body fresh hd
  rw [hR]
  split
  · exact hb
  · exact Fr.refl _ _ _ _

theorem fr_store_transact {dbk : SqlVal} {raw : Bool} (s : Cache) (E : Externals) (v : PyVal) (read : Bool)
    (hg : Good s) (body : Cols → Cache → Body)
    (hb : ∀ c t, TableInv t → Fr dbk raw t.cfg.cullLimit t.rows (body c t).s.rows) :
    Fr dbk raw s.cfg.cullLimit s.rows
      (match s.store E v read with
       | .error _ => (s, Out.exc "UnicodeEncodeError")
       | .ok (s1, c) => s1.transact (fresh := c.file) (body c)).1.rows := by
  cases hst : s.store E v read with
  | error e => exact Fr.refl _ _ _ _
  | ok sc =>
    obtain ⟨s1, c⟩ := sc
    obtain ⟨hi1, hrows⟩ := store_inv hst hg.tinv
    have hcfg : s1.cfg = s.cfg := (store_keep hst).2.1
    have hd1 : s1.depth = 0 := (store_spec hst).2.2.trans hg.depth
    have := fr_transact (dbk := dbk) (raw := raw) s1 (body c) c.file hd1 (hb c (s1.log .begin) (log_inv _ hi1))
    rw [hrows, hcfg] at this
    exact this

theorem set_frame (s : Cache) (E : Externals) (now : Int) (k v : PyVal) (ttl : Option Int) (read : Bool)
    (tag : SqlVal) (hg : Good s) :
    Fr (keyOf E s.cfg k).1 (keyOf E s.cfg k).2 s.cfg.cullLimit s.rows (s.set E now k v ttl read tag).1.rows := by
  rw [set_eq]
  exact fr_store_transact s E v read hg _ (fun _ t hi => fr_setBody (put_ne_null' E s.cfg.disk k) now _ t hi)

theorem add_frame (s : Cache) (E : Externals) (now : Int) (k v : PyVal) (ttl : Option Int) (read : Bool)
    (tag : SqlVal) (hg : Good s) :
    Fr (keyOf E s.cfg k).1 (keyOf E s.cfg k).2 s.cfg.cullLimit s.rows (s.add E now k v ttl read tag).1.rows := by
  rw [rf_add_eq]
  exact fr_store_transact s E v read hg _ (fun _ t hi => fr_addBody (put_ne_null' E s.cfg.disk k) now _ t hi)

theorem touch_frame (s : Cache) (E : Externals) (now : Int) (k : PyVal) (ttl : Option Int) (hg : Good s) :
    Fr (keyOf E s.cfg k).1 (keyOf E s.cfg k).2 s.cfg.cullLimit s.rows (s.touch E now k ttl).1.rows := by
  rw [rf_touch_eq]
  exact fr_transact s _ none hg.depth (fr_touchBody _ _ now ttl (s.log .begin) (log_inv _ hg.tinv))

theorem incr_frame (s : Cache) (E : Externals) (now : Int) (k : PyVal) (delta : Int) (dflt : Option Int)
    (hg : Good s) :
    Fr (keyOf E s.cfg k).1 (keyOf E s.cfg k).2 s.cfg.cullLimit s.rows (s.incr E now k delta dflt).1.rows := by
  rw [rf_incr_eq]
  exact fr_transact s _ none hg.depth
    (fr_incrBody (put_ne_null' E s.cfg.disk k) now delta dflt (s.log .begin) (log_inv _ hg.tinv))

end DC.Cache
