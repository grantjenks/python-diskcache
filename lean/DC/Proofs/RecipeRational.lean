/- Lemmas on the rational token bucket (C20, DC/Properties/C20_Rational.lean): the two outcomes of an
attempt, the passes of a run, and the measure by which the scheduler of sleeping calls terminates. -/
import DC.Model.RecipesQ
import DC.Proofs.RecipeLemmas

namespace DC.Recipes

/-- the burst in scaled units: max(count, 1) tokens -/
def QBucket.burst (b : QBucket) : Int := ((max b.p b.q : Nat) : Int) * b.seconds

theorem QBucket.token_nonneg (b : QBucket) : 0 ≤ b.token :=
  Int.mul_nonneg (Int.natCast_nonneg _) (Int.natCast_nonneg _)

theorem QBucket.cap_nonneg (b : QBucket) : 0 ≤ b.cap :=
  Int.mul_nonneg (Int.natCast_nonneg _) (Int.natCast_nonneg _)

theorem QBucket.token_le_cap (b : QBucket) (h : b.q ≤ b.p) : b.token ≤ b.cap :=
  Int.mul_le_mul_of_nonneg_right (Int.ofNat_le.mpr h) (Int.natCast_nonneg _)

theorem QBucket.cap_lt_token (b : QBucket) (h : b.p < b.q) (hs : 0 < b.seconds) : b.cap < b.token :=
  Int.mul_lt_mul_of_pos_right (Int.ofNat_lt.mpr h) (Int.ofNat_lt.mpr hs)

theorem min_mul_of_nonneg (a c k : Int) (hk : 0 ≤ k) : min (a * k) (c * k) = min a c * k := by
  rcases Int.le_total a c with h | h
  · rw [Int.min_eq_left h, Int.min_eq_left (Int.mul_le_mul_of_nonneg_right h hk)]
  · rw [Int.min_eq_right h, Int.min_eq_right (Int.mul_le_mul_of_nonneg_right h hk)]

theorem QBucket.burst_eq_max (b : QBucket) : b.burst = max b.cap b.token := by
  unfold QBucket.burst QBucket.cap QBucket.token
  have hs : (0 : Int) ≤ b.seconds := Int.natCast_nonneg _
  rcases Nat.le_total b.q b.p with h | h
  · rw [Nat.max_eq_left h, Int.max_eq_left (Int.mul_le_mul_of_nonneg_right (Int.ofNat_le.mpr h) hs)]
  · rw [Nat.max_eq_right h, Int.max_eq_right (Int.mul_le_mul_of_nonneg_right (Int.ofNat_le.mpr h) hs)]

theorem QBucket.cap_le_burst (b : QBucket) : b.cap ≤ b.burst :=
  b.burst_eq_max ▸ Int.le_max_left ..

theorem QBucket.token_le_burst (b : QBucket) : b.token ≤ b.burst :=
  b.burst_eq_max ▸ Int.le_max_right ..

theorem QBucket.attempt_of_pass (b : QBucket) (now : Int)
    (h : b.cap < b.tally + (now - b.last) ∨ b.token ≤ b.tally + (now - b.last)) :
    b.attempt now =
      ({ b with last := now, tally := min (b.tally + (now - b.last)) b.cap - b.token }, none) := by
  by_cases h1 : b.tally + (now - b.last) > b.cap
  · simp only [QBucket.attempt, h1, if_true, Int.min_eq_right (Int.le_of_lt h1)]
  · have h2 : b.tally + (now - b.last) ≥ b.token := h.resolve_left h1
    simp only [QBucket.attempt, h1, h2, if_true, if_false, Int.min_eq_left (Int.not_lt.mp h1)]

theorem QBucket.attempt_of_refuse (b : QBucket) (now : Int)
    (h1 : b.tally + (now - b.last) ≤ b.cap) (h2 : b.tally + (now - b.last) < b.token) :
    b.attempt now = (b, some (b.token - (b.tally + (now - b.last)))) := by
  simp only [QBucket.attempt, Int.not_lt.mpr h1, Int.not_le.mpr h2, if_false]

theorem QBucket.attempt_cases (b : QBucket) (now : Int) :
    ((b.cap < b.tally + (now - b.last) ∨ b.token ≤ b.tally + (now - b.last)) ∧
      b.attempt now =
        ({ b with last := now, tally := min (b.tally + (now - b.last)) b.cap - b.token }, none)) ∨
    (b.tally + (now - b.last) ≤ b.cap ∧ b.tally + (now - b.last) < b.token ∧
      b.attempt now = (b, some (b.token - (b.tally + (now - b.last))))) := by
  by_cases h : b.cap < b.tally + (now - b.last) ∨ b.token ≤ b.tally + (now - b.last)
  · exact .inl ⟨h, b.attempt_of_pass now h⟩
  · have h1 := Int.not_lt.mp (fun h1 => h (.inl h1))
    have h2 := Int.not_le.mp (fun h2 => h (.inr h2))
    exact .inr ⟨h1, h2, b.attempt_of_refuse now h1 h2⟩

theorem QBucket.attempt_params (b : QBucket) (now : Int) :
    (b.attempt now).1.p = b.p ∧ (b.attempt now).1.q = b.q ∧ (b.attempt now).1.seconds = b.seconds := by
  rcases b.attempt_cases now with ⟨_, he⟩ | ⟨_, _, he⟩ <;> rw [he] <;> exact ⟨rfl, rfl, rfl⟩

theorem QBucket.attempt_cap (b : QBucket) (now : Int) : (b.attempt now).1.cap = b.cap := by
  obtain ⟨h1, _, h3⟩ := b.attempt_params now
  simp [QBucket.cap, h1, h3]

theorem QBucket.attempt_token (b : QBucket) (now : Int) : (b.attempt now).1.token = b.token := by
  obtain ⟨_, h2, h3⟩ := b.attempt_params now
  simp [QBucket.token, h2, h3]

theorem QBucket.attempt_burst (b : QBucket) (now : Int) : (b.attempt now).1.burst = b.burst := by
  obtain ⟨h1, h2, h3⟩ := b.attempt_params now
  simp [QBucket.burst, h1, h2, h3]

theorem QBucket.passes_cons (b : QBucket) (now : Int) (rest : List Int) :
    b.passes (now :: rest) =
      (if (b.attempt now).2 = none then [now] else []) ++ (b.attempt now).1.passes rest := by
  rw [QBucket.passes]
  rcases h : b.attempt now with ⟨b', _ | d⟩ <;> simp

theorem QBucket.passesCapped_cons (b : QBucket) (now : Int) (rest : List Int) :
    b.passesCapped (now :: rest) =
      (if (b.attemptCapped now).2 = none then [now] else []) ++ (b.attemptCapped now).1.passesCapped rest := by
  rw [QBucket.passesCapped]
  rcases h : b.attemptCapped now with ⟨b', _ | d⟩ <;> simp

theorem QBucket.run_cons (b : QBucket) (now : Int) (rest : List Int) :
    b.run (now :: rest) = (b.attempt now).1.run rest := rfl

theorem QBucket.ofBucket_cap (b : Bucket) : (QBucket.ofBucket b).cap = (b.count : Int) * b.seconds := rfl

theorem QBucket.ofBucket_token (b : Bucket) : (QBucket.ofBucket b).token = b.seconds := by
  simp [QBucket.token, QBucket.ofBucket]

theorem QBucket.ofBucket_burst (b : Bucket) (hc : 0 < b.count) :
    (QBucket.ofBucket b).burst = (b.count : Int) * b.seconds := by
  have : max b.count 1 = b.count := Nat.max_eq_left hc
  simp [QBucket.burst, QBucket.ofBucket, this]

theorem QBucket.attempt_none_iff (b : QBucket) (now : Int) :
    (b.attempt now).2 = none ↔
      (b.cap < b.tally + (now - b.last) ∨ b.token ≤ b.tally + (now - b.last)) := by
  rcases b.attempt_cases now with ⟨h, he⟩ | ⟨h1, h2, he⟩ <;> rw [he]
  · exact ⟨fun _ => h, fun _ => rfl⟩
  · exact ⟨fun h => (nomatch h), fun h => (h.elim (Int.not_lt.mpr h1) (Int.not_le.mpr h2)).elim⟩

theorem QBucket.attempt_none (b : QBucket) (now : Int) (h : (b.attempt now).2 = none) :
    (b.attempt now).1 =
      { b with last := now, tally := min (b.tally + (now - b.last)) b.cap - b.token } := by
  rcases b.attempt_cases now with ⟨_, he⟩ | ⟨_, _, he⟩ <;> rw [he] at h ⊢
  cases h

theorem QBucket.attempt_some_state (b : QBucket) (now : Int) (h : ¬ (b.attempt now).2 = none) :
    (b.attempt now).1 = b := by
  rcases b.attempt_cases now with ⟨_, he⟩ | ⟨_, _, he⟩ <;> rw [he] at h ⊢
  exact absurd rfl h

theorem QBucket.first_pass (times : List Int) : ∀ (b : QBucket) (a : Int) (rest : List Int),
    b.passes times = a :: rest →
    (b.attempt a).2 = none ∧ ∃ times', (b.attempt a).1.passes times' = rest := by
  induction times with
  | nil => intro b a rest h; cases h
  | cons now more ih =>
    intro b a rest h
    rw [QBucket.passes_cons] at h
    by_cases hn : (b.attempt now).2 = none
    · rw [if_pos hn] at h
      cases h
      exact ⟨hn, more, rfl⟩
    · rw [if_neg hn, List.nil_append, QBucket.attempt_some_state b now hn] at h
      exact ih b a rest h

theorem QBucket.passes_suffix (pre : List Int) : ∀ (b : QBucket) (times rest : List Int),
    b.passes times = pre ++ rest →
    ∃ (last tally : Int) (times' : List Int),
      { b with last := last, tally := tally }.passes times' = rest := by
  induction pre with
  | nil => intro b times rest h; exact ⟨b.last, b.tally, times, h⟩
  | cons x pre ih =>
    intro b times rest h
    obtain ⟨hn, times', h'⟩ := QBucket.first_pass times b x (pre ++ rest) h
    rw [b.attempt_none x hn] at h'
    exact (ih _ times' rest h' :)

theorem QBucket.passes_append (xs : List Int) : ∀ (b : QBucket) (ys : List Int),
    b.passes (xs ++ ys) = b.passes xs ++ (b.run xs).passes ys := by
  induction xs with
  | nil => intro b ys; rfl
  | cons x xs ih =>
    intro b ys
    rw [List.cons_append, QBucket.passes_cons, QBucket.passes_cons, QBucket.run_cons, ih, List.append_assoc]

theorem QBucket.run_of_no_pass (xs : List Int) : ∀ (b : QBucket), b.passes xs = [] → b.run xs = b := by
  induction xs with
  | nil => intro b _; rfl
  | cons x xs ih =>
    intro b h
    rw [QBucket.passes_cons] at h
    by_cases hn : (b.attempt x).2 = none
    · rw [if_pos hn] at h; simp at h
    · rw [if_neg hn, List.nil_append, QBucket.attempt_some_state b x hn] at h
      rw [QBucket.run_cons, QBucket.attempt_some_state b x hn]
      exact ih b h

/-- the instant from which an attempt on this state is certainly let through: where the tally
reaches one token -/
def QBucket.deadline (b : QBucket) : Int := b.last + (b.token - b.tally)

/-- calls whose next attempt may still be refused in the present state -/
def QSys.stale (s : QSys) : Nat := s.waiting.countP (fun w => decide (w < s.b.deadline))

/-- termination measure: every attempt lowers it -/
def QSys.measure (s : QSys) : Nat := tri s.waiting.length + s.stale

theorem tri_ge (n : Nat) : n ≤ tri n := by
  induction n with
  | zero => exact Nat.le_refl _
  | succ n ih => simp only [tri]; omega

theorem QBucket.refused_deadline (b : QBucket) (now d : Int) (h : (b.attempt now).2 = some d) :
    now < b.deadline ∧ now + d = b.deadline := by
  unfold QBucket.deadline
  rcases b.attempt_cases now with ⟨_, he⟩ | ⟨_, h2, he⟩ <;> rw [he] at h
  · cases h
  · simp only [Option.some.injEq] at h
    omega

theorem QSys.step_cases (s : QSys) (pick : Nat × Nat) (hne : s.waiting ≠ []) :
    ∃ (i : Nat) (hi : i < s.waiting.length) (now : Int), s.waiting[i] ≤ now ∧
      (((s.b.attempt now).2 = none ∧
          s.step pick =
            { b := (s.b.attempt now).1, waiting := s.waiting.eraseIdx i, log := now :: s.log }) ∨
       (∃ d, (s.b.attempt now).2 = some d ∧
          s.step pick = { s with waiting := s.waiting.set i (now + d), log := now :: s.log })) := by
  obtain ⟨b, waiting, log⟩ := s
  cases waiting with
  | nil => exact absurd rfl hne
  | cons w0 ws =>
    have hi : pick.1 % (ws.length + 1) < (w0 :: ws).length := Nat.mod_lt _ (Nat.succ_pos _)
    refine ⟨_, hi, (w0 :: ws)[pick.1 % (ws.length + 1)] + (pick.2 : Int),
      Int.le_add_of_nonneg_right (Int.natCast_nonneg _), ?_⟩
    simp only [QSys.step, List.getD_eq_getElem?_getD, List.getElem?_eq_getElem hi, Option.getD_some]
    rcases b.attempt ((w0 :: ws)[pick.1 % (ws.length + 1)] + (pick.2 : Int)) with ⟨b', _ | d⟩
    · exact .inl ⟨rfl, rfl⟩
    · exact .inr ⟨d, rfl, rfl⟩

theorem QSys.step_of_nil (s : QSys) (pick : Nat × Nat) (hw : s.waiting = []) : s.step pick = s := by
  unfold QSys.step
  rw [hw]

theorem QSys.run_cons (s : QSys) (pick : Nat × Nat) (rest : List (Nat × Nat)) :
    s.run (pick :: rest) = (s.step pick).run rest := rfl

theorem QSys.run_of_nil (sched : List (Nat × Nat)) (s : QSys) (hw : s.waiting = []) : s.run sched = s :=
  foldl_inv QSys.step (· = s) (fun _ pick h => h ▸ QSys.step_of_nil s pick hw) sched s rfl

/-- every scheduled attempt lowers the measure: a pass removes a call, a refusal turns a call
that was before the deadline into one that sleeps exactly until the deadline -/
theorem QSys.step_measure (s : QSys) (pick : Nat × Nat) (hne : s.waiting ≠ []) :
    (s.step pick).measure < s.measure := by
  obtain ⟨i, hi, now, hle, ⟨_, he⟩ | ⟨d, hd, he⟩⟩ := s.step_cases pick hne <;> rw [he] <;>
    unfold QSys.measure QSys.stale <;> dsimp only
  · have hc := List.countP_le_length
      (p := fun w => decide (w < (s.b.attempt now).1.deadline)) (l := s.waiting.eraseIdx i)
    obtain ⟨n, hn⟩ : ∃ n, s.waiting.length = n + 1 := ⟨_, (Nat.succ_pred_eq_of_pos (Nat.zero_lt_of_lt hi)).symm⟩
    rw [List.length_eraseIdx_of_lt hi, hn, Nat.add_sub_cancel] at hc ⊢
    rw [tri]
    omega
  · obtain ⟨hlt, heq⟩ := QBucket.refused_deadline s.b now d hd
    have hstale : decide (s.waiting[i] < s.b.deadline) = true := decide_eq_true (Int.lt_of_le_of_lt hle hlt)
    have hpos : 0 < s.waiting.countP (fun w => decide (w < s.b.deadline)) :=
      List.countP_pos_iff.2 ⟨_, List.getElem_mem hi, hstale⟩
    rw [List.length_set, heq, List.countP_set hi, if_pos hstale,
      if_neg (by rw [decide_eq_true_eq]; exact Int.lt_irrefl _)]
    omega

end DC.Recipes
