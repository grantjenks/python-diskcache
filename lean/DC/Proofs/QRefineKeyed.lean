/-
The key-addressed calls on ordinary keys and the bulk removals, on a state that also holds
queues.  The dictionary part is the argument of DC/Properties/C03_Refine.lean restricted to the
ordinary keys (`rf_assemble_ord`).  A key-addressed call leaves the queues alone (`QKeeps`):
after get / contains / pop / delitem / delete the state is the state before without some rows
(`Shrunk`), none of them a queue row; set / add / touch / incr neither rewrite nor append a queue
row (DC/Proofs/QRefineFrame.lean) and their lazy cull (`_cull`) removes expired rows only, none
when `cull_limit = 0` (`QKeeps.of_write`).  Each call is treated once, under the loose relation
and `QOkL` (`keyed_qkeeps`); the exact relation follows by `QKeeps.refines`.  After a bulk
removal (clear, evict, expire, cull) the state is the state before without the rows the
specification drops as well (`qr_bulk`, `ql_bulk`).
-/
import DC.Proofs.QRefineLemmas
import DC.Proofs.QRefineFrame

namespace DC.Cache
open DC.Spec DC.QSpec

theorem rf_assemble_ord {v v' : Key → Option Entry} {m m' : Dict} {clock now : Int} {K : Key}
    {upd : Option Entry → Option Entry}
    (hr : ∀ k, isQueueKey k = false → rf_VRel (v k) (m.get k) clock) (hn : clock ≤ now)
    (hK : isQueueKey K = false)
    (hA : rf_Culled now (rf_at K (upd (v K)) v) v')
    (hB : ∀ k', m'.get k' = rf_at K (upd (m.get K)) m.get k')
    (hC : ∀ a d, rf_VRel a d now → rf_VRel (upd a) (upd d) now) :
    ∀ k, isQueueKey k = false → rf_VRel (v' k) (m'.get k) now := by
  intro k hk
  apply rf_VRel_culled hA
  rw [hB k]
  unfold rf_at
  split
  · exact hC _ _ (rf_VRel_mono (hr K hK) hn)
  · exact rf_VRel_mono (hr k hk) hn

theorem ord_del {m : Dict} (h : ∀ b ∈ m, isQueueKey b.1 = false) (K : Key) :
    ∀ b ∈ m.del K, isQueueKey b.1 = false :=
  fun b hb => h b (List.mem_filter.1 hb).1

theorem get_qkeeps (c : Cache) (q : QSpec.State) (n : Nat) (clock now : Int) (E : Externals) (k : PyVal)
    (read et tg : Bool) (hok : QOkL c n) (hr : QLoose c q clock) (hn : clock ≤ now)
    (hK : isQueueKey (keyOf E c.cfg k) = false) :
    (c.get E now k read et tg).2 = (Spec.get q.dict E c.cfg now k read et tg).2 ∧
    QLoose (c.get E now k read et tg).1 { q with dict := (Spec.get q.dict E c.cfg now k read et tg).1 } now ∧
    QKeeps c (c.get E now k read et tg).1 now := by
  have hg := hok.good
  have hsh : Shrunk c (c.get E now k read et tg).1 (fun _ => true) :=
    Shrunk.of_core (get_good _ _ _ _ _ _ _ hg) (rf_get_core c E now k read et tg hg.depth hok.pol)
  rw [rf_get_spec read et tg (rf_VRel_mono (hr.vrel _ hK) hn)]
  exact ⟨rf_get_out' _ _ _ _ _ _ _ hg, qloose_shrunk_id hg hr hn hsh (fun _ _ => rfl)⟩

theorem contains_qkeeps (c : Cache) (q : QSpec.State) (n : Nat) (clock now : Int) (E : Externals) (k : PyVal)
    (hok : QOkL c n) (hr : QLoose c q clock) (hn : clock ≤ now)
    (hK : isQueueKey (keyOf E c.cfg k) = false) :
    (c.contains E now k).2 = (Spec.contains q.dict E c.cfg now k).2 ∧
    QLoose (c.contains E now k).1 { q with dict := (Spec.contains q.dict E c.cfg now k).1 } now ∧
    QKeeps c (c.contains E now k).1 now := by
  have hg := hok.good
  have hKr := rf_VRel_mono (hr.vrel _ hK) hn
  have hsh : Shrunk c (c.contains E now k).1 (fun _ => true) :=
    Shrunk.of_core (step_good c (.contains E now k) rfl hg) (rf_contains_core c E now k)
  refine ⟨?_, qloose_shrunk_id hg hr hn hsh (fun _ _ => rfl)⟩
  rw [rf_contains_out _ _ _ _ hg]
  exact congrArg Out.bool ((rf_has_rel hKr).trans (rf_has_dict _ _ _).symm)

/-! ### `delitem`, `delete`, `pop`: the live row of the key leaves, nothing else changes -/

theorem del_keeps {c c' : Cache} {f : Row → Bool} {q : QSpec.State} {clock now : Int} {K : Key}
    (hg : Good c) (hr : QLoose c q clock) (hn : clock ≤ now) (hK : isQueueKey K = false)
    (hsh : Shrunk c c' f) (hfq : ∀ p, ∀ r ∈ c.queueRows p, f r = true)
    (hV : ∀ k', rf_view c' k' = rf_at K (rf_delU now (rf_view c K)) (rf_view c) k') :
    QLoose c' { q with dict := if rf_has now (q.dict.get K) then q.dict.del K else q.dict } now ∧
    QKeeps c c' now :=
  have hk := QKeeps.of_shrunk hg hsh hfq now
  have hord : ∀ b ∈ (if rf_has now (q.dict.get K) then q.dict.del K else q.dict), isQueueKey b.1 = false := by
    split
    · exact ord_del hr.ord K
    · exact hr.ord
  ⟨hk.loose hr hn _ (rf_del_wf hr.wf _ _) hord
    (rf_assemble_ord (upd := rf_delU now) hr.vrel hn hK (fun k' => .inl (hV k'))
      (fun k' => rf_del_spec q.dict _ now k') (fun _ _ h => rf_delU_rel h)), hk⟩

theorem del_rows_queue {c : Cache} (hg : Good c) {K : Key} (hK : isQueueKey K = false) {now : Int}
    {r0 : Row} (hsel : c.selLive K.1 K.2 now = some r0) :
    ∀ p, ∀ r ∈ c.queueRows p, (r.rowid != r0.rowid) = true := by
  intro p r hr
  have hk0 : keyMatch K.1 K.2 r0 = true := by
    have := List.find?_some hsel
    simp only [Bool.and_eq_true] at this
    exact this.1
  rw [queueRows_eq] at hr
  obtain ⟨hrr, hq⟩ := mem_qrows.1 hr
  apply qr_other_rowid hg (List.mem_of_find?_eq_some hsel) hrr
  intro e
  subst e
  have := keyMatch_ordinary hK hq
  rw [hk0] at this; cases this

theorem delitem_shrunk (c : Cache) (E : Externals) (now : Int) (k : PyVal) (hg : Good c)
    (hK : isQueueKey (keyOf E c.cfg k) = false) :
    ∃ f, Shrunk c (c.delitem E now k).1 f ∧ ∀ p, ∀ r ∈ c.queueRows p, f r = true := by
  have hg' := delitem_good c E now k hg
  have hrows := delete_rows c E now k hg.tinv
  rw [delete_fst] at hrows
  have hcfg := rf_delitem_cfg c E now k
  have hfiles : ∀ f ∈ (c.delitem E now k).1.files, f ∈ c.files := by
    rw [rf_delitem_eq]
    obtain ⟨-, hF, -, -⟩ := rf_transact c (rf_delBody (keyOf E c.cfg k).1 (keyOf E c.cfg k).2 now) none hg.depth
    intro f hf
    have := hF f hf
    unfold rf_delBody at this
    simp only at this
    split at this
    · exact this
    · rw [rf_delRow_files] at this; exact this
  cases hsel : c.selLive (DC.put E c.cfg.disk k).1 (DC.put E c.cfg.disk k).2 now with
  | none =>
    rw [hsel] at hrows
    exact ⟨fun _ => true, ⟨hg', by rw [filter_true']; exact hrows, hcfg, hfiles⟩, fun _ _ _ => rfl⟩
  | some r0 =>
    rw [hsel] at hrows
    exact ⟨fun x => x.rowid != r0.rowid, ⟨hg', hrows, hcfg, hfiles⟩, del_rows_queue hg hK hsel⟩

theorem delitem_qkeeps (c : Cache) (q : QSpec.State) (n : Nat) (clock now : Int) (E : Externals) (k : PyVal)
    (hok : QOkL c n) (hr : QLoose c q clock) (hn : clock ≤ now)
    (hK : isQueueKey (keyOf E c.cfg k) = false) :
    (c.delitem E now k).2 = (Spec.delitem q.dict E c.cfg now k).2 ∧
    QLoose (c.delitem E now k).1 { q with dict := (Spec.delitem q.dict E c.cfg now k).1 } now ∧
    QKeeps c (c.delitem E now k).1 now := by
  have hg := hok.good
  obtain ⟨hO, hV⟩ := rf_delitem_view c E now k hg
  obtain ⟨f, hsh, hfq⟩ := delitem_shrunk c E now k hg hK
  rw [rf_delitem_spec]
  exact ⟨by rw [hO, rf_has_rel (rf_VRel_mono (hr.vrel _ hK) hn)], del_keeps hg hr hn hK hsh hfq hV⟩

theorem delete_qkeeps (c : Cache) (q : QSpec.State) (n : Nat) (clock now : Int) (E : Externals) (k : PyVal)
    (hok : QOkL c n) (hr : QLoose c q clock) (hn : clock ≤ now)
    (hK : isQueueKey (keyOf E c.cfg k) = false) :
    (c.delete E now k).2 = (Spec.delete q.dict E c.cfg now k).2 ∧
    QLoose (c.delete E now k).1 { q with dict := (Spec.delete q.dict E c.cfg now k).1 } now ∧
    QKeeps c (c.delete E now k).1 now := by
  -- the state afterwards is that of `delitem`, on both sides; only the result differs
  rw [rf_delete_spec, delete_fst]
  exact ⟨by rw [(rf_delete_view c E now k hok.good).1, rf_has_rel (rf_VRel_mono (hr.vrel _ hK) hn)],
    (delitem_qkeeps c q n clock now E k hok hr hn hK).2⟩

theorem pop_shrunk (c : Cache) (E : Externals) (now : Int) (k : PyVal) (et tg : Bool) (hg : Good c)
    (hK : isQueueKey (keyOf E c.cfg k) = false) :
    ∃ f, Shrunk c (c.pop E now k et tg).1 f ∧ ∀ p, ∀ r ∈ c.queueRows p, f r = true := by
  have hg' := pop_good c E now k et tg hg
  cases hsel : c.selLive (DC.put E c.cfg.disk k).1 (DC.put E c.cfg.disk k).2 now with
  | none =>
    rw [rf_pop_none hsel] at hg' ⊢
    have hc : core (c.transact fun s => { s := s.logSql "selLive", out := .none }).1 = core c :=
      rf_transact_core_same c _ none hg.depth ⟨rfl, rfl, rfl⟩
    exact ⟨fun _ => true, Shrunk.of_core hg' hc, fun _ _ _ => rfl⟩
  | some r0 =>
    have hc := rf_pop_core et tg hg.depth hsel
    exact ⟨fun x => x.rowid != r0.rowid, Shrunk.of_del hg' (congrArg Core.rows hc) hc,
      del_rows_queue hg hK hsel⟩

theorem pop_qkeeps (c : Cache) (q : QSpec.State) (n : Nat) (clock now : Int) (E : Externals) (k : PyVal)
    (et tg : Bool) (hok : QOkL c n) (hr : QLoose c q clock) (hn : clock ≤ now)
    (hK : isQueueKey (keyOf E c.cfg k) = false) :
    (c.pop E now k et tg).2 = (Spec.pop q.dict E c.cfg now k et tg).2 ∧
    QLoose (c.pop E now k et tg).1 { q with dict := (Spec.pop q.dict E c.cfg now k et tg).1 } now ∧
    QKeeps c (c.pop E now k et tg).1 now := by
  have hg := hok.good
  obtain ⟨hO, hV⟩ := rf_pop_view c E now k et tg hg
  obtain ⟨f, hsh, hfq⟩ := pop_shrunk c E now k et tg hg hK
  rw [rf_pop_spec, rf_get_spec false et tg (rf_VRel_mono (hr.vrel _ hK) hn)]
  exact ⟨hO, del_keeps hg hr hn hK hsh hfq hV⟩

/-- a row of `c` under another key than `K`, after a write to `K` with the frame property: it is
still there and reads as before, or it is gone and was expired at `now` -/
theorem rf_write_row {c c' : Cache} {now : Int} {K : Key} {u : Option Entry} (hg : Good c)
    (hg' : Good c') (hV : rf_Culled now (rf_at K u (rf_view c)) (rf_view c'))
    (h1 : ∀ r ∈ c'.rows, keyMatch K.1 K.2 r = false → r ∈ c.rows)
    {r : Row} (hrr : r ∈ c.rows) (hkm : keyMatch K.1 K.2 r = false) :
    (r ∈ c'.rows ∧ rf_ent c' r = rf_ent c r) ∨ (r ∉ c'.rows ∧ expired now r = true) := by
  have hself := rf_keyMatch_self (hg.tinv.tbl.nonnull r hrr)
  have hns : sameKey K (r.key, r.raw) = false := by
    cases hs : sameKey K (r.key, r.raw) with
    | false => rfl
    | true => rw [rf_keyMatch_sameKey, rf_sameKey_symm hs] at hkm; cases hkm
  -- the view at the key of a row of the table is what that row reads
  have hview : ∀ {s : Cache}, Good s → r ∈ s.rows → rf_view s (r.key, r.raw) = some (rf_ent s r) := by
    intro s hs hmem
    unfold rf_view rf_look
    rw [rf_find_of_mem hs.tinv.tbl.uniq hmem hself]; rfl
  have hat : rf_at K u (rf_view c) (r.key, r.raw) = some (rf_ent c r) := by
    unfold rf_at; rw [hns]; exact hview hg hrr
  rcases hV (r.key, r.raw) with hv | ⟨hv, e, he1, he2⟩
  · left
    rw [hat] at hv
    -- the row `x` that `c'` has under the key of `r` is not under `K`, so it is a row of `c`: `r`
    have hmem : r ∈ c'.rows := by
      unfold rf_view rf_look at hv
      cases hf : c'.rows.find? (keyMatch r.key r.raw) with
      | none => rw [hf] at hv; cases hv
      | some x =>
        have hx := List.mem_of_find?_eq_some hf
        have hkx : keyMatch r.key r.raw x = true := List.find?_some hf
        have hxK : keyMatch K.1 K.2 x = false := by
          cases hxk : keyMatch K.1 K.2 x with
          | false => rfl
          | true =>
            have hs1 : sameKey (x.key, x.raw) K = true := hxk
            have hs2 : sameKey (x.key, x.raw) (r.key, r.raw) = true := hkx
            rw [rf_sameKey_trans (rf_sameKey_symm hs1) hs2] at hns; cases hns
        rw [← keysUnique_eq hg.tinv.tbl.uniq (h1 x hx hxK) hrr hkx hself]; exact hx
    rw [hview hg' hmem] at hv
    exact ⟨hmem, Option.some.inj hv⟩
  · right
    rw [hat] at he1
    cases he1
    refine ⟨fun hmem => ?_, he2⟩
    rw [hview hg' hmem] at hv; cases hv

/-- the queue of a table all of whose rows in the range of the queue are rows of `c` -/
theorem queueRows_of_sub {c c' : Cache} (hg : Good c) (hg' : Good c') (p : Option Str)
    (h : ∀ x ∈ c'.rows, qfilter p x = true → x ∈ c.rows) :
    c'.queueRows p = (c.queueRows p).filter (fun r => decide (r ∈ c'.rows)) := by
  rw [queueRows_eq, queueRows_eq]
  apply qrows_eq_of_mem hg'.tinv.tbl.uniq hg'.tinv.tbl.nonnull
  · exact List.Pairwise.filter _ (qrows_sorted hg.tinv.tbl.uniq hg.tinv.tbl.nonnull p)
  · intro x
    rw [List.mem_filter, mem_qrows, decide_eq_true_eq]
    exact ⟨fun ⟨hx, hm⟩ => ⟨hm, hx.2⟩, fun ⟨hx, hq⟩ => ⟨⟨h x hx hq, hq⟩, hx⟩⟩

/-- **the frame of a write to an ordinary key**: the view changes at `K` only, up to the lazy
cull (`hV`); the rows of the other keys come from the state before (`h1`) and, when
`cull_limit = 0`, all stay (`h2`).  Then every queue is what it was, minus rows that are expired
at `now`, and minus none when `cull_limit = 0`. -/
theorem QKeeps.of_write {c c' : Cache} {n : Nat} {now : Int} {K : Key} {u : Option Entry}
    (hok : QOkL c n) (hg' : Good c') (hcfg : c'.cfg = c.cfg) (hK : isQueueKey K = false)
    (hV : rf_Culled now (rf_at K u (rf_view c)) (rf_view c'))
    (h1 : ∀ r ∈ c'.rows, keyMatch K.1 K.2 r = false → r ∈ c.rows)
    (h2 : c.cfg.cullLimit = 0 → ∀ r ∈ c.rows, keyMatch K.1 K.2 r = false → r ∈ c'.rows) :
    QKeeps c c' now := by
  have hg := hok.good
  -- `hV` read at the key of a queue row, which is not `K`: the row stays and denotes the same entry,
  -- or it is gone and was expired
  have hcase : ∀ p, ∀ r ∈ c.queueRows p,
      (r ∈ c'.rows ∧ rf_ent c' r = rf_ent c r) ∨ (r ∉ c'.rows ∧ expired now r = true) :=
    fun p r hr => rf_write_row hg hg' hV h1 (mem_qrows.1 hr).1 (keyMatch_ordinary hK (mem_qrows.1 hr).2)
  have hrows : ∀ p, c'.queueRows p = (c.queueRows p).filter (fun r => decide (r ∈ c'.rows)) :=
    fun p => queueRows_of_sub hg hg' p (fun x hx hq => h1 x hx (keyMatch_ordinary hK hq))
  have hsub : ∀ p, ∀ r ∈ c'.queueRows p, r ∈ c.queueRows p ∧ rf_ent c' r = rf_ent c r := by
    intro p r hr'
    rw [hrows p] at hr'
    obtain ⟨a, b⟩ := List.mem_filter.1 hr'
    rcases hcase p r a with h | ⟨h, -⟩
    · exact ⟨a, h.2⟩
    · exact absurd (by simpa using b) h
  refine ⟨hg', hcfg, fun p => ?_, fun p r hr' => ?_⟩
  · refine culled_queue hg.tinv.tbl.uniq hg.tinv.tbl.nonnull (fun r hr' => (mem_qrows.1 hr').1) ?_
      (hrows p) (fun r hr' => (hsub p r hr').2) ?_
    · intro r hr'
      obtain ⟨m, a1, a2, -, -⟩ := hok.qok p r hr'
      exact ⟨qfilter_raw (mem_qrows.1 hr').2, m, a1, a2⟩
    · intro x hx hgx
      have hnot : x ∉ c'.rows := by simpa using hgx
      rcases hcase p x hx with h | h
      · exact absurd h.1 hnot
      · obtain ⟨hxr, hq⟩ := mem_qrows.1 hx
        exact ⟨h.2, fun h0 => hnot (h2 h0 x hxr (keyMatch_ordinary hK hq))⟩
  · rw [entryOfRow_eq, entryOfRow_eq]
    exact hsub p r hr'

theorem ord_put {m : Dict} (h : ∀ b ∈ m, isQueueKey b.1 = false) {K : Key} (hK : isQueueKey K = false)
    (e : Entry) : ∀ b ∈ m.put K e, isQueueKey b.1 = false := by
  intro b hb
  rcases List.mem_cons.1 hb with rfl | hb
  · exact hK
  · exact ord_del h K b hb

theorem culled_of_same {c c' : Cache} (K : Key) (now : Int) (h : ∀ k', rf_view c' k' = rf_view c k') :
    rf_Culled now (rf_at K (rf_view c K) (rf_view c)) (rf_view c') := by
  intro k'
  left
  rw [h k', rf_at_self (fun k'' hs => rf_view_sameKey hs c)]

theorem culled_of_eq {c c' : Cache} {K : Key} {u : Option Entry} (now : Int)
    (h : ∀ k', rf_view c' k' = rf_at K u (rf_view c) k') :
    rf_Culled now (rf_at K u (rf_view c)) (rf_view c') := fun k' => .inl (h k')

theorem write_keeps {c c' : Cache} {n : Nat} {q : QSpec.State} {clock now : Int} {K : Key}
    {u : Option Entry}
    (hok : QOkL c n) (hr : QLoose c q clock) (hn : clock ≤ now) (hg' : Good c') (hcfg : c'.cfg = c.cfg)
    (hK : isQueueKey K = false) (hfr : Fr K.1 K.2 c.cfg.cullLimit c.rows c'.rows)
    (hV : rf_Culled now (rf_at K u (rf_view c)) (rf_view c'))
    (d' : Dict) (hwf : d'.WF) (hord : ∀ b ∈ d', isQueueKey b.1 = false)
    (hdict : ∀ k, isQueueKey k = false → rf_VRel (rf_view c' k) (d'.get k) now) :
    QLoose c' { q with dict := d' } now ∧ QKeeps c c' now :=
  have hk := QKeeps.of_write hok hg' hcfg hK hV hfr.1 hfr.2
  ⟨hk.loose hr hn d' hwf hord hdict, hk⟩

theorem write_same {c c' : Cache} {n : Nat} {q : QSpec.State} {clock now : Int} {K : Key}
    (hok : QOkL c n) (hr : QLoose c q clock) (hn : clock ≤ now) (hg' : Good c') (hcfg : c'.cfg = c.cfg)
    (hK : isQueueKey K = false) (hfr : Fr K.1 K.2 c.cfg.cullLimit c.rows c'.rows)
    (h : ∀ k', rf_view c' k' = rf_view c k') :
    QLoose c' { q with dict := q.dict } now ∧ QKeeps c c' now :=
  write_keeps hok hr hn hg' hcfg hK hfr (culled_of_same K now h) q.dict hr.wf hr.ord
    (fun k hk => by rw [h k]; exact rf_VRel_mono (hr.vrel k hk) hn)

theorem write_put {c c' : Cache} {n : Nat} {q : QSpec.State} {clock now : Int} {K : Key} {e : Entry}
    (hok : QOkL c n) (hr : QLoose c q clock) (hn : clock ≤ now) (hg' : Good c') (hcfg : c'.cfg = c.cfg)
    (hK : isQueueKey K = false) (hfr : Fr K.1 K.2 c.cfg.cullLimit c.rows c'.rows)
    (hV : rf_Culled now (rf_at K (some e) (rf_view c)) (rf_view c')) :
    QLoose c' { q with dict := q.dict.put K e } now ∧ QKeeps c c' now :=
  write_keeps hok hr hn hg' hcfg hK hfr hV _ (rf_wf_put hr.wf _ _) (ord_put hr.ord hK _)
    (rf_assemble_ord (upd := fun _ => some e) hr.vrel hn hK hV (fun _ => rf_get_put _ _ _ _)
      (fun _ _ _ => rf_VRel_refl _ _))

theorem set_qkeeps (c : Cache) (q : QSpec.State) (n : Nat) (clock now : Int) (E : Externals) (k v : PyVal)
    (ttl : Option Int) (read : Bool) (tag : SqlVal)
    (hok : QOkL c n) (hr : QLoose c q clock) (hn : clock ≤ now)
    (hK : isQueueKey (keyOf E c.cfg k) = false) :
    (c.set E now k v ttl read tag).2 = (Spec.set q.dict E c.cfg now k v ttl read tag).2 ∧
    QLoose (c.set E now k v ttl read tag).1
      { q with dict := (Spec.set q.dict E c.cfg now k v ttl read tag).1 } now ∧
    QKeeps c (c.set E now k v ttl read tag).1 now := by
  have hg := hok.good
  have hg' := set_good c E now k v ttl read tag hg
  have hA := rf_set_view c E now k v ttl read tag hg hok.pol
  have hcfg := rf_set_cfg c E now k v ttl read tag
  have hfr := set_frame c E now k v ttl read tag hg
  unfold Spec.set
  revert hA
  cases place E c.cfg.disk c.cfg.minFileSize v read with
  | error e =>
    intro hA
    simp only at hA ⊢
    rw [hA]
    exact ⟨rfl, hr.mono hn, QKeeps.refl hg now⟩
  | ok p =>
    simp only
    split
    · exact fun hA => ⟨hA.1, write_put hok hr hn hg' hcfg hK hfr hA.2⟩
    · exact fun hA => ⟨hA.1, write_same hok hr hn hg' hcfg hK hfr hA.2⟩

theorem add_qkeeps (c : Cache) (q : QSpec.State) (n : Nat) (clock now : Int) (E : Externals) (k v : PyVal)
    (ttl : Option Int) (read : Bool) (tag : SqlVal)
    (hok : QOkL c n) (hr : QLoose c q clock) (hn : clock ≤ now)
    (hK : isQueueKey (keyOf E c.cfg k) = false) :
    (c.add E now k v ttl read tag).2 = (Spec.add q.dict E c.cfg now k v ttl read tag).2 ∧
    QLoose (c.add E now k v ttl read tag).1
      { q with dict := (Spec.add q.dict E c.cfg now k v ttl read tag).1 } now ∧
    QKeeps c (c.add E now k v ttl read tag).1 now := by
  have hg := hok.good
  rcases add_set_or_same E k v ttl read tag hg (rf_VRel_mono (hr.vrel _ hK) hn) with
    ⟨h1, h2⟩ | ⟨h1, h2, h3⟩
  · rw [h1, h2]
    exact set_qkeeps c q n clock now E k v ttl read tag hok hr hn hK
  · rw [h2]
    exact ⟨h1, write_same hok hr hn (add_good c E now k v ttl read tag hg)
      (rf_add_cfg c E now k v ttl read tag) hK (add_frame c E now k v ttl read tag hg) h3⟩

theorem touch_qkeeps (c : Cache) (q : QSpec.State) (n : Nat) (clock now : Int) (E : Externals) (k : PyVal)
    (ttl : Option Int)
    (hok : QOkL c n) (hr : QLoose c q clock) (hn : clock ≤ now)
    (hK : isQueueKey (keyOf E c.cfg k) = false) :
    (c.touch E now k ttl).2 = (Spec.touch q.dict E c.cfg now k ttl).2 ∧
    QLoose (c.touch E now k ttl).1 { q with dict := (Spec.touch q.dict E c.cfg now k ttl).1 } now ∧
    QKeeps c (c.touch E now k ttl).1 now := by
  have hg := hok.good
  have hg' := touch_good c E now k ttl hg
  obtain ⟨hO, hV⟩ := rf_touch_view c E now k ttl hg
  have hcfg := rf_touch_cfg c E now k ttl
  have hfr := touch_frame c E now k ttl hg
  have hKr := rf_VRel_mono (hr.vrel _ hK) hn
  obtain ⟨hR, hP, hG⟩ := rf_touch_spec q.dict E c.cfg now k ttl
  obtain ⟨hwf, hord⟩ := hP (fun d => d.WF ∧ ∀ b ∈ d, isQueueKey b.1 = false) ⟨hr.wf, hr.ord⟩
    (fun _ => ⟨rf_wf_put hr.wf _ _, ord_put hr.ord hK _⟩)
  refine ⟨by rw [hO, hR, rf_has_rel hKr], ?_⟩
  exact write_keeps hok hr hn hg' hcfg hK hfr (culled_of_eq now hV) _ hwf hord
    (rf_assemble_ord (upd := rf_touchU now (ttl.map (now + ·))) hr.vrel hn hK (fun k' => .inl (hV k'))
      hG (fun _ _ h => rf_touchU_rel _ h))

/-- the branch of `incr` that finds no live entry and (re)creates the key -/
theorem incr_fresh_qkeeps {c c' : Cache} {q : QSpec.State} {n : Nat} {clock now : Int} {o : Out} {E : Externals}
    {k : PyVal} {delta : Int} {dflt : Option Int}
    (hok : QOkL c n) (hr : QLoose c q clock) (hn : clock ≤ now) (hg' : Good c') (hcfg : c'.cfg = c.cfg)
    (hK : isQueueKey (keyOf E c.cfg k) = false)
    (hfr : Fr (keyOf E c.cfg k).1 (keyOf E c.cfg k).2 c.cfg.cullLimit c.rows c'.rows)
    (hF : rf_IncrFreshG c c' o E (keyOf E c.cfg k) now delta dflt) :
    o = (specIncrFresh q.dict E c.cfg k delta dflt).2 ∧
    QLoose c' { q with dict := (specIncrFresh q.dict E c.cfg k delta dflt).1 } now ∧ QKeeps c c' now := by
  have hsame := write_same hok hr hn hg' hcfg hK hfr
  unfold rf_IncrFreshG at hF
  unfold specIncrFresh
  cases dflt with
  | none => exact ⟨hF.1, hsame hF.2⟩
  | some d =>
    simp only at hF ⊢
    cases hpl : place E c.cfg.disk c.cfg.minFileSize (.int (d + delta)) false with
    | error e =>
      rw [hpl] at hF
      exact ⟨hF.1, hsame hF.2⟩
    | ok p =>
      rw [hpl] at hF
      exact ⟨hF.1, write_put hok hr hn hg' hcfg hK hfr (rf_Wrote_none hF.2 hok.pol)⟩

theorem incr_qkeeps (c : Cache) (q : QSpec.State) (n : Nat) (clock now : Int) (E : Externals) (k : PyVal)
    (delta : Int) (dflt : Option Int)
    (hok : QOkL c n) (hr : QLoose c q clock) (hn : clock ≤ now)
    (hK : isQueueKey (keyOf E c.cfg k) = false) :
    (c.incr E now k delta dflt).2 = (Spec.incr q.dict E c.cfg now k delta dflt).2 ∧
    QLoose (c.incr E now k delta dflt).1 { q with dict := (Spec.incr q.dict E c.cfg now k delta dflt).1 } now ∧
    QKeeps c (c.incr E now k delta dflt).1 now := by
  have hg := hok.good
  have hg' := incr_good c E now k delta dflt hg
  have hcfg := rf_incr_cfg c E now k delta dflt
  have hfr := incr_frame c E now k delta dflt hg
  exact incr_cases (R := fun d => QLoose (c.incr E now k delta dflt).1 { q with dict := d } now ∧
      QKeeps c (c.incr E now k delta dflt).1 now)
    (rf_VRel_mono (hr.vrel _ hK) hn) (rf_incr_view_gen c E now k delta dflt hg)
    (incr_fresh_qkeeps hok hr hn hg' hcfg hK hfr)
    (write_same hok hr hn hg' hcfg hK hfr)
    (fun _ hV => write_put hok hr hn hg' hcfg hK hfr (culled_of_eq now hV))

theorem keyed_qkeeps (c : Cache) (q : QSpec.State) (n : Nat) (clock : Int) (op : Op)
    (hok : QOkL c n) (hr : QLoose c q clock)
    (hk : Spec.Keyed op = true) (hd : Spec.Determined op = true)
    (ho : QSpec.Ordinary c.cfg op = true) (hm : ∀ t, opClock op = some t → clock ≤ t) :
    (c.step op).2 = (QSpec.step q c.cfg op).2 ∧
    QLoose (c.step op).1 (QSpec.step q c.cfg op).1 ((opClock op).getD clock) ∧
    QKeeps c (c.step op).1 ((opClock op).getD clock) := by
  have ordinary : ∀ {b : Bool}, (!b) = true → b = false := fun h => by simpa using h
  cases op with
  | set E now k v ttl read tag =>
    exact set_qkeeps c q n clock now E k v ttl read tag hok hr (hm _ rfl) (ordinary ho)
  | add E now k v ttl read tag =>
    exact add_qkeeps c q n clock now E k v ttl read tag hok hr (hm _ rfl) (ordinary ho)
  | touch E now k ttl =>
    exact touch_qkeeps c q n clock now E k ttl hok hr (hm _ rfl) (ordinary ho)
  | incr E now k delta dflt =>
    exact incr_qkeeps c q n clock now E k delta dflt hok hr (hm _ rfl) (ordinary ho)
  | get E now k read et tg =>
    exact get_qkeeps c q n clock now E k read et tg hok hr (hm _ rfl) (ordinary ho)
  | contains E now k =>
    exact contains_qkeeps c q n clock now E k hok hr (hm _ rfl) (ordinary ho)
  | pop E now k et tg =>
    exact pop_qkeeps c q n clock now E k et tg hok hr (hm _ rfl) (ordinary ho)
  | delitem E now k =>
    exact delitem_qkeeps c q n clock now E k hok hr (hm _ rfl) (ordinary ho)
  | delete E now k =>
    exact delete_qkeeps c q n clock now E k hok hr (hm _ rfl) (ordinary ho)
  | clear | evict | expire | cull => cases hd
  | _ => cases hk
/-! ### bulk removal: the rows failing a test on the entry leave, in the queues as in the dictionary -/

theorem clear_shrunk {c : Cache} {n : Nat} (hok : QOkL c n) :
    Shrunk c (c.clear).1 (fun _ => false) ∧ (c.clear).1.rows = [] := by
  have hg' := clear_good c hok.good
  have hrows := (clear_all c hok.good.tinv.tbl.asc hok.good.tinv.tbl.pos hok.page).1
  refine ⟨⟨hg', by rw [hrows]; simp, rf_clear_cfg c, ?_⟩, hrows⟩
  intro f hf
  obtain ⟨r, hr', -⟩ := hg'.noOrphan f hf
  rw [hrows] at hr'; cases hr'

theorem qrefines_nil {c : Cache} (hrows : c.rows = []) (clock : Int) : QRefines c {} clock := by
  refine ⟨fun p => ?_, rf_wf_nil, (fun _ hb => by cases hb), fun k _ => ?_⟩
  · unfold absQueue; rw [queueRows_eq, hrows]; rfl
  · rw [holdsKey_iff, rf_view_nil hrows]
    exact rf_VRel_refl _ _

theorem evict_shrunk {c : Cache} {n : Nat} (hok : QOkL c n) (tag : SqlVal) :
    Shrunk c (c.evict tag).1 (fun r => !(r.tag.eqv tag)) :=
  ⟨evict_good c tag hok.good,
    (evict_exact c tag hok.good.tinv.tbl.asc hok.good.tinv.tbl.pos hok.page).1, rf_evict_cfg c tag,
    rf_evict_files c tag⟩

theorem expire_shrunk {c : Cache} {n : Nat} (hok : QOkL c n) (now : Int) :
    Shrunk c (c.expire now).1 (fun r => !(expired now r)) :=
  ⟨expire_good c now hok.good, (expire_exact c now hok.good.tinv.tbl.asc hok.page).1,
    rf_expire_cfg c now, rf_expire_files c now⟩

theorem cull_shrunk {c : Cache} {n : Nat} (hok : QOkL c n) (now : Int) :
    Shrunk c (c.cull now).1 (fun r => !(expired now r)) :=
  ⟨cull_good c now hok.good, (cull_none c now hok.good.tinv.tbl.asc hok.page hok.pol).1,
    rf_cull_cfg c now hok.pol, rf_cull_files c now hok.good.tinv.tbl.asc hok.page hok.pol⟩

theorem bulk_absQ {c c' : Cache} {f : Row → Bool} (hg : Good c) (hsh : Shrunk c c' f)
    (keep : Entry → Bool) (hfk : ∀ r, f r = keep (rf_ent c r)) (p : Option Str) :
    absQueue c' p = (absQueue c p).filter (fun it => keep it.ent) := by
  rw [hsh.absQ hg]
  unfold absQueue
  rw [List.filter_map]
  congr 1
  apply List.filter_congr
  intro r _
  exact hfk r

theorem bulk_dict {c c' : Cache} {f : Row → Bool} {d : Dict} {clock now : Int} (hg : Good c)
    (hsh : Shrunk c c' f) (keep : Entry → Bool) (hfk : ∀ r, f r = keep (rf_ent c r)) (hwf : d.WF)
    (hd : ∀ k, isQueueKey k = false → rf_VRel (rf_view c k) (d.get k) clock) (hn : clock ≤ now) :
    ∀ k, isQueueKey k = false → HoldsKey c' k (Dict.get (d.filter (fun b => keep b.2)) k) now := by
  intro k hk
  rw [holdsKey_iff, rf_view_filter hg hsh.good f keep hfk hsh.rows hsh.files k, rf_get_filter hwf]
  exact rf_VRel_filter keep (rf_VRel_mono (hd k hk) hn)

theorem ql_bulk {c c' : Cache} {f : Row → Bool} {q : QSpec.State} {clock now : Int} {n : Nat}
    (hok : QOkL c n) (hr : QLoose c q clock) (hn : clock ≤ now) (hsh : Shrunk c c' f)
    (keep : Entry → Bool) (hfk : ∀ r, f r = keep (rf_ent c r)) :
    QLoose c' { queues := q.queues.keep keep, dict := q.dict.filter (fun b => keep b.2) } now ∧
    QOkL c' n := by
  refine ⟨⟨fun p => ?_, rf_wf_filter hr.wf _, fun b hb => hr.ord b (List.mem_filter.1 hb).1,
    bulk_dict hok.good hsh keep hfk hr.wf hr.vrel hn⟩, hok.shrunk hsh⟩
  show Thinned now _ ((q.queues.keep keep).get p)
  rw [get_keep, bulk_absQ hok.good hsh keep hfk]
  exact ((hr.queues p).mono hn).filter _
theorem qr_bulk {c c' : Cache} {f : Row → Bool} {q : QSpec.State} {clock now : Int} {n : Nat}
    (hok : QOk c n) (hr : QRefines c q clock) (hn : clock ≤ now) (hsh : Shrunk c c' f)
    (keep : Entry → Bool) (hfk : ∀ r, f r = keep (rf_ent c r)) :
    QRefines c' { queues := q.queues.keep keep, dict := q.dict.filter (fun b => keep b.2) } now ∧
    QOk c' n := by
  have h := (ql_bulk hok.toL hr.loose hn hsh keep hfk).1
  refine ⟨⟨fun p => ?_, h.wf, h.ord, h.dict⟩, hok.shrunk hsh⟩
  show _ = (q.queues.keep keep).get p
  rw [get_keep, ← hr.queues p, bulk_absQ hok.good hsh keep hfk]

end DC.Cache
