/-
C12_Refine, model side: `Index.setdefault` — a lock-free look-up; on a miss one
transaction block (look-up, `add`, look-up) that is committed when the second
look-up returns something and rolled back otherwise.
-/
import DC.Proofs.IRefineBlock
import DC.Proofs.BlockInv

namespace DC.Cache
open DC.Spec

/-! ### `Disk.store` and `add`, explicitly -/

/-- the columns `Disk.store` produces for a placement, the value file (if any) named `n` -/
def irf_cols (p : Placement) (n : Nat) : Cols :=
  match p with
  | .inline mode sv => { expT := none, tag := .null, size := 0, mode := mode, file := none, val := sv }
  | .file mode c => { expT := none, tag := .null, size := c.size, mode := mode, file := some n, val := .null }

def irf_stored (s : Cache) (p : Placement) : Cache :=
  match p with
  | .inline _ _ => s
  | .file _ c => (s.fwrite c).1

theorem irf_store_eq (s : Cache) (E : Externals) (v : PyVal) :
    s.store E v false =
      match place E s.cfg.disk s.cfg.minFileSize v false with
      | .error e => .error e
      | .ok p => .ok (irf_stored s p, irf_cols p s.nfile) := by
  unfold store
  cases place E s.cfg.disk s.cfg.minFileSize v false with
  | error e => rfl
  | ok p => cases p <;> rfl

theorem irf_cols_id (p : Placement) (n : Nat) (now : Int) :
    ({ irf_cols p n with expT := (none : Option Int).map (now + ·), tag := .null } : Cols) = irf_cols p n := by
  cases p <;> rfl

theorem irf_cols_val (p : Placement) (n : Nat) : (irf_cols p n).val = (entryOf p none .null).val := by
  cases p <;> rfl

theorem irf_cols_bindable (p : Placement) (n : Nat) :
    (irf_cols p n).bindable = bindable (entryOf p none .null).val := by
  cases p <;> rfl

theorem irf_cullW_snd (t : Cache) (now : Int) (hp : t.cfg.policy = .none) (hne : NoExp t.rows) :
    (t.cullW now).2 = [] := by
  by_cases h0 : t.cfg.cullLimit = 0
  · unfold cullW; simp [h0]
  · have hE : t.selExpired now t.cfg.cullLimit = [] := by
      unfold selExpired
      have : t.rows.filter (expired now) = [] :=
        List.filter_eq_nil_iff.2 (fun r hr => by simp [expired_of_noexp (hne r hr) now])
      rw [this]; simp [isort]
    rw [cullW_eq t now h0, hE]
    simp [cullTail, hp]

/-- the result of `add` on a table without expiry: UnicodeEncodeError for a key or value cell that
cannot be bound, `False` for a bound key, `True` otherwise -/
def irf_addOut (dbk : SqlVal) (cb : Bool) (present : Bool) : Out :=
  if !bindable dbk then .exc "UnicodeEncodeError"
  else if present then .bool false
  else if cb then .bool true
  else .exc "UnicodeEncodeError"

theorem irf_addBody_cases (t : Cache) (dbk : SqlVal) (raw : Bool) (now : Int) (c : Cols)
    (hp : t.cfg.policy = .none) (hne : NoExp t.rows) (hce : c.expT = none) :
    (rf_addBody dbk raw now c t).out = irf_addOut dbk c.bindable (t.selKey dbk raw).isSome ∧
    if (bindable dbk && c.bindable && (t.selKey dbk raw).isNone) = true then
      (rf_addBody dbk raw now c t).ok = true ∧ (rf_addBody dbk raw now c t).cleanup = [] ∧
      core (rf_addBody dbk raw now c t).s = { core t with rows := t.rows ++ [newRow t dbk raw now c] }
    else core (rf_addBody dbk raw now c t).s = core t := by
  unfold rf_addBody irf_addOut
  cases hb : bindable dbk with
  | false =>
    exact ⟨rfl, by simp only [Bool.false_and, Bool.false_eq_true, if_false, Bool.not_false, if_true]; rfl⟩
  | true =>
    simp only [Bool.true_and, Bool.not_true, Bool.false_eq_true, if_false]
    cases hs : t.selKey dbk raw with
    | some r =>
      have hl : live now r = true := live_of_noexp (hne r (selKey_mem hs)) now
      simp only [Option.isNone_some, Option.isSome_some, Bool.and_false, Bool.false_eq_true, if_false, hl,
        if_true]
      exact ⟨trivial, rfl⟩
    | none =>
      simp only [Option.isNone_none, Option.isSome_none, Bool.and_true, Bool.false_eq_true, if_false]
      cases hcb : c.bindable with
      | false =>
        simp only [Bool.false_eq_true, if_false, Bool.not_false, if_true]
        exact ⟨trivial, rfl⟩
      | true =>
        simp only [if_true, Bool.not_true, Bool.false_eq_true, if_false]
        have hneX : NoExp ((t.logSql "selKey").insRow dbk raw now c).rows :=
          noExp_insRow (t := t.logSql "selKey") hne dbk raw now c hce
        have hpX : ((t.logSql "selKey").insRow dbk raw now c).cfg.policy = .none := hp
        refine ⟨trivial, trivial, irf_cullW_snd _ now hpX hneX, ?_⟩
        rw [(cullW_core _ now).1, cullW_noexp _ now hpX hneX]
        rfl

/-- the state `add` hands to its transaction body inside a block: the value stored, its file
registered -/
def irf_staged (b : Cache) (p : Placement) : Cache :=
  reg (irf_stored b p) (irf_cols p b.nfile).file

theorem irf_staged_keep (b : Cache) (p : Placement) :
    (irf_staged b p).rows = b.rows ∧ (irf_staged b p).cfg = b.cfg ∧ (irf_staged b p).depth = b.depth := by
  cases p <;> exact ⟨rfl, rfl, rfl⟩

theorem irf_add_pos (b : Cache) (E : Externals) (now : Int) (k v : PyVal) (hd : 0 < b.depth)
    (hp : b.cfg.policy = .none) (hne : NoExp b.rows) :
    match place E b.cfg.disk b.cfg.minFileSize v false with
    | .error _ => b.add E now k v none false .null = (b, .exc "UnicodeEncodeError")
    | .ok p =>
      (b.add E now k v none false .null).2 =
        irf_addOut (keyOf E b.cfg k).1 (bindable (entryOf p none .null).val)
          (b.selKey (keyOf E b.cfg k).1 (keyOf E b.cfg k).2).isSome ∧
      if (bindable (keyOf E b.cfg k).1 && bindable (entryOf p none .null).val &&
          (b.selKey (keyOf E b.cfg k).1 (keyOf E b.cfg k).2).isNone) = true then
        core (b.add E now k v none false .null).1 =
          { core (irf_staged b p) with
            rows := b.rows ++ [newRow b (keyOf E b.cfg k).1 (keyOf E b.cfg k).2 now (irf_cols p b.nfile)] }
      else
        ∃ pe, core (b.add E now k v none false .null).1 = { core (irf_staged b p) with pending := pe } := by
  rw [rf_add_eq, irf_store_eq]
  cases hpl : place E b.cfg.disk b.cfg.minFileSize v false with
  | error e => rfl
  | ok p =>
    simp only
    have hds : 0 < (irf_stored b p).depth := by cases p <;> exact hd
    rw [transact_inblock _ hds, irf_cols_id]
    obtain ⟨hr, hc, -⟩ := irf_staged_keep b p
    have hB := irf_addBody_cases (irf_staged b p) (keyOf E b.cfg k).1 (keyOf E b.cfg k).2 now
      (irf_cols p b.nfile) (by rw [hc]; exact hp) (by rw [hr]; exact hne) (by cases p <;> rfl)
    rw [irf_cols_bindable, selKey_rows hr] at hB
    have hnr : newRow (irf_staged b p) (keyOf E b.cfg k).1 (keyOf E b.cfg k).2 now (irf_cols p b.nfile) =
        newRow b (keyOf E b.cfg k).1 (keyOf E b.cfg k).2 now (irf_cols p b.nfile) := by
      unfold newRow; rw [hr]
    rw [hr, hnr] at hB
    have hst : reg (irf_stored b p) (irf_cols p b.nfile).file = irf_staged b p := rfl
    rw [hst]
    generalize rf_addBody (keyOf E b.cfg k).1 (keyOf E b.cfg k).2 now (irf_cols p b.nfile) (irf_staged b p) = B at hB ⊢
    obtain ⟨hBo, hB⟩ := hB
    refine ⟨by rw [← hBo]; split <;> rfl, ?_⟩
    split
    · rename_i hcond
      rw [if_pos hcond] at hB
      obtain ⟨h1, h2, h3⟩ := hB
      rw [if_pos h1]
      simp only [h2, List.append_nil]
      exact h3
    · rename_i hcond
      rw [if_neg hcond] at hB
      by_cases hok : B.ok = true
      · rw [if_pos hok]
        refine ⟨B.s.pending ++ B.cleanup, ?_⟩
        simp only [core, Core.mk.injEq] at hB ⊢
        obtain ⟨h1, h2, h3, h4, h5, -, h7, h8, h9⟩ := hB
        exact ⟨h1, h2, h3, h4, h5, trivial, h7, h8, h9⟩
      · rw [if_neg hok]
        refine ⟨(irf_staged b p).pending, ?_⟩
        exact hB

/-! ### value files appended with fresh names do not disturb the rows that were there -/

theorem irf_fetchRow_snd (s : Cache) (E : Externals) (r : Row) (read : Bool) :
    (s.fetchRow E r read).2 =
      fetch E s.cfg.disk r.mode (r.file.bind s.fileGet) r.file.isSome r.val read := by
  unfold fetchRow
  cases r.file with
  | none => rfl
  | some f =>
    simp only [Option.bind_some, Option.isSome_some]
    cases r.mode == MODE_RAW <;> rfl

theorem irf_fetch_append (g b : Cache) (E : Externals) (r : Row) (hc : b.cfg = g.cfg)
    (ex : List (Nat × Content)) (hf : b.files = g.files ++ ex)
    (href : ∀ f, r.file = some f → ∃ ct, g.fileGet f = some ct) :
    (b.fetchRow E r false).2 = (g.fetchRow E r false).2 := by
  rw [irf_fetchRow_snd, irf_fetchRow_snd, hc]
  cases hfl : r.file with
  | none => rfl
  | some f =>
    obtain ⟨ct, hct⟩ := href f hfl
    have hfg : b.fileGet f = g.fileGet f := by
      unfold fileGet at hct ⊢
      rw [hf, List.find?_append]
      cases hfind : g.files.find? (fun x => x.1 == f) with
      | none => rw [hfind] at hct; cases hct
      | some q => rfl
    rw [Option.bind_some, Option.bind_some, hfg]
/-! ### the dictionary's `add` and `setdefault` -/

theorem irf_spec_add_fst (m : ODict) (E : Externals) (cfg : Cfg) (k v : PyVal) :
    (OSpec.add m E cfg k v).1 =
      if m.has (keyOf E cfg k) then m else (OSpec.setitem m E cfg k v).1 := by
  unfold OSpec.add OSpec.setitem
  cases place E cfg.disk cfg.minFileSize v false with
  | error e => simp only; split <;> rfl
  | ok p =>
    simp only
    cases bindable (keyOf E cfg k).1 <;> cases m.has (keyOf E cfg k) <;>
      cases bindable (entryOf p none .null).val <;> rfl

theorem irf_spec_add_snd (m : ODict) (E : Externals) (cfg : Cfg) (k v : PyVal) :
    (∃ e, (OSpec.add m E cfg k v).2 = .exc e) ∨ ∃ b, (OSpec.add m E cfg k v).2 = .bool b := by
  unfold OSpec.add
  cases place E cfg.disk cfg.minFileSize v false with
  | error e => exact .inl ⟨_, rfl⟩
  | ok p =>
    simp only
    cases bindable (keyOf E cfg k).1 <;> cases m.has (keyOf E cfg k) <;>
      cases bindable (entryOf p none .null).val <;>
      first | exact .inl ⟨_, rfl⟩ | exact .inr ⟨_, rfl⟩

/-- the dictionary's `add` of a value that can be placed: the result is `irf_addOut`, and the
binding is appended exactly when key and value cells can be bound and the key is unbound -/
theorem irf_spec_add_ok (m : ODict) (E : Externals) (cfg : Cfg) (k v : PyVal) (p : Placement)
    (hpl : place E cfg.disk cfg.minFileSize v false = .ok p) :
    OSpec.add m E cfg k v =
      (if (bindable (keyOf E cfg k).1 && bindable (entryOf p none .null).val && !m.has (keyOf E cfg k)) = true
        then m ++ [(keyOf E cfg k, entryOf p none .null)] else m,
       irf_addOut (keyOf E cfg k).1 (bindable (entryOf p none .null).val) (m.has (keyOf E cfg k))) := by
  unfold OSpec.add irf_addOut ODict.set
  rw [hpl]
  simp only
  cases m.has (keyOf E cfg k) <;> cases bindable (keyOf E cfg k).1 <;>
    cases bindable (entryOf p none .null).val <;> rfl

theorem irf_spec_setdefault_fst (m : ODict) (E : Externals) (cfg : Cfg) (k v : PyVal) :
    (OSpec.setdefault m E cfg k v).1 = m ∨
    (OSpec.setdefault m E cfg k v).1 = (OSpec.setitem m E cfg k v).1 := by
  unfold OSpec.setdefault
  rcases irf_look_shape m E cfg (keyOf E cfg k) with hl | ⟨w, hl⟩
  · rw [hl]
    simp only
    have hm := irf_spec_add_fst m E cfg k v
    rcases irf_spec_add_snd m E cfg k v with ⟨e, ha⟩ | ⟨b, ha⟩
    · rw [show OSpec.add m E cfg k v = ((OSpec.add m E cfg k v).1, .exc e) from Prod.ext rfl ha]
      exact .inl rfl
    · rw [show OSpec.add m E cfg k v = ((OSpec.add m E cfg k v).1, .bool b) from Prod.ext rfl ha]
      simp only
      rcases irf_look_shape (OSpec.add m E cfg k v).1 E cfg (keyOf E cfg k) with h2 | ⟨w, h2⟩
      · rw [h2]; exact .inl rfl
      · rw [h2]
        simp only
        rw [hm]
        split
        · exact .inl rfl
        · exact .inr rfl
  · rw [hl]; exact .inl rfl

/-! ### the block of `setdefault` -/

theorem irf_abs_has_selKey (c : Cache) (K : Key) : (irf_abs c).has K = (c.selKey K.1 K.2).isSome := by
  rw [irf_abs_has]
  cases hs : c.selKey K.1 K.2 with
  | none => rw [selKey_none_iff.1 hs]; rfl
  | some r =>
    cases hany : c.rows.any (keyMatch K.1 K.2) with
    | true => rfl
    | false => rw [selKey_none_iff.2 hany] at hs; cases hs

theorem irf_inBlock_staged (G b1 : Cache) (p : Placement) (hg : Good G)
    (hc1 : core b1 = { core G with depth := 1, snap := some G.takeSnap }) :
    irf_InBlock G (core (irf_staged b1 p)) ∧ (irf_staged b1 p).pending = [] ∧
    (irf_staged b1 p).rows = G.rows := by
  have hb := irf_inBlock_begin hg hc1
  have hp1 : b1.pending = [] := (congrArg Core.pending hc1).trans hg.pending
  have hr1 : b1.rows = G.rows := congrArg Core.rows hc1
  cases p with
  | inline mode sv => exact ⟨hb, hp1, hr1⟩
  | file mode ct =>
    have hn1 : b1.nfile = G.nfile := congrArg Core.nfile hc1
    refine ⟨⟨hb.depth, hb.snap, hb.cfg, hb.stat, Nat.le_succ_of_le hb.nfile, .inr ⟨ct, ?_, ?_⟩⟩, hp1, hr1⟩
    · show b1.files ++ [(b1.nfile, ct)] = _
      rw [show b1.files = G.files from congrArg Core.files hc1, hn1]
    · show b1.created ++ [b1.nfile] = _
      rw [show b1.created = [] from (congrArg Core.created hc1).trans hg.created, hn1]; rfl

theorem irf_inBlock_rows {G : Cache} {K : Core} (h : irf_InBlock G K) (R : List Row) :
    irf_InBlock G { K with rows := R } := ⟨h.depth, h.snap, h.cfg, h.stat, h.nfile, h.files⟩

theorem irf_inBlock_pending {G : Cache} {K : Core} (h : irf_InBlock G K) (pe : List (Option Nat)) :
    irf_InBlock G { K with pending := pe } := ⟨h.depth, h.snap, h.cfg, h.stat, h.nfile, h.files⟩

theorem irf_add_in_block (G b1 : Cache) (E : Externals) (now : Int) (k v : PyVal) (hI : irf_Inv G)
    (hc1 : core b1 = { core G with depth := 1, snap := some G.takeSnap }) :
    (b1.add E now k v none false .null).2 = (OSpec.add (irf_abs G) E G.cfg k v).2 ∧
    irf_InBlock G (core (b1.add E now k v none false .null).1) ∧
    (((b1.add E now k v none false .null).1.rows = G.rows ∧
      (OSpec.add (irf_abs G) E G.cfg k v).1 =
        irf_abs G) ∨
     (∃ p, place E G.cfg.disk G.cfg.minFileSize v false = .ok p ∧
      G.selKey (keyOf E G.cfg k).1 (keyOf E G.cfg k).2 = none ∧
      (OSpec.add (irf_abs G) E G.cfg k v).1 =
        irf_abs G ++ [(keyOf E G.cfg k, entryOf p none .null)] ∧
      core (b1.add E now k v none false .null).1 =
        { core (irf_staged b1 p) with
          rows := G.rows ++ [newRow G (keyOf E G.cfg k).1 (keyOf E G.cfg k).2 now (irf_cols p G.nfile)] })) := by
  have hg := hI.good
  have hr1 : b1.rows = G.rows := congrArg Core.rows hc1
  have hcf1 : b1.cfg = G.cfg := congrArg Core.cfg hc1
  have hadd := irf_add_pos b1 E now k v (by rw [show b1.depth = 1 from congrArg Core.depth hc1]; omega)
    (by rw [hcf1]; exact hI.pol) (by rw [hr1]; exact hI.noexp)
  rw [hcf1, selKey_rows hr1] at hadd
  cases hpl : place E G.cfg.disk G.cfg.minFileSize v false with
  | error e =>
    rw [hpl] at hadd
    have hspec : OSpec.add (irf_abs G) E G.cfg k v = (irf_abs G, .exc "UnicodeEncodeError") := by
      unfold OSpec.add
      rw [hpl]
    rw [hadd, hspec]
    exact ⟨rfl, irf_inBlock_begin hg hc1, .inl ⟨hr1, rfl⟩⟩
  | ok p =>
    rw [hpl] at hadd
    obtain ⟨hout, hadd⟩ := hadd
    obtain ⟨hbS, -, hrS⟩ := irf_inBlock_staged G b1 p hg hc1
    -- both sides decide by the same condition whether the binding is appended
    rw [irf_spec_add_ok _ E G.cfg k v p hpl, irf_abs_has_selKey, Option.not_isSome]
    refine ⟨hout, ?_⟩
    by_cases hcond : (bindable (keyOf E G.cfg k).1 && bindable (entryOf p none .null).val &&
        (G.selKey (keyOf E G.cfg k).1 (keyOf E G.cfg k).2).isNone) = true
    · rw [if_pos hcond] at hadd ⊢
      have hnr : newRow b1 (keyOf E G.cfg k).1 (keyOf E G.cfg k).2 now (irf_cols p G.nfile) =
          newRow G (keyOf E G.cfg k).1 (keyOf E G.cfg k).2 now (irf_cols p G.nfile) := by
        unfold newRow; rw [hr1]
      rw [hr1, show b1.nfile = G.nfile from congrArg Core.nfile hc1, hnr] at hadd
      simp only [Bool.and_eq_true, Option.isNone_iff_eq_none] at hcond
      exact ⟨by rw [hadd]; exact irf_inBlock_rows hbS _, .inr ⟨p, rfl, hcond.2, rfl, hadd⟩⟩
    · rw [if_neg hcond] at hadd ⊢
      obtain ⟨pe, hpe⟩ := hadd
      exact ⟨by rw [hpe]; exact irf_inBlock_pending hbS _, .inl ⟨(congrArg Core.rows hpe).trans hrS, rfl⟩⟩

/-- the quiescent state the committed block is compared with: the value stored, the row inserted -/
theorem irf_insert_state (G : Cache) (E : Externals) (now : Int) (dbk : SqlVal) (raw : Bool) (v : PyVal)
    (p : Placement) (hI : irf_Inv G) (hpl : place E G.cfg.disk G.cfg.minFileSize v false = .ok p)
    (habs : G.selKey dbk raw = none) (hnn : dbk ≠ .null) :
    irf_Inv ((irf_stored G p).insRow dbk raw now (irf_cols p G.nfile)) ∧
    irf_abs ((irf_stored G p).insRow dbk raw now (irf_cols p G.nfile)) =
      irf_abs G ++ [((dbk, raw), entryOf p none .null)] ∧
    ((irf_stored G p).insRow dbk raw now (irf_cols p G.nfile)).cfg = G.cfg := by
  have hst := rf_store G E v false hI.good.pi
  rw [hpl] at hst
  obtain ⟨s1, c, hst, hrows, hcfg, hP1, hfsub, hexp, htag, -, hent1⟩ := hst
  have he := irf_store_eq G E v
  rw [hpl, hst] at he
  simp only [Except.ok.injEq, Prod.mk.injEq] at he
  obtain ⟨rfl, rfl⟩ := he
  obtain ⟨-, hfile⟩ := store_PI hst hI.good.pi
  have hti : TableInv ((irf_stored G p).insRow dbk raw now (irf_cols p G.nfile)) :=
    insRow_inv _ _ _ _ (store_inv hst hI.good.tinv).1 ((selKey_rows hrows _ _).trans habs) hnn
  have hPI : PI (core ((irf_stored G p).insRow dbk raw now (irf_cols p G.nfile))) [] := by
    refine PI_insRow (cl := [(irf_cols p G.nfile).file]) hP1 _ _ _ _ ?_ ?_
    · intro g hg; exact ⟨List.mem_singleton.2 hg.symm, hfile g hg⟩
    · intro f; simp; grind
  refine ⟨⟨good_of_pi hti hPI, ?_, ?_⟩, ?_, hcfg⟩
  · show (irf_stored G p).cfg.policy = .none
    rw [hcfg]; exact hI.pol
  · exact noExp_insRow (t := irf_stored G p) (by rw [hrows]; exact hI.noexp) _ _ _ _ hexp
  · unfold irf_abs
    show List.map _ ((irf_stored G p).rows ++ [_]) = _
    rw [List.map_append, hrows]
    congr 1
    · apply List.map_congr_left
      intro r hr
      have := (rf_ent_mono hfsub hP1.nodup (rf_good_ref hI.good hr)).symm
      rw [← this]
      rfl
    · simp only [List.map_cons, List.map_nil]
      have := hent1 (newRow (irf_stored G p) dbk raw now (irf_cols p G.nfile))
        rfl rfl rfl
      have h2 : (newRow (irf_stored G p) dbk raw now (irf_cols p G.nfile)).expT = none := hexp
      have h3 : (newRow (irf_stored G p) dbk raw now (irf_cols p G.nfile)).tag = .null := htag
      rw [h2, h3] at this
      rw [← this]
      rfl

/-- leaving the block normally after the insertion: the state is (up to ghost fields) the quiescent
state "value stored, row inserted" -/
theorem irf_block_commit (G b1 b3 : Cache) (p : Placement) (dbk : SqlVal) (raw : Bool) (now : Int)
    (hg : Good G) (hc1 : core b1 = { core G with depth := 1, snap := some G.takeSnap })
    (hc3 : core b3 = { core (irf_staged b1 p) with
      rows := G.rows ++ [newRow G dbk raw now (irf_cols p G.nfile)] }) :
    core b3.tend = core ((irf_stored G p).insRow dbk raw now (irf_cols p G.nfile)) ∧
    b3.rows = ((irf_stored G p).insRow dbk raw now (irf_cols p G.nfile)).rows ∧
    b3.files = ((irf_stored G p).insRow dbk raw now (irf_cols p G.nfile)).files ∧
    b3.cfg = ((irf_stored G p).insRow dbk raw now (irf_cols p G.nfile)).cfg := by
  have hf1 : b1.files = G.files := congrArg Core.files hc1
  have hn1 : b1.nfile = G.nfile := congrArg Core.nfile hc1
  obtain ⟨hS, hpS, -⟩ := irf_inBlock_staged G b1 p hg hc1
  have e1 : b3.rows = G.rows ++ [newRow G dbk raw now (irf_cols p G.nfile)] := congrArg Core.rows hc3
  have e4 : b3.depth = 1 := (congrArg Core.depth hc3).trans hS.depth
  have e5 : b3.pending = [] := (congrArg Core.pending hc3).trans hpS
  have e6 : b3.cfg = G.cfg := (congrArg Core.cfg hc3).trans hS.cfg
  have e7 : b3.statistics = G.statistics := (congrArg Core.statistics hc3).trans hS.stat
  -- COMMIT with nothing pending keeps the files; the rest of `core` is that of `G` again
  have key : ∀ (F : List (Nat × Content)) (N : Nat), b3.files = F → b3.nfile = N →
      core b3.tend = { core G with
        rows := G.rows ++ [newRow G dbk raw now (irf_cols p G.nfile)], files := F, nfile := N } := by
    intro F N e2 e3
    have hnil : F.filter (fun q => !([] : List (Option Nat)).contains (some q.1)) = F := by
      rw [List.filter_eq_self]; intros; rfl
    rw [irf_tend_core b3 e4]
    simp only [core, Core.mk.injEq, e1, e2, e3, e5, e6, e7, hnil]
    exact ⟨trivial, trivial, trivial, hg.depth.symm, hg.snap.symm, hg.pending.symm, hg.created.symm, trivial, trivial⟩
  cases p with
  | inline mode sv =>
    have e2 : b3.files = G.files := (congrArg Core.files hc3).trans hf1
    exact ⟨key _ _ e2 ((congrArg Core.nfile hc3).trans hn1), e1, e2, e6⟩
  | file mode ct =>
    have e2 : b3.files = G.files ++ [(G.nfile, ct)] := by
      rw [show b3.files = b1.files ++ [(b1.nfile, ct)] from congrArg Core.files hc3, hf1, hn1]
    have e3 : b3.nfile = G.nfile + 1 := by
      rw [show b3.nfile = b1.nfile + 1 from congrArg Core.nfile hc3, hn1]
    exact ⟨key _ _ e2 e3, e1, e2, e6⟩

/-- the look-up of a quiescent state, as `irf_get_any` computes it -/
theorem irf_getOut_look (X : Cache) (E : Externals) (now : Int) (k : PyVal) (hI : irf_Inv X) :
    irf_getOut X E now k = OSpec.look (irf_abs X) E X.cfg (keyOf E X.cfg k) := by
  rw [← (irf_get_any X E now k hI.pol).2, (irf_get X E now k hI).1]

/-- a look-up in a state `b` that has the table of the quiescent state `X`, and its value files
among others: it changes nothing and finds what the dictionary of `X` holds -/
theorem irf_get_like (X b : Cache) (E : Externals) (now : Int) (k : PyVal) (hI : irf_Inv X)
    (hr : b.rows = X.rows) (hc : b.cfg = X.cfg) (ex : List (Nat × Content)) (hf : b.files = X.files ++ ex)
    (hti : TableInv b) :
    ∃ b', b.get E now k false false false = (b', OSpec.look (irf_abs X) E X.cfg (keyOf E X.cfg k)) ∧
      core b' = core b ∧ TableInv b' := by
  obtain ⟨hcore, ho⟩ := irf_get_any b E now k (by rw [hc]; exact hI.pol)
  refine ⟨_, Prod.ext rfl ?_, hcore, get_inv _ _ _ _ _ _ _ hti⟩
  rw [← irf_getOut_look X E now k hI]
  exact ho.trans (irf_getOut_congr E now k hr hc
    (fun r hr => irf_fetch_append X b E r hc ex hf (rf_good_ref hI.good hr)))

/-- a look-up inside the block opened on `G`, the table still that of `G` -/
theorem irf_get_in_block (G b : Cache) (E : Externals) (now : Int) (k : PyVal) (hI : irf_Inv G)
    (hb : irf_InBlock G (core b)) (hr : b.rows = G.rows) (hti : TableInv b) :
    ∃ b', b.get E now k false false false = (b', OSpec.look (irf_abs G) E G.cfg (keyOf E G.cfg k)) ∧
      irf_InBlock G (core b') ∧ TableInv b' := by
  have hf : ∃ ex, b.files = G.files ++ ex := by
    rcases hb.files with ⟨h1, -⟩ | ⟨ct, h1, -⟩
    · exact ⟨[], by rw [List.append_nil]; exact h1⟩
    · exact ⟨_, h1⟩
  obtain ⟨ex, hex⟩ := hf
  obtain ⟨b', hget, hc, hti'⟩ := irf_get_like G b E now k hI hr hb.cfg ex hex hti
  exact ⟨b', hget, by rw [hc]; exact hb, hti'⟩

/-- a miss, then the value stored: the second look-up finds what the dictionary with the new
binding holds, and COMMIT after it leaves the quiescent state of `irf_insert_state` -/
theorem irf_setdefault_stored (G b1 b2 : Cache) (E : Externals) (now : Int) (k v : PyVal) (p : Placement)
    (hI : irf_Inv G) (hc1 : core b1 = { core G with depth := 1, snap := some G.takeSnap })
    (hpl : place E G.cfg.disk G.cfg.minFileSize v false = .ok p)
    (habs : G.selKey (keyOf E G.cfg k).1 (keyOf E G.cfg k).2 = none)
    (hc2 : core b2 = { core (irf_staged b1 p) with
      rows := G.rows ++ [newRow G (keyOf E G.cfg k).1 (keyOf E G.cfg k).2 now (irf_cols p G.nfile)] })
    (hti2 : TableInv b2) :
    ∃ b3, b2.get E now k false false false = (b3,
        OSpec.look (irf_abs G ++ [(keyOf E G.cfg k, entryOf p none .null)]) E G.cfg (keyOf E G.cfg k)) ∧
      core b3 = core b2 ∧ TableInv b3 ∧
      irf_abs b3.tend = irf_abs G ++ [(keyOf E G.cfg k, entryOf p none .null)] ∧
      b3.tend.cfg = G.cfg ∧ irf_Inv b3.tend := by
  obtain ⟨hIX, hAX, hcfX⟩ := irf_insert_state G E now (keyOf E G.cfg k).1 (keyOf E G.cfg k).2 v p hI hpl habs
    (put_ne_null' E G.cfg.disk k)
  obtain ⟨-, hr2, hf2, hcf2⟩ := irf_block_commit G b1 b2 p _ _ now hI.good hc1 hc2
  obtain ⟨b3, hget, hc3, hti3⟩ := irf_get_like _ b2 E now k hIX hr2 hcf2 []
    (by rw [List.append_nil]; exact hf2) hti2
  rw [hAX, hcfX] at hget
  have hcommit := (irf_block_commit G b1 b3 p _ _ now hI.good hc1 (hc3.trans hc2)).1
  exact ⟨b3, hget, hc3, hti3, (irf_abs_core hcommit).trans hAX, (congrArg Core.cfg hcommit).trans hcfX,
    irf_inv_core hIX hcommit (tend_inv _ hti3)⟩

theorem irf_setdefault (x : Index) (E : Externals) (now : Int) (k v : PyVal) (h : irf_Inv x.cache) :
    (x.setdefault E now k v).2 = (OSpec.setdefault (irf_abs x.cache) E x.cache.cfg k v).2 ∧
    irf_abs (x.setdefault E now k v).1.cache = (OSpec.setdefault (irf_abs x.cache) E x.cache.cfg k v).1 ∧
    (x.setdefault E now k v).1.cache.cfg = x.cache.cfg ∧ irf_Inv (x.setdefault E now k v).1.cache := by
  obtain ⟨s⟩ := x
  unfold Index.setdefault OSpec.setdefault
  simp only
  -- the lock-free look-up leaves `G`; a hit ends the call
  obtain ⟨hO, hC, hI⟩ := irf_get s E now k h
  rw [show s.get E now k false false false = ((s.get E now k false false false).1,
    OSpec.look (irf_abs s) E s.cfg (keyOf E s.cfg k)) from Prod.ext rfl hO]
  generalize (s.get E now k false false false).1 = G at hC hI ⊢
  rw [← irf_abs_core hC, ← show G.cfg = s.cfg from congrArg Core.cfg hC]
  rcases irf_look_shape (irf_abs G) E G.cfg (keyOf E G.cfg k) with hl | ⟨w, hl⟩
  case inr =>
    rw [hl]
    exact ⟨rfl, rfl, rfl, hI⟩
  -- a miss: BEGIN, and the look-up inside the block misses as well
  have hc0 := irf_tbegin_core G hI.good
  obtain ⟨b1, hget1, hc1, hti1⟩ := irf_get_like G G.tbegin E now k hI (congrArg Core.rows hc0)
    (congrArg Core.cfg hc0) [] (by rw [List.append_nil]; exact congrArg Core.files hc0)
    (tbegin_inv _ hI.good.tinv)
  rw [hget1, hl]
  simp only
  rw [hc0] at hc1
  obtain ⟨ho2, hb2, hcase⟩ := irf_add_in_block G b1 E now k v hI hc1
  have hti2 : TableInv (b1.add E now k v none false .null).1 := add_inv _ _ _ _ _ _ _ _ hti1
  rw [show b1.add E now k v none false .null = ((b1.add E now k v none false .null).1,
    (OSpec.add (irf_abs G) E G.cfg k v).2) from Prod.ext rfl ho2,
    show OSpec.add (irf_abs G) E G.cfg k v =
      ((OSpec.add (irf_abs G) E G.cfg k v).1, (OSpec.add (irf_abs G) E G.cfg k v).2) from rfl]
  generalize (b1.add E now k v none false .null).1 = b2 at hb2 hcase hti2 ⊢
  rcases irf_spec_add_snd (irf_abs G) E G.cfg k v with ⟨e, ha⟩ | ⟨b, ha⟩
  · -- `add` raised: the exception leaves the block, which is rolled back
    rw [ha]
    exact ⟨rfl, irf_exit_traise G b2 hI hb2 hti2⟩
  rw [ha]
  simp only
  rcases hcase with ⟨hrows, hm'⟩ | ⟨p, hpl, habs, hm', hc2⟩
  · -- the table is unchanged: the second look-up misses again, the block is rolled back
    obtain ⟨b3, hget3, hb3, hti3⟩ := irf_get_in_block G b2 E now k hI hb2 hrows hti2
    rw [hget3, hm', hl]
    exact ⟨rfl, irf_exit_traise G b3 hI hb3 hti3⟩
  · -- a row was appended: COMMIT if the second look-up returns its value, else rolled back
    obtain ⟨b3, hget3, hc3, hti3, hcommit⟩ := irf_setdefault_stored G b1 b2 E now k v p hI hc1 hpl habs hc2 hti2
    rw [hget3, hm']
    rcases irf_look_shape (irf_abs G ++ [(keyOf E G.cfg k, entryOf p none .null)]) E G.cfg
      (keyOf E G.cfg k) with h2 | ⟨w, h2⟩
    · rw [h2]
      exact ⟨rfl, irf_exit_traise G b3 hI (by rw [hc3]; exact hb2) hti3⟩
    · rw [h2]
      exact ⟨rfl, hcommit⟩

end DC.Cache
