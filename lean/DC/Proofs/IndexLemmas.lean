/-
What the Cache calls behind an Index do to a table without expiry times
(`NoExp`): transactions at any nesting depth, `set`, `__delitem__`, the lock-free
look-up, `peekitem`, the block brackets.  Used by C12.lean and DC/Proofs/IRefine*.lean.
-/
import DC.Proofs.LayerLemmas
import DC.Proofs.Block
import DC.Properties.C10
import DC.Properties.C03_Inv
import DC.Properties.C04

namespace DC.Cache

/-! ### tables without expiry -/

def NoExp (rows : List Row) : Prop := ∀ r ∈ rows, r.expT = none

theorem live_of_noexp {r : Row} (h : r.expT = none) (now : Int) : live now r = true := by
  simp [live, h]

theorem expired_of_noexp {r : Row} (h : r.expT = none) (now : Int) : expired now r = false := by
  simp [expired, h]

theorem selLive_eq_selKey {s : Cache} (h : NoExp s.rows) (k : SqlVal) (raw : Bool) (now : Int) :
    s.selLive k raw now = s.selKey k raw := by
  unfold selLive selKey
  generalize s.rows = rows at h
  induction rows with
  | nil => rfl
  | cons a t ih =>
    have ha : live now a = true := live_of_noexp (h a (List.mem_cons_self ..)) now
    simp only [List.find?_cons, ha, Bool.and_true]
    split
    · rfl
    · exact ih (fun r hr => h r (List.mem_cons_of_mem _ hr))

theorem selKey_none_iff {s : Cache} {k : SqlVal} {raw : Bool} :
    s.selKey k raw = none ↔ s.rows.any (keyMatch k raw) = false := by
  unfold selKey
  rw [List.find?_eq_none, List.any_eq_false]

theorem selKey_some_of_any {s : Cache} {k : SqlVal} {raw : Bool}
    (h : s.rows.any (keyMatch k raw) = true) :
    ∃ r, s.selKey k raw = some r ∧ r ∈ s.rows ∧ keyMatch k raw r = true := by
  cases hs : s.selKey k raw with
  | none => rw [selKey_none_iff.1 hs] at h; cases h
  | some r => exact ⟨r, rfl, List.mem_of_find?_eq_some hs, List.find?_some hs⟩

theorem selKey_eq_of_mem {s : Cache} (hu : KeysUnique s.rows) {k : SqlVal} {raw : Bool} {r : Row}
    (hr : r ∈ s.rows) (hk : keyMatch k raw r = true) : s.selKey k raw = some r := by
  obtain ⟨r', h1, h2, h3⟩ := selKey_some_of_any (List.any_eq_true.2 ⟨r, hr, hk⟩)
  rw [h1, keysUnique_eq hu h2 hr h3 hk]

theorem cullW_noexp (t : Cache) (now : Int) (hp : t.cfg.policy = .none) (h : NoExp t.rows) :
    (t.cullW now).1.rows = t.rows :=
  cullW_quiet t now (Or.inr ⟨hp, fun r hr => expired_of_noexp (h r hr) now⟩)

theorem cullW_depth (t : Cache) (now : Int) : (t.cullW now).1.depth = t.depth :=
  congrArg Core.depth (cullW_core t now).1

/-! ### transactions at any depth -/

theorem transact_congr (s : Cache) {b b' : Cache → Body} (h : ∀ t, t.rows = s.rows → b t = b' t) :
    s.transact b = s.transact b' := by
  rcases Nat.eq_zero_or_pos s.depth with hd | hd
  · rw [transact_outer s hd, transact_outer s hd, h (s.log .begin) rfl]
  · rw [transact_inblock s hd, transact_inblock s hd, h (reg s none) rfl]

theorem irf_transact_same (s : Cache) (body : Cache → Body) (o : Out)
    (hb : ∀ t, core t = core s →
      (body t).ok = true ∧ (body t).cleanup = [] ∧ core (body t).s = core s ∧ (body t).out = o) :
    core (s.transact body).1 = core s ∧ (s.transact body).2 = o :=
  transact_commits (P := fun c o' => c = core s ∧ o' = o) hb

theorem irf_transact_log (s : Cache) (id : String) (o : Out) (ok : Bool) :
    core (s.transact (fun s => ({ s := s.logSql id, out := o, ok := ok } : Body))).1 = core s ∧
    (s.transact (fun s => ({ s := s.logSql id, out := o, ok := ok } : Body))).2 = o := by
  cases ok with
  | true => exact irf_transact_same s _ o (fun t ht => ⟨rfl, rfl, (core_logSql t id).trans ht, rfl⟩)
  | false =>
    -- a body that raises: inside a block nothing more happens, outside it is rolled back
    rcases Nat.eq_zero_or_pos s.depth with hd | hd
    · rw [transact_outer s hd, if_neg Bool.false_ne_true]
      exact ⟨(core_log ..).trans (core_restore ..), rfl⟩
    · rw [transact_inblock s hd, if_neg Bool.false_ne_true]
      exact ⟨rfl, rfl⟩

theorem transact_ok_fields (s : Cache) (body : Cache → Body) :
    ∃ t, core t = core s ∧ ((body t).ok = true →
      (s.transact body).2 = (body t).out ∧
      (s.transact body).1.rows = (body t).s.rows ∧ (s.transact body).1.cfg = (body t).s.cfg ∧
      (s.transact body).1.depth = (body t).s.depth ∧ (s.transact body).1.snap = (body t).s.snap) := by
  rcases Nat.eq_zero_or_pos s.depth with hd | hd
  · refine ⟨s.log .begin, rfl, fun hok => ?_⟩
    rw [transact_outer s hd, if_pos hok]
    exact ⟨rfl, fremoveAll_rows .., fremoveAll_cfg .., fremoveAll_depth .., fremoveAll_snap ..⟩
  · refine ⟨reg s none, rfl, fun hok => ?_⟩
    rw [transact_inblock s hd, if_pos hok]
    exact ⟨rfl, rfl, rfl, rfl, rfl⟩

/-! ### a transaction outside a block -/

theorem transact_zero_fields (s : Cache) (body : Cache → Body) (fresh : Option Nat) (hd : s.depth = 0) :
    (s.transact body fresh).1.depth = (body (s.log .begin)).s.depth ∧
    (s.transact body fresh).1.cfg = (body (s.log .begin)).s.cfg := by
  rw [transact_outer s hd]
  split <;> exact ⟨fremoveAll_depth .., fremoveAll_cfg ..⟩

theorem transact_zero_fail (s : Cache) (body : Cache → Body) (fresh : Option Nat) (hd : s.depth = 0)
    (hok : (body (s.log .begin)).ok = false) :
    (s.transact body fresh).1.rows = s.rows ∧
    (s.transact body fresh).2 = (body (s.log .begin)).out := by
  rw [transact_outer s hd, hok]
  exact ⟨fremoveAll_rows .., rfl⟩


/-! ### `set` on a table without expiry -/

theorem setRows_congr {s t : Cache} (h : t.rows = s.rows) (dbk : SqlVal) (raw : Bool) (now : Int)
    (c : Cols) : setRows dbk raw now c t = setRows dbk raw now c s := by
  unfold setRows selKey newRow
  rw [h]

theorem noExp_insRow {t : Cache} (h : NoExp t.rows) (k : SqlVal) (raw : Bool) (now : Int) (c : Cols)
    (hc : c.expT = none) : NoExp (t.insRow k raw now c).rows := by
  intro r hr
  have hr' : r ∈ t.rows ++ [newRow t k raw now c] := hr
  rcases List.mem_append.1 hr' with h1 | h1
  · exact h r h1
  · rw [List.mem_singleton] at h1; subst h1; exact hc

theorem noExp_updRow {t : Cache} (h : NoExp t.rows) (rowid : Nat) (now : Int) (c : Cols)
    (hc : c.expT = none) : NoExp (t.updRow rowid now c).rows := by
  intro r hr
  have hr' : r ∈ t.rows.map (updF rowid now c) := hr
  obtain ⟨x, hx, rfl⟩ := List.mem_map.1 hr'
  unfold updF
  split
  · exact hc
  · exact h x hx

theorem setBody_keeps (dbk : SqlVal) (raw : Bool) (now : Int) (c : Cols) (t : Cache)
    (hc : c.expT = none) (h : NoExp t.rows) :
    (setBody dbk raw now c t).s.depth = t.depth ∧ (setBody dbk raw now c t).s.cfg = t.cfg ∧
    NoExp (setBody dbk raw now c t).s.rows := by
  unfold setBody
  split
  · exact ⟨rfl, rfl, h⟩
  simp only
  split
  · exact ⟨rfl, rfl, h⟩
  cases t.selKey dbk raw with
  | none =>
    simp only
    rw [cullW_depth, cullW_cfg]
    exact ⟨rfl, rfl, fun r hr =>
      noExp_insRow (t := t.logSql "selKey") h dbk raw now c hc r ((cullW_core _ now).2 r hr)⟩
  | some r0 =>
    simp only
    rw [cullW_depth, cullW_cfg]
    exact ⟨rfl, rfl, fun r hr =>
      noExp_updRow (t := t.logSql "selKey") h r0.rowid now c hc r ((cullW_core _ now).2 r hr)⟩

theorem set_keeps (s : Cache) (E : Externals) (now : Int) (k v : PyVal) (tag : SqlVal)
    (hd : s.depth = 0) (h : NoExp s.rows) :
    (s.set E now k v none false tag).1.depth = 0 ∧
    (s.set E now k v none false tag).1.cfg = s.cfg ∧
    NoExp (s.set E now k v none false tag).1.rows := by
  rw [set_eq]
  cases hst : s.store E v false with
  | error e => exact ⟨hd, rfl, h⟩
  | ok p =>
    obtain ⟨s1, c⟩ := p
    obtain ⟨hr1, hc1, hd1⟩ := store_spec hst
    simp only
    have hd1' : s1.depth = 0 := hd1.trans hd
    obtain ⟨hF1, hF2⟩ := transact_zero_fields s1
      (setBody (DC.put E s.cfg.disk k).1 (DC.put E s.cfg.disk k).2 now
        { c with expT := Option.map (fun x => now + x) none, tag := tag }) c.file hd1'
    obtain ⟨hB1, hB2, -⟩ := setBody_keeps (DC.put E s.cfg.disk k).1 (DC.put E s.cfg.disk k).2 now
        { c with expT := Option.map (fun x => now + x) none, tag := tag } (s1.log .begin) rfl
        (by rw [show (s1.log .begin).rows = s.rows from hr1]; exact h)
    refine ⟨by rw [hF1, hB1]; exact hd1', by rw [hF2, hB2]; exact hc1, ?_⟩
    refine transact_rows_of _ _ NoExp ?_
    intro t ht _ _ _
    refine ⟨(setBody_keeps _ _ _ _ _ rfl (by rw [ht, hr1]; exact h)).2.2, fun _ => by rw [hr1]; exact h⟩

theorem set_rows_noexp (s : Cache) (E : Externals) (now : Int) (k v : PyVal) (tag : SqlVal)
    (hd : s.depth = 0) (hp : s.cfg.policy = .none) (h : NoExp s.rows)
    (s1 : Cache) (c : Cols) (hst : s.store E v false = .ok (s1, c))
    (hb : bindable (DC.put E s.cfg.disk k).1 = true)
    (hcb : Cols.bindable { c with expT := none, tag := tag } = true) :
    (s.set E now k v none false tag).1.rows =
      setRows (DC.put E s.cfg.disk k).1 (DC.put E s.cfg.disk k).2 now { c with expT := none, tag := tag } s := by
  rw [set_eq, hst]
  obtain ⟨hr1, hc1, hd1⟩ := store_spec hst
  simp only [Option.map_none]
  have hd1' : s1.depth = 0 := hd1.trans hd
  generalize (DC.put E s.cfg.disk k).1 = dbk at hb ⊢
  generalize (DC.put E s.cfg.disk k).2 = raw
  have hbody : (setBody dbk raw now { c with expT := none, tag := tag } (s1.log .begin)).ok = true ∧
      (setBody dbk raw now { c with expT := none, tag := tag } (s1.log .begin)).s.rows =
        setRows dbk raw now { c with expT := none, tag := tag } s := by
    rw [← setRows_congr (t := s1.log .begin) (s := s) hr1]
    unfold setBody setRows
    simp only [hb, hcb, Bool.not_true, Bool.false_eq_true, if_false, selKey_log]
    have hp1 : s1.cfg.policy = .none := by rw [hc1]; exact hp
    have hne1 : NoExp ((s1.log .begin).logSql "selKey").rows := by
      rw [show ((s1.log .begin).logSql "selKey").rows = s1.rows from rfl, hr1]; exact h
    cases hsel : s1.selKey dbk raw with
    | none =>
      simp only
      refine ⟨trivial, ?_⟩
      rw [cullW_noexp]
      · rfl
      · exact hp1
      · exact noExp_insRow hne1 _ _ _ _ rfl
    | some r0 =>
      simp only
      refine ⟨trivial, ?_⟩
      rw [cullW_noexp]
      · rfl
      · exact hp1
      · exact noExp_updRow hne1 _ _ _ rfl
  rw [transact_outer s1 hd1', if_pos hbody.1, fremoveAll_rows]
  exact hbody.2


/-! ### `__delitem__` -/

theorem transact_delRow (s : Cache) (sel : String) (rid : Nat) (o : Out) (cl : List (Option Nat)) :
    (s.transact fun t => { s := (t.logSql sel).delRow rid, out := o, cleanup := cl }).2 = o ∧
    (s.transact fun t => { s := (t.logSql sel).delRow rid, out := o, cleanup := cl }).1.rows =
      s.rows.filter (fun x => x.rowid != rid) ∧
    (s.transact fun t => { s := (t.logSql sel).delRow rid, out := o, cleanup := cl }).1.cfg = s.cfg ∧
    (s.transact fun t => { s := (t.logSql sel).delRow rid, out := o, cleanup := cl }).1.depth = s.depth ∧
    (s.transact fun t => { s := (t.logSql sel).delRow rid, out := o, cleanup := cl }).1.snap = s.snap := by
  obtain ⟨t, hct, h⟩ := transact_ok_fields s
    (fun t => { s := (t.logSql sel).delRow rid, out := o, cleanup := cl })
  obtain ⟨h1, h2, h3, h4, h5⟩ := h rfl
  have hc : core ((t.logSql sel).delRow rid) = _ := core_delRow ..
  refine ⟨h1, h2.trans ?_, h3.trans ?_, h4.trans ?_, h5.trans ?_⟩
  · rw [delRow_rows, logSql_rows, show t.rows = s.rows from congrArg Core.rows hct]
  · exact (congrArg Core.cfg hc).trans (congrArg Core.cfg hct)
  · exact (congrArg Core.depth hc).trans (congrArg Core.depth hct)
  · exact (congrArg Core.snap hc).trans (congrArg Core.snap hct)

theorem delitem_of_sel (s : Cache) (E : Externals) (now : Int) (k : PyVal) (hit : Option Row)
    (hsel : s.selLive (DC.put E s.cfg.disk k).1 (DC.put E s.cfg.disk k).2 now = hit) :
    s.delitem E now k = s.transact fun t =>
      match (generalizing := false) hit with
      | none => { s := t.logSql "selLive", out := .exc "KeyError", ok := false }
      | some r => { s := (t.logSql "selLive").delRow r.rowid, out := .bool true, cleanup := [r.file] } := by
  unfold delitem
  generalize DC.put E s.cfg.disk k = p at hsel
  rcases p with ⟨dbk, raw⟩
  simp only at hsel ⊢
  refine transact_congr s (fun t ht => ?_)
  have : t.selLive dbk raw now = hit := by unfold selLive at hsel ⊢; rw [ht]; exact hsel
  simp only [this]
  cases hit <;> rfl

theorem delitem_some (s : Cache) (E : Externals) (now : Int) (k : PyVal) (r : Row)
    (hsel : s.selLive (DC.put E s.cfg.disk k).1 (DC.put E s.cfg.disk k).2 now = some r) :
    (s.delitem E now k).2 = .bool true ∧
    (s.delitem E now k).1.rows = s.rows.filter (fun x => x.rowid != r.rowid) ∧
    (s.delitem E now k).1.cfg = s.cfg ∧ (s.delitem E now k).1.depth = s.depth ∧
    (s.delitem E now k).1.snap = s.snap := by
  rw [delitem_of_sel s E now k (some r) hsel]
  exact transact_delRow s "selLive" r.rowid (.bool true) [r.file]

theorem delitem_none (s : Cache) (E : Externals) (now : Int) (k : PyVal)
    (hsel : s.selLive (DC.put E s.cfg.disk k).1 (DC.put E s.cfg.disk k).2 now = none) :
    (s.delitem E now k).2 = .exc "KeyError" ∧
    (s.delitem E now k).1.rows = s.rows ∧
    (s.delitem E now k).1.cfg = s.cfg ∧ (s.delitem E now k).1.depth = s.depth := by
  rw [delitem_of_sel s E now k none hsel]
  obtain ⟨hc, ho⟩ := irf_transact_log s "selLive" (.exc "KeyError") false
  exact ⟨ho, congrArg Core.rows hc, congrArg Core.cfg hc, congrArg Core.depth hc⟩

theorem filter_rowid_eq_filter_key {rows : List Row} (hasc : RowidsAsc rows) (hu : KeysUnique rows)
    {k : SqlVal} {raw : Bool} {r : Row} (hr : r ∈ rows) (hk : keyMatch k raw r = true) :
    rows.filter (fun x => x.rowid != r.rowid) = rows.filter (fun x => !keyMatch k raw x) := by
  apply List.filter_congr
  intro x hx
  by_cases hxr : x.rowid = r.rowid
  · have := rowidsAsc_eq_of_rowid hasc hx hr hxr
    subst this
    simp [hk]
  · have hkx : keyMatch k raw x = false := by
      cases hkx : keyMatch k raw x
      · rfl
      · exact absurd (congrArg Row.rowid (keysUnique_eq hu hx hr hkx hk)) hxr
    simp [hxr, hkx]


/-! ### look-ups at any depth -/

/-- what a look-up returns, as a function of the table and the files -/
def irf_getOut (s : Cache) (E : Externals) (now : Int) (k : PyVal) : Out :=
  match s.selLive (DC.put E s.cfg.disk k).1 (DC.put E s.cfg.disk k).2 now with
  | none => .default
  | some r =>
    match (s.fetchRow E r false).2 with
    | .ioerror => .default
    | f => fetchedOut f

theorem irf_getOut_congr {a b : Cache} (E : Externals) (now : Int) (k : PyVal) (hr : a.rows = b.rows)
    (hc : a.cfg = b.cfg) (hf : ∀ r ∈ b.rows, (a.fetchRow E r false).2 = (b.fetchRow E r false).2) :
    irf_getOut a E now k = irf_getOut b E now k := by
  unfold irf_getOut
  rw [hc, selLive_rows hr]
  cases hs : b.selLive (DC.put E b.cfg.disk k).1 (DC.put E b.cfg.disk k).2 now with
  | none => rfl
  | some r => simp only; rw [hf r (selLive_mem hs)]

/-- counting a hit or a miss does not show in `core` -/
theorem irf_core_count {t u : Cache} {K : Core} (c : Bool) (ht : core t = K) (hu : core u = K) :
    core (if c = true then u else t) = K := by
  cases c
  · exact ht
  · exact hu

theorem irf_get_any (s : Cache) (E : Externals) (now : Int) (k : PyVal) (hp : s.cfg.policy = .none) :
    core (s.get E now k false false false).1 = core s ∧
    (s.get E now k false false false).2 = irf_getOut s E now k := by
  -- the one SELECT and the read of the row, from a state with the core of `s`
  have out : ∀ t : Cache, core t = core s →
      (getFast E (DC.put E s.cfg.disk k).1 (DC.put E s.cfg.disk k).2 now false false false t).2 =
        irf_getOut s E now k := by
    intro t ht
    unfold getFast irf_getOut
    rw [selLive_rows (congrArg Core.rows ht)]
    cases s.selLive (DC.put E s.cfg.disk k).1 (DC.put E s.cfg.disk k).2 now with
    | none => rfl
    | some r =>
      simp only
      rw [fetchRow_snd_congr (t.logSql "selLive") s E r false (congrArg Core.cfg ht) (congrArg Core.files ht)]
      cases (s.fetchRow E r false).2 <;> rfl
  rw [get_eq]
  split
  · obtain ⟨tr, e⟩ := getFast_fst E _ _ now false false false s
    exact ⟨by rw [e]; rfl, out s rfl⟩
  · refine irf_transact_same s _ _ fun t ht =>
      ⟨(getBody_ok ..).1, (getBody_ok ..).2, ?_, (getBody_out ..).trans (out t ht)⟩
    unfold getBody
    simp only
    split
    · exact irf_core_count _ ht ht
    · rename_i r _
      have hc := (core_fetchRow (t.logSql "selLive") E r false).trans ht
      split
      · exact irf_core_count _ hc hc
      · -- without an access policy the row is not updated
        have hcnt : ∀ u : Cache, core u = core s →
            core (if policyUpdates u.cfg.policy = true then u.updGet r.rowid now else u) = core s := by
          intro u hu
          rw [if_neg]
          · exact hu
          · rw [show u.cfg = s.cfg from congrArg Core.cfg hu, hp]; exact Bool.false_ne_true
        exact hcnt _ (irf_core_count _ hc hc)

/-! ### `peekitem` at any depth, on a table without expiry -/

def irf_edge (rows : List Row) (last : Bool) : Option Row := if last then rows.getLast? else rows.head?

theorem irf_edge_mem {rows : List Row} {last : Bool} {r : Row} (h : irf_edge rows last = some r) :
    r ∈ rows := by
  unfold irf_edge at h
  cases last
  · exact List.mem_of_mem_head? h
  · exact List.mem_of_getLast? h

def irf_peekOut (E : Externals) (last : Bool) (s : Cache) : Out :=
  match irf_edge s.rows last with
  | none => .exc "KeyError"
  | some r =>
    match (s.fetchRow E r false).2 with
    | .ioerror => .exc "KeyError"
    | f => .tup [keyOut E s.cfg.disk r.key r.raw, fetchedOut f]

theorem irf_peekOut_congr {a b : Cache} (E : Externals) (last : Bool) (hr : a.rows = b.rows)
    (hf : a.files = b.files) (hc : a.cfg = b.cfg) : irf_peekOut E last a = irf_peekOut E last b := by
  unfold irf_peekOut
  rw [hr, hc]
  cases irf_edge b.rows last with
  | none => rfl
  | some r => simp only; rw [fetchRow_snd_congr a b E r false hc hf]

theorem irf_peekitemLoop (E : Externals) (now : Int) (last : Bool) : ∀ (fuel : Nat) (s : Cache),
    NoExp s.rows →
    core (peekitemLoop E now last false false fuel s).1 = core s ∧
    (peekitemLoop E now last false false fuel s).2 =
      (match fuel with | 0 => .exc "KeyError" | _ + 1 => irf_peekOut E last s) := by
  intro fuel
  induction fuel with
  | zero => intro s _; exact ⟨rfl, rfl⟩
  | succ n ih =>
    intro s hne
    rw [peekitemLoop]
    simp only [lastRow?]
    cases he : irf_edge s.rows last with
    | none =>
      have he' : (if last = true then s.rows.getLast? else s.rows.head?) = none := he
      simp only [he']
      have := irf_transact_log s "selEdge" (.exc "KeyError") false
      refine ⟨this.1, ?_⟩
      rw [this.2]
      unfold irf_peekOut
      rw [he]
    | some r =>
      have he' : (if last = true then s.rows.getLast? else s.rows.head?) = some r := he
      have hx : expired now r = false := expired_of_noexp (hne r (irf_edge_mem he)) now
      simp only [he', hx, Bool.false_eq_true, if_false]
      obtain ⟨tc, -⟩ := irf_transact_log s "selEdge" .none true
      generalize (s.transact (fun s => ({ s := s.logSql "selEdge", out := .none } : Body))).1 = t at tc ⊢
      have hft : (t.fetchRow E r false).2 = (s.fetchRow E r false).2 :=
        fetchRow_snd_congr t s E r false (congrArg Core.cfg tc) (congrArg Core.files tc)
      have hc2 : core (t.fetchRow E r false).1 = core s := by rw [core_fetchRow]; exact tc
      have hs : irf_peekOut E last s =
          match (s.fetchRow E r false).2 with
          | .ioerror => .exc "KeyError"
          | f => .tup [keyOut E s.cfg.disk r.key r.raw, fetchedOut f] := by
        unfold irf_peekOut; rw [he]
      rw [hs, ← hft]
      have hcfg : (t.fetchRow E r false).1.cfg = s.cfg := congrArg Core.cfg hc2
      cases hfr : t.fetchRow E r false with
      | mk t2 f =>
        rw [hfr] at hc2 hcfg
        simp only at hc2 hcfg ⊢
        cases f with
        | ioerror =>
          simp only
          have ih' := ih t2 (by rw [show t2.rows = s.rows from congrArg Core.rows hc2]; exact hne)
          refine ⟨ih'.1.trans hc2, ?_⟩
          rw [ih'.2]
          cases n with
          | zero => rfl
          | succ n' =>
            simp only
            rw [irf_peekOut_congr E last (congrArg Core.rows hc2) (congrArg Core.files hc2) hcfg, hs,
              ← hft, hfr]
        | val v =>
          simp only [withFlags, Bool.false_and, Bool.false_eq_true, if_false]
          exact ⟨hc2, by rw [hcfg]⟩
        | handle b =>
          simp only [withFlags, Bool.false_and, Bool.false_eq_true, if_false]
          exact ⟨hc2, by rw [hcfg]⟩

theorem irf_peekitem (s : Cache) (E : Externals) (now : Int) (last : Bool) (hne : NoExp s.rows) :
    core (s.peekitem E now last false false).1 = core s ∧
    (s.peekitem E now last false false).2 = irf_peekOut E last s :=
  irf_peekitemLoop E now last (s.rows.length + 1) s hne

/-! ### the block brackets -/

theorem tbegin_zero (s : Cache) (hd : s.depth = 0) :
    s.tbegin.rows = s.rows ∧ s.tbegin.cfg = s.cfg ∧ s.tbegin.depth = 1 ∧
    s.tbegin.snap = some s.takeSnap ∧ s.tbegin.files = s.files := by
  unfold tbegin
  simp only [hd, beq_self_eq_true, if_true]
  exact ⟨rfl, rfl, trivial, trivial, rfl⟩

theorem traise_one_rows (s : Cache) (p : Snap) (hd : s.depth = 1) (hs : s.snap = some p) :
    (s.traise 1).rows = p.rows := by
  rw [traise_outer s 1 p (by omega) (by omega) hs]
  show (({ ((s.restore p).log .rollback) with depth := 0, snap := none } : Cache).fremoveAll _).rows = _
  rw [fremoveAll_rows]; rfl


/-! ### the key codec round trip (hypothesis `hcodec` of `Index.popitem_end`) -/

theorem put_get_put (E E' : Externals) (hd : E'.dumpsK = E.dumpsK) (hl : ∀ k, E'.loads (E.dumpsK k) = k)
    (k : PyVal) :
    DC.put E' .pickle (DC.get E' .pickle (DC.put E .pickle k).1 (DC.put E .pickle k).2) =
      DC.put E .pickle k := by
  cases k with
  | int i =>
    by_cases hi : inI64 i = true <;>
      simp [DC.put, DC.get, Disk.put, Disk.get, column, hd, hl, hi]
  | _ => simp [DC.put, DC.get, Disk.put, Disk.get, column, hd, hl]

/-! ### one-row tables (for the concrete examples) -/

theorem tableInv_single (c : Cache) (r : Row) (hrows : c.rows = [r]) (hid : 0 < r.rowid)
    (hkey : r.key ≠ .null) (hcount : c.count = 1) (hsize : c.size = r.size) (hsnap : c.snap = none) :
    TableInv c := by
  refine ⟨⟨?_, ?_, ?_, ?_, ?_, ?_⟩, fun p hp => by rw [hsnap] at hp; cases hp⟩
  · rw [hrows]; exact List.pairwise_singleton _ _
  · intro x hx; rw [hrows, List.mem_singleton] at hx; rw [hx]; exact hid
  · rw [hrows]; exact List.pairwise_singleton _ _
  · intro x hx; rw [hrows, List.mem_singleton] at hx; rw [hx]; exact hkey
  · rw [hrows, hcount]; rfl
  · rw [hrows, hsize]; simp [sumSizes]

end DC.Cache
