/-
C13_Lossy, generic part: one key-addressed call and one bulk removal of the sharded cache,
for a Cache call that may evict rows (`Cache.Lossy`).  The per-shard theorem
(`Cache.step_refines_lossy`) yields the evicted rows under an existential, so it is applied ONCE
per shard: to the shard's local dictionary (`frf_localDict`) for a key-addressed call, to the
dictionary the shard denotes (`frf_abs`) for a bulk removal; what the shard then contributes to the
fanout-level statement is the same in both cases (`flz_shard_lossy`).
-/
import DC.Proofs.FLossyDefs

namespace DC.Cache
open DC.Spec

theorem flz_view_row {c : Cache} {r : Row} (hr : r ∈ c.rows) (hnn : r.key ≠ .null) :
    rf_view c (rowKey r) ≠ none := by
  unfold rf_view rf_look
  intro h
  rw [Option.map_eq_none_iff, List.find?_eq_none] at h
  exact h r hr (rf_keyMatch_self hnn)

theorem flz_VRel_ne_none {v d : Option Entry} {now : Int} (h : rf_VRel v d now) (hv : v ≠ none) :
    d ≠ none := by
  intro hd
  subst hd
  exact hv h

theorem flz_dropKeys_ne_none {m : Dict} {ks : List Key} {k : Key} (h : (dropKeys m ks).get k ≠ none) :
    m.get k ≠ none ∧ ks.any (fun l => sameKey l k) = false := by
  rw [rf_get_dropKeys] at h
  cases ha : ks.any (fun l => sameKey l k) with
  | true => rw [ha] at h; exact absurd rfl h
  | false => rw [ha] at h; exact ⟨h, rfl⟩

/-- what one shard `c'` contributes after a call that evicted the rows `L` there, `m'` being the
global dictionary after the call and `Here` the keys routed to this shard: on those keys the
shard represents `m'` without the keys of `L`; the keys of `L` and of the rows of `c'` are routed
here; every row of `L` held an unexpired entry of `m'` -/
structure flz_Shard (V Here : Key → Prop) (c' : Cache) (m' : Dict) (now : Int) (L : List Row) : Prop where
  refines : ∀ k, V k → Here k → rf_VRel (rf_view c' k) ((dropKeys m' (L.map rowKey)).get k) now
  here : ∀ r ∈ L, ∀ k, V k → sameKey (rowKey r) k = true → Here k
  was : ∀ r ∈ L, V (rowKey r) → ∃ e, m'.get (rowKey r) = some e ∧ EntOf r e ∧ e.expired now = false
  placed : ∀ r ∈ c'.rows, ∀ k, V k → sameKey (rowKey r) k = true → Here k

theorem flz_shard_lossy {V Here : Key → Prop} {c' : Cache} {mc m' : Dict} {now : Int} {L : List Row}
    (hgood : Good c') (hL : Lossy c' mc now L)
    (hT : ∀ k, V k → Here k → ∀ v, rf_VRel v (mc.get k) now → rf_VRel v (m'.get k) now)
    (hheld : ∀ k, V k → mc.get k ≠ none → Here k) : flz_Shard V Here c' m' now L := by
  have hR := ((refines_iff _ _ _).1 hL.refines).2
  refine ⟨fun k hk hh => ?_, fun r hr k hk hsk => ?_, fun r hr hVr => ?_, fun r hr k hk hsk => ?_⟩
  · have h := hR k
    rw [rf_get_dropKeys] at h ⊢
    cases ha : (L.map rowKey).any (fun l => sameKey l k) with
    | true => rw [ha] at h; exact h
    | false =>
      rw [ha] at h
      simp only [Bool.false_eq_true, if_false] at h ⊢
      exact hT k hk hh _ h
  · obtain ⟨e, he, -, -⟩ := hL.was r hr
    refine hheld k hk ?_
    rw [← rf_get_sameKey hsk, he]
    exact fun h => nomatch h
  · obtain ⟨e, he, hent, hx⟩ := hL.was r hr
    have hh : Here (rowKey r) := hheld _ hVr (by rw [he]; exact fun h => nomatch h)
    exact ⟨e, rf_VRel_some (hT _ hVr hh (some e) (by rw [he]; exact rf_VRel_refl _ _)) rfl, hent, hx⟩
  · have hv : rf_view c' k ≠ none := by
      rw [← rf_view_sameKey hsk]
      exact flz_view_row hr (hgood.tinv.tbl.nonnull r hr)
    exact hheld k hk (flz_dropKeys_ne_none (flz_VRel_ne_none (hR k) hv)).1

/-- a shard the call does not run on evicts nothing -/
theorem flz_shard_untouched {V Here : Key → Prop} {c : Cache} {m' : Dict} {now : Int}
    (hR : ∀ k, V k → Here k → rf_VRel (rf_view c k) (m'.get k) now)
    (hP : ∀ r ∈ c.rows, ∀ k, V k → sameKey (rowKey r) k = true → Here k) : flz_Shard V Here c m' now [] := by
  refine ⟨fun k hk hh => ?_, (fun _ h => nomatch h), (fun _ h => nomatch h), hP⟩
  rw [rf_get_dropKeys]
  exact hR k hk hh

end DC.Cache

namespace DC.Fanout
open DC.Cache DC.Spec

theorem flz_fgood_of_all {f g : Fanout} (hg : FGoodAny f) (hlen : g.shards.length = f.shards.length)
    (hall : ∀ s' ∈ g.shards, Good s' ∧ s'.cfg = fcfg f) :
    FGoodAny g ∧ fcfg g = fcfg f ∧ g.shards.length = f.shards.length := by
  obtain ⟨hne, hcfg⟩ := frf_cfg_of_all hg.nonempty hlen hall
  refine ⟨⟨hne, fun s hs => (hall s hs).1, fun s hs => ?_, ?_⟩, hcfg, hlen⟩
  · rw [hcfg]; exact (hall s hs).2
  · rw [hcfg]; exact hg.page

/-! ### from the shards to the sharded cache -/

/-- what the shard a key is routed to holds under it against what the dictionary binds, at a later
time -/
theorem flz_old_view {V : Spec.Key → Prop} {f : Fanout} {m : Spec.Dict} {clock now : Int}
    (hr : FRefinesOn V f m clock) (hmono : clock ≤ now) {i : Nat} {s : Cache} (hs : f.shards[i]? = some s)
    {k : Spec.Key} (hk : V k) (hj : routeK f k = i) : rf_VRel (rf_view s k) (m.get k) now := by
  obtain ⟨s2, hs2, hs2k⟩ := hr.2 k hk
  rw [hj, hs] at hs2
  rw [← Option.some.inj hs2, frf_refinesAt_iff] at hs2k
  exact rf_VRel_mono hs2k hmono

/-- a key under which a shard holds something is the key of one of its rows, hence routed to
that shard -/
theorem flz_held_here {V : Spec.Key → Prop} {f : Fanout} (hpl : FPlacedOn V f) {i : Nat} {s : Cache}
    (hs : f.shards[i]? = some s) {k : Spec.Key} (hk : V k) (h : rf_view s k ≠ none) : routeK f k = i := by
  unfold rf_view rf_look at h
  cases hf : s.rows.find? (keyMatch k.1 k.2) with
  | none => rw [hf] at h; exact absurd rfl h
  | some r =>
    have hsk : keyMatch k.1 k.2 r = true := List.find?_some hf
    exact hpl i s hs r (List.mem_of_find?_eq_some hf) k hk hsk

/-- **the shards' shares put together.**  `g` is `f` after the call, `D i` the rows shard `i`
evicted, `ks` the keys evicted anywhere (`hks`).  Then `g` represents `m'` without `ks`, and its
rows are where their keys are routed. -/
theorem flz_assemble {V : Spec.Key → Prop} {f g : Fanout} {m m' : Spec.Dict} {clock now : Int}
    {D : Nat → List Row} {ks : List Spec.Key} (hr : FRefinesOn V f m clock)
    (hlen : g.shards.length = f.shards.length)
    (hS : ∀ i s', g.shards[i]? = some s' → flz_Shard V (fun k => routeK f k = i) s' m' now (D i))
    (hks : ∀ k, ks.any (fun l => sameKey l k) = true ↔
      ∃ i, i < f.shards.length ∧ ((D i).map rowKey).any (fun l => sameKey l k) = true) :
    (∀ k, V k → ∃ s', g.shards[routeK g k]? = some s' ∧ frf_RefinesAt s' (dropKeys m' ks) now k) ∧
    FPlacedOn V g := by
  refine ⟨fun k hk => ?_, fun i s' hs' r hr' k hk hsk => ?_⟩
  · obtain ⟨s, hs, -⟩ := hr.2 k hk
    have hj : routeK f k < g.shards.length := by
      rw [hlen]; exact (List.getElem?_eq_some_iff.1 hs).1
    -- a shard evicts rows with keys of its own only: what matters for `k` is the shard `k` is routed to
    have hloc : ks.any (fun l => sameKey l k) =
        ((D (routeK f k)).map rowKey).any (fun l => sameKey l k) := by
      rw [Bool.eq_iff_iff, hks k]
      constructor
      · rintro ⟨i, hi, ha⟩
        obtain ⟨d, hd, hdk⟩ := List.any_eq_true.1 ha
        obtain ⟨r, hrL, rfl⟩ := List.mem_map.1 hd
        rw [(hS i _ (List.getElem?_eq_getElem (by rw [hlen]; exact hi))).here r hrL k hk hdk]
        exact ha
      · exact fun ha => ⟨_, by rw [← hlen]; exact hj, ha⟩
    rw [frf_routeK_length hlen]
    refine ⟨_, List.getElem?_eq_getElem hj, ?_⟩
    rw [frf_refinesAt_iff, rf_get_dropKeys, hloc, ← rf_get_dropKeys]
    exact (hS _ _ (List.getElem?_eq_getElem hj)).refines k hk rfl
  · rw [frf_routeK_length hlen]
    exact (hS i s' hs').placed r hr' k hk hsk

/-! ### one key-addressed call that may evict -/

/-- **generic per-call theorem, every policy**: a key-addressed call of the fanout whose Cache
version refines the dictionary up to the rows `L` it evicted (`hop`, as `Cache.step_refines_lossy`)
and whose specification is local at the key refines the dictionary up to the same rows: the
shard of the key evicted `L` (`Ev`), the fanout represents the dictionary without the keys of `L`,
every row of `L` held an unexpired entry, and every row still sits in the shard of its key. -/
theorem keyed_frefines_lossy (V : Spec.Key → Prop) (f : Fanout) (m : Spec.Dict) (clock now : Int)
    (E : Externals) (k : PyVal) (op : Cache → Cache × Out) (sop : Spec.Dict → Spec.Dict × Out)
    (Ev : Cache → List Row → Prop)
    (hg : FGoodAny f) (hpl : FPlacedOn V f) (hr : FRefinesOn V f m clock) (hmono : clock ≤ now)
    (hV : V (keyOf E (fcfg f) k))
    (hroute : ∀ b, V b → sameKey (keyOf E (fcfg f) k) b = true →
      routeK f b = routeK f (keyOf E (fcfg f) k))
    (hop : ∀ (c : Cache) (m' : Spec.Dict), Good c → c.cfg = fcfg f → Refines c m' clock →
      (op c).2 = (sop m').2 ∧ Good (op c).1 ∧ ∃ L, Lossy (op c).1 (sop m').1 now L ∧ Ev c L)
    (hloc : frf_Local sop (keyOf E (fcfg f) k)) :
    (f.keyed E k op).2 = (sop m).2 ∧
    ∃ s L, f.shards[f.route E k]? = some s ∧
      (f.keyed E k op).1.shards[f.route E k]? = some (op (prep s f.env)).1 ∧ Ev (prep s f.env) L ∧
      FRefinesOn V (f.keyed E k op).1 (dropKeys (sop m).1 (L.map rowKey)) now ∧
      (∀ r ∈ L, V (rowKey r) →
        ∃ e, (sop m).1.get (rowKey r) = some e ∧ EntOf r e ∧ e.expired now = false) ∧
      FPlacedOn V (f.keyed E k op).1 := by
  have hrt := route_eq f E k hg.nonempty
  obtain ⟨s, hs, hsK⟩ := hr.2 _ hV
  rw [← hrt] at hs
  obtain ⟨ho, hsh⟩ := keyed_is_shard_op f E k op s hs
  have hmem := List.mem_of_getElem? hs
  have hgc : Good (prep s f.env) := frf_prep_good (hg.good s hmem) _
  rw [frf_refinesAt_iff] at hsK
  obtain ⟨h1o, hgood', L, hL, hE⟩ := hop _ _ hgc (hg.cfg s hmem)
    (frf_localDict_refines _ m (keyOf E (fcfg f) k) clock hgc.tinv.tbl.uniq hsK)
  have hm1K := frf_localDict_at_K (prep s f.env) m (keyOf E (fcfg f) k)
  -- a key of another shard is not the call's key
  have hne : ∀ k2, V k2 → routeK f k2 ≠ f.route E k → sameKey (keyOf E (fcfg f) k) k2 = false := by
    intro k2 hk2 hj
    cases h : sameKey (keyOf E (fcfg f) k) k2 with
    | false => rfl
    | true => exact absurd ((hroute k2 hk2 h).trans hrt.symm) hj
  -- the shard of the key
  have hS : flz_Shard V (fun k2 => routeK f k2 = f.route E k) (op (prep s f.env)).1 (sop m).1 now L := by
    refine flz_shard_lossy hgood' hL
      (fun k2 hk2 hj v h => frf_local_transfer hloc _ m k2 now v h (flz_old_view hr hmono hs hk2 hj))
      (fun k2 hk2 hd => ?_)
    -- a key the local dictionary binds after the call is the call's key, or the old shard held it
    rcases frf_local_step_get hloc _ m hm1K k2 with ⟨hsame, -⟩ | ⟨hn, e1, -⟩
    · exact (hroute k2 hk2 hsame).trans hrt.symm
    · rw [e1, frf_localDict_get, hn] at hd
      exact flz_held_here hpl hs hk2 hd
  -- every shard: the others are as they were, and the call's specification leaves their keys alone
  have hall : ∀ i s', (f.keyed E k op).1.shards[i]? = some s' →
      flz_Shard V (fun k2 => routeK f k2 = i) s' (sop m).1 now (if i = f.route E k then L else []) := by
    intro i s' hs'
    by_cases hi : i = f.route E k
    · subst hi
      rw [hsh] at hs'
      rw [if_pos rfl, ← Option.some.inj hs']
      exact hS
    · rw [keyed_only_route f E k op i hi] at hs'
      rw [if_neg hi]
      refine flz_shard_untouched (fun k2 hk2 hj => ?_) (hpl i s' hs')
      rw [frf_local_frame hloc m k2 (hne k2 hk2 (by rw [hj]; exact hi))]
      exact flz_old_view hr hmono hs' hk2 hj
  obtain ⟨hR, hP⟩ := flz_assemble (ks := L.map rowKey) hr (onShard_length f _ op) hall (fun k2 => by
    constructor
    · exact fun ha => ⟨f.route E k, (List.getElem?_eq_some_iff.1 hs).1, by rw [if_pos rfl]; exact ha⟩
    · rintro ⟨i, -, ha⟩
      by_cases hi : i = f.route E k
      · rw [if_pos hi] at ha
        exact ha
      · rw [if_neg hi] at ha
        exact absurd ha Bool.false_ne_true)
  refine ⟨?_, s, L, hs, hsh, hE, ⟨rf_wf_dropKeys (frf_local_wf hloc hr.1) _, hR⟩, hS.was, hP⟩
  rw [ho]
  show (op (prep s f.env)).2 = _
  rw [h1o]
  exact frf_local_out hloc _ _ hm1K

theorem flz_getD_lt {α} (LL : List (List α)) {i : Nat} (hi : i < LL.length) : LL.getD i [] = LL[i] := by
  rw [List.getD_eq_getElem?_getD, List.getElem?_eq_getElem hi, Option.getD_some]

theorem flz_getD_ge {α} (LL : List (List α)) {i : Nat} (hi : LL.length ≤ i) : LL.getD i [] = [] := by
  rw [List.getD_eq_getElem?_getD, List.getElem?_eq_none hi, Option.getD_none]

/-- a key is among the keys of the rows `F 0`, …, `F (n-1)` taken together iff it is among those
of one of them -/
theorem flz_any_fdrops (F : Nat → List Row) (n : Nat) (k : Spec.Key) :
    (fdrops ((List.range n).map F)).any (fun l => sameKey l k) = true ↔
      ∃ i, i < n ∧ ((F i).map rowKey).any (fun l => sameKey l k) = true := by
  unfold fdrops
  constructor
  · intro ha
    obtain ⟨d, hd, hdk⟩ := List.any_eq_true.1 ha
    obtain ⟨r, hr, rfl⟩ := List.mem_map.1 hd
    obtain ⟨L, hL, hrL⟩ := List.mem_flatten.1 hr
    obtain ⟨i, hi, rfl⟩ := List.mem_map.1 hL
    exact ⟨i, List.mem_range.1 hi, List.any_eq_true.2 ⟨_, List.mem_map.2 ⟨r, hrL, rfl⟩, hdk⟩⟩
  · rintro ⟨i, hi, ha⟩
    obtain ⟨d, hd, hdk⟩ := List.any_eq_true.1 ha
    obtain ⟨r, hrL, rfl⟩ := List.mem_map.1 hd
    exact List.any_eq_true.2 ⟨_, List.mem_map.2 ⟨r, List.mem_flatten.2
      ⟨F i, List.mem_map.2 ⟨i, List.mem_range.2 hi, rfl⟩, hrL⟩, rfl⟩, hdk⟩

/-- A call run on every shard, under every eviction policy.  `hop` is as in
`keyed_frefines_lossy`, `hpw` says that the specification acts on every binding separately.  `LL`
lists the evicted rows shard by shard: shard `i` evicted `LL[i]` (`Ev`, with the observations `env`
that shard made), and the fanout represents the dictionary without the keys of all of them. -/
theorem each_frefines_lossy (V : Spec.Key → Prop) (f : Fanout) (m : Spec.Dict) (clock now : Int)
    (op : Cache → Cache × Out) (sop : Spec.Dict → Spec.Dict × Out) (Ev : Cache → List Row → Prop)
    (hg : FGoodAny f) (hpl : FPlacedOn V f) (hr : FRefinesOn V f m clock) (hmono : clock ≤ now)
    (hop : ∀ (c : Cache) (m' : Spec.Dict), Good c → c.cfg = fcfg f → Refines c m' clock →
      Good (op c).1 ∧ ∃ L, Lossy (op c).1 (sop m').1 now L ∧ Ev c L)
    (hpw : flz_Pointwise sop now) :
    ∃ LL : List (List Row), LL.length = f.shards.length ∧
      (∀ i s, f.shards[i]? = some s → ∃ env,
        (f.each op).1.shards[i]? = some (op (prep s env)).1 ∧ Ev (prep s env) (LL.getD i [])) ∧
      FRefinesOn V (f.each op).1 (dropKeys (sop m).1 (fdrops LL)) now ∧
      (∀ L ∈ LL, ∀ r ∈ L, V (rowKey r) →
        ∃ e, (sop m).1.get (rowKey r) = some e ∧ EntOf r e ∧ e.expired now = false) ∧
      FPlacedOn V (f.each op).1 := by
  obtain ⟨P, hP, hPn, hPm⟩ := hpw
  obtain ⟨-, hlen, hpt⟩ := each_pointwise f op
  -- what shard `i` contributes
  have hQ : ∀ i : Nat, ∃ L : List Row,
      (∀ s, f.shards[i]? = some s → ∃ env,
        (f.each op).1.shards[i]? = some (op (prep s env)).1 ∧ Ev (prep s env) L) ∧
      ∀ s', (f.each op).1.shards[i]? = some s' →
        flz_Shard V (fun k => routeK f k = i) s' (sop m).1 now L := by
    intro i
    by_cases hi : i < f.shards.length
    · obtain ⟨env, -, hsh⟩ := hpt i hi
      have hs := List.getElem?_eq_getElem hi
      have hmem := List.getElem_mem hi
      have hgc : Good (prep f.shards[i] env) := frf_prep_good (hg.good _ hmem) env
      have hr0 := frf_abs_refines (prep f.shards[i] env) hgc.tinv.tbl.uniq clock
      obtain ⟨hgood', L, hL, hE⟩ := hop _ _ hgc (hg.cfg f.shards[i] hmem) hr0
      have hget : ∀ k2, (sop (frf_abs (prep f.shards[i] env))).1.get k2 = P (rf_view f.shards[i] k2) := by
        intro k2
        rw [(hP _ ((refines_iff _ _ _).1 hr0).1).2 k2, frf_abs_get]
        rfl
      refine ⟨L, fun s hs1 => ?_, fun s' hs' => ?_⟩
      · rw [hs] at hs1
        rw [← Option.some.inj hs1]
        exact ⟨env, hsh, hE⟩
      rw [hsh] at hs'
      rw [← Option.some.inj hs']
      refine flz_shard_lossy hgood' hL (fun k2 hk2 hj v h => ?_) (fun k2 hk2 hd => ?_)
      · -- `P` respects the relation between what the old shard holds and what `m` binds
        rw [hget] at h
        rw [(hP m hr.1).2]
        exact rf_VRel_trans h (hPm _ _ (flz_old_view hr hmono hs hk2 hj))
      · -- a key whose binding on the shard survives `P` is held by the shard
        rw [hget] at hd
        exact flz_held_here hpl hs hk2 (fun h => hd (by rw [h, hPn]))
    · refine ⟨[], fun s hs => ?_, fun s' hs' => ?_⟩
      · rw [List.getElem?_eq_none (by omega)] at hs
        cases hs
      · rw [List.getElem?_eq_none (by omega)] at hs'
        cases hs'
  obtain ⟨F, hF⟩ := Classical.axiomOfChoice hQ
  have hgetD : ∀ i, i < f.shards.length → ((List.range f.shards.length).map F).getD i [] = F i := by
    intro i hi
    rw [flz_getD_lt _ (by simpa using hi)]
    simp
  obtain ⟨hR, hPl⟩ := flz_assemble (ks := fdrops ((List.range f.shards.length).map F)) hr hlen
    (fun i => (hF i).2)
    (flz_any_fdrops F _)
  refine ⟨(List.range f.shards.length).map F, by simp, ?_, ⟨rf_wf_dropKeys (hP m hr.1).1 _, hR⟩, ?_, hPl⟩
  · intro i s hs
    rw [hgetD i (List.getElem?_eq_some_iff.1 hs).1]
    exact (hF i).1 s hs
  · intro L hL r hrL hVr
    obtain ⟨i, hi, rfl⟩ := List.mem_map.1 hL
    exact ((hF i).2 _ (List.getElem?_eq_getElem (by rw [hlen]; exact List.mem_range.1 hi))).was r hrL hVr

end DC.Fanout
